/-! GENERATED by harness/props/c13.py `translate` from enspara/geometry/libdist.pyx and
enspara/cluster/util.py (`_get_distance_method`) -- do not edit; regenerated on every run.
A NORMALISED structure of the source (see `normalise_kernel` / `trace_wrapper` in c13.py): names,
comments, docstrings, messages, declaration order and helper names do not appear in it.
Consumed by `Model/Dist.lean` and re-checked by `C13.generated_types_modelled` and
`C13.generated_kernels_as_modelled` (kernel evaluation over these lists). -/
namespace Ens.Dist.Gen

def sourceSha256 : String := "854c023b64e8e80b1631342b75bd486b7e40a6821b43d4450c67300525b83f7f"

/-- `ctypedef fused` blocks: name, member element types (numpy `<name>_t`) -/
def fused : List (String × List String) :=
  [("FLOAT_TYPE_T", ["int8", "int16", "int32", "int64", "float32", "float64"]), ("INTEGRAL_TYPE_T", ["uint8", "uint16", "uint32", "uint64", "int8", "int16", "int32", "int64"])]

/-- typed-buffer arguments of the compiled kernels by position: kernel, [(role, element type[;options], ndim)] -/
def kernelSigs : List (String × List (String × String × Nat)) :=
  [("_euclidean", [("X", "FLOAT_TYPE_T", 2), ("y", "FLOAT_TYPE_T", 1), ("out", "float64", 1)]), ("_hamming", [("X", "INTEGRAL_TYPE_T", 2), ("y", "INTEGRAL_TYPE_T", 1), ("out", "float64", 1)]), ("_manhattan", [("X", "FLOAT_TYPE_T", 2), ("y", "FLOAT_TYPE_T", 1), ("out", "float64", 1)])]

/-- normalised kernels: decorators, arguments, guards, loops and writes in order, return value -/
def kernels : List (String × List String) :=
  [("_euclidean", ["dec:boundscheck(False)", "dec:wraparound(False)", "arg:X:FLOAT_TYPE_T:2", "arg:Y:FLOAT_TYPE_T:1", "arg:OUT:float64:1", "guard@pre:len(OUT)==X.shape[0]", "guard@pre:len(Y)==X.shape[1]", "loop:0|prange|len(OUT)", "write:1||OUT[L0]=0", "loop:0|prange|len(OUT)", "loop:1|range|len(Y)", "write:2||OUT[L0]+=(X[L0,L1]-Y[L1])**2", "loop:0|prange|len(OUT)", "write:1||OUT[L0]=sqrt(OUT[L0])", "ret:OUT.reshape(-1,1)"]), ("_hamming", ["dec:boundscheck(False)", "dec:wraparound(False)", "arg:X:INTEGRAL_TYPE_T:2", "arg:Y:INTEGRAL_TYPE_T:1", "arg:OUT:float64:1", "guard@pre:len(OUT)==X.shape[0]", "guard@pre:len(Y)==X.shape[1]", "loop:0|prange|len(OUT)", "write:1||OUT[L0]=0", "loop:1|range|len(Y)", "write:2|Y[L1]!=X[L0,L1]|OUT[L0]+=1", "write:1||OUT[L0]/=len(Y)", "ret:OUT"]), ("_manhattan", ["dec:boundscheck(False)", "dec:wraparound(False)", "arg:X:FLOAT_TYPE_T:2", "arg:Y:FLOAT_TYPE_T:1", "arg:OUT:float64:1", "guard@pre:len(OUT)==X.shape[0]", "guard@pre:len(Y)==X.shape[1]", "loop:0|prange|len(OUT)", "write:1||OUT[L0]=0", "loop:0|prange|len(OUT)", "loop:1|range|len(Y)", "write:2||OUT[L0]+=fabs(X[L0,L1]-Y[L1])", "ret:OUT.reshape(-1,1)"])]

/-- what each public wrapper does, helper calls resolved: validation predicates, re-bindings, kernel call, return -/
def wrapperTraces : List (String × List (String × String)) :=
  [("euclidean", [("raise", "DataInvalid||len(X.shape) != 2"), ("raise", "DataInvalid||len(Y.shape) != 1"), ("raise", "DataInvalid||X.shape[1] != Y.shape[0]"), ("raise", "DataInvalid|not (OUT is None)|OUT.dtype != np.float64"), ("raise", "DataInvalid|not (OUT is None)|OUT.shape[0] != X.shape[0]"), ("raise", "DataInvalid%raw:OUT.shape|not (OUT is None)|len(OUT.shape) != 1"), ("call", "_euclidean(X, Y, np.zeros(X.shape[0], dtype=np.float64) if OUT is None else OUT)"), ("return", "np.zeros(X.shape[0], dtype=np.float64) if OUT is None else OUT")]), ("hamming", [("raise", "DataInvalid||len(X.shape) != 2"), ("raise", "DataInvalid||len(Y.shape) != 1"), ("raise", "DataInvalid||X.shape[1] != Y.shape[0]"), ("raise", "DataInvalid|not (OUT is None)|OUT.dtype != np.float64"), ("raise", "DataInvalid|not (OUT is None)|OUT.shape[0] != X.shape[0]"), ("raise", "DataInvalid%raw:OUT.shape|not (OUT is None)|len(OUT.shape) != 1"), ("call", "_hamming(X, Y, np.zeros(X.shape[0], dtype=np.float64) if OUT is None else OUT)"), ("return", "np.zeros(X.shape[0], dtype=np.float64) if OUT is None else OUT")]), ("manhattan", [("raise", "DataInvalid||len(X.shape) != 2"), ("raise", "DataInvalid||len(Y.shape) != 1"), ("raise", "DataInvalid||X.shape[1] != Y.shape[0]"), ("raise", "DataInvalid|not (OUT is None)|OUT.dtype != np.float64"), ("raise", "DataInvalid|not (OUT is None)|OUT.shape[0] != X.shape[0]"), ("raise", "DataInvalid%raw:OUT.shape|not (OUT is None)|len(OUT.shape) != 1"), ("call", "_manhattan(X, Y, np.zeros(X.shape[0], dtype=np.float64) if OUT is None else OUT)"), ("return", "np.zeros(X.shape[0], dtype=np.float64) if OUT is None else OUT")])]

/-- C functions declared in `cdef extern` blocks (qualifiers dropped) -/
def externs : List String := ["\"math.h\": double fabs(double)", "\"math.h\": double sqrt(double)", "\"math.h\": float fabs(float)"]

/-- `cluster.util._get_distance_method`: metric name, returned function -/
def metricMap : List (String × String) :=
  [("cityblock", "manhattan"), ("euclidean", "euclidean"), ("manhattan", "manhattan")]

/-- problems met while reading the source (must be empty) -/
def notes : List String := []

end Ens.Dist.Gen
