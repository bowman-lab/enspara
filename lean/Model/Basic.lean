/-
Shared, Mathlib-free definitions used by every model.
Arrays are index functions `Nat → α` with an explicit size where proofs reason
pointwise, and `List`s where the code's own list/slice structure matters.
-/
namespace Ens

/-- Σ_{k<n} f k by structural recursion (bridged to `Finset.range` in `Proofs/BasicSum`). -/
def sumTo {α} [Add α] [OfNat α 0] (n : Nat) (f : Nat → α) : α :=
  match n with
  | 0 => 0
  | k+1 => sumTo k f + f k

/-- materialise an index function -/
def tabulate {α} (n : Nat) (f : Nat → α) : List α := (List.range n).map f

/-- first index attaining the maximum of `f` over `0 … n-1` (numpy `argmax`); 0 when `n = 0`. -/
def argmaxTo {α} [LT α] [DecidableRel (α := α) (· < ·)] (n : Nat) (f : Nat → α) : Nat :=
  match n with
  | 0 => 0
  | k+1 => if k = 0 then 0 else
      let b := argmaxTo k f
      if f b < f k then k else b

/-- first index attaining the minimum of `f` over `0 … n-1` (numpy `argmin`). -/
def argminTo {α} [LT α] [DecidableRel (α := α) (· < ·)] (n : Nat) (f : Nat → α) : Nat :=
  match n with
  | 0 => 0
  | k+1 => if k = 0 then 0 else
      let b := argminTo k f
      if f k < f b then k else b

end Ens
