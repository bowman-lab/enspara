import Proofs.C13Spec
import Proofs.C13Real
import Proofs.C13Compose
/-!
C13 — distance kernels are exact for every dtype, memory layout and thread count.

Model: `Model/Dist.lean` (mirror of `enspara/geometry/libdist.pyx`), `Model/Sched.lean`
(interleavings), `Model/Generated/FusedTypes.lean` (written by the translator from the source).
`Cell.sqrt q` denotes the (correctly rounded) square root of the exact rational `q`: the
Euclidean theorems say *which* number is under the root.  Float rounding is not modelled
(floats are exact rationals), C integer overflow is (two's-complement wrap-around).

What the model does NOT cover (also listed in harness/props/c13.py ASSUMPTIONS):
* `out` aliasing `X` or `y` is excluded STRUCTURALLY: in the model `X`, `y` and `out` are separate
  buffers, so the theorems say nothing about overlapping arguments.  The real code accepts such
  calls and returns non-norms (`out[i] = 0` destroys the input it is about to read); the harness
  checks only shape, no crash and no write outside `out` there.
* a writable `out` whose rows share a cell (stride 0 with more than one row, `as_strided`) is
  `.badRequest` in the model (`kernelRun`), and every memory-level theorem carries
  `stride ≠ 0 ∨ n ≤ 1`; the real code accepts it and the rows race on the single cell.
* float32 AND float64 arithmetic is treated as exact rational arithmetic: the float32 kernels
  really round the difference and the square to single precision (`powf`), float64 ones to double;
  sums are rounded too; squares that under/overflow are not modelled.  The harness compares
  bit-for-bit only where the exact evaluation involves no rounding, else within a relative tolerance.
* signed C overflow is undefined behaviour; the model fixes two's-complement wrap-around.
-/
namespace C13
open Ens Ens.Dist Ens.Sched

/-! ## the generated lists (re-checked on every run: the translator rewrites the file) -/

/-- every member of the `ctypedef fused` blocks is an element type the model knows, and the
kernels are compiled for exactly the types the model dispatches on -/
theorem generated_types_modelled :
    (∀ f ∈ Gen.fused, ∀ t ∈ f.2, (DType.ofName t).isSome = true) ∧
    Kernel.dtypes .euclidean = [.i8, .i16, .i32, .i64, .f32, .f64] ∧
    Kernel.dtypes .manhattan = [.i8, .i16, .i32, .i64, .f32, .f64] ∧
    Kernel.dtypes .hamming = [.u8, .u16, .u32, .u64, .i8, .i16, .i32, .i64] := by
  decide +kernel

/-- the NORMALISED structure of the source is the one the model mirrors: typed-buffer signatures by
position, the three kernels (native form, or the repaired subtraction), the C functions used, what
each public wrapper does (exactly the modelled validation predicates in the modelled order, through
any chain of helpers; no further predicate, no effect statement; then the kernel call and the
returned expression) and the metric-name map.  Renames, comments, docstrings, message texts,
declaration order, `while` counting loops, `with nogil:` grouping and helper names do not enter;
a change of the loop structure, of an index expression, of the arithmetic type of a temporary, of a
buffer option or of the validation does, and makes this fail (flagging the model). -/
theorem generated_kernels_as_modelled :
    Gen.notes = [] ∧
    Gen.kernelSigs =
      [("_euclidean", [("X", "FLOAT_TYPE_T", 2), ("y", "FLOAT_TYPE_T", 1), ("out", "float64", 1)]),
       ("_hamming", [("X", "INTEGRAL_TYPE_T", 2), ("y", "INTEGRAL_TYPE_T", 1), ("out", "float64", 1)]),
       ("_manhattan", [("X", "FLOAT_TYPE_T", 2), ("y", "FLOAT_TYPE_T", 1), ("out", "float64", 1)])] ∧
    (Gen.kernels = nativeKernels ∨ Gen.kernels = repairedKernels) ∧
    Gen.externs = ["\"math.h\": double fabs(double)", "\"math.h\": double sqrt(double)",
                   "\"math.h\": float fabs(float)"] ∧
    traceOk "euclidean" "_euclidean" = true ∧ traceOk "hamming" "_hamming" = true ∧
    traceOk "manhattan" "_manhattan" = true ∧
    Gen.metricMap = [("cityblock", "manhattan"), ("euclidean", "euclidean"), ("manhattan", "manhattan")] :=
  -- `rfl` compares equal literals as literals; `decide` would run `String.decEq` over every character
  ⟨rfl, rfl, by solve_by_elim [Or.inl, Or.inr], rfl,
    traceOk_iff.mpr rfl, traceOk_iff.mpr rfl, traceOk_iff.mpr rfl, rfl⟩

/-- float32 / float64 rows (exact rationals): Euclidean = √Σ(x_j−y_j)², Manhattan = Σ|x_j−y_j|,
whatever the cell held before.  FULL. -/
theorem kernel_row_spec_float (xs ys : List Rat) (w : Nat) (init : Cell) :
    rowResult .euclidean w (rowTerms (termRat .euclidean) xs ys) init = .sqrt (sqDist xs ys) ∧
    rowResult .manhattan w (rowTerms (termRat .manhattan) xs ys) init = .val (l1Dist xs ys) :=
  ⟨rowResult_sqDist _ _ _ _ _ (sum_euclid_rat xs ys), rowResult_l1Dist _ _ _ _ _ (sum_manhattan_rat xs ys)⟩

example : rowResult .euclidean 2 (rowTerms (termRat .euclidean) [3, 1/2] [0, 9/2]) .nan = .sqrt 25 := by
  decide +kernel

/-- what the symbols mean: the rational under `Cell.sqrt` in the row theorems is the squared
Euclidean distance, so the cell denotes `dist x y = ‖x − y‖₂` in `EuclideanSpace ℝ (Fin w)`;
`Cell.val (l1Dist …)` denotes `Σ |x_i − y_i| = ‖x − y‖₁`.  FULL. -/
theorem norms_denoted {w : Nat} (x y : Fin w → ℚ) :
    Cell.toReal (.sqrt (sqDist (List.ofFn x) (List.ofFn y)))
      = some (dist ((WithLp.toLp 2 (fun i => (x i : ℝ))) : EuclideanSpace ℝ (Fin w))
                   (WithLp.toLp 2 (fun i => (y i : ℝ)))) ∧
    Cell.toReal (.val (l1Dist (List.ofFn x) (List.ofFn y)))
      = some (∑ i : Fin w, |(x i : ℝ) - (y i : ℝ)|) :=
  ⟨sqrt_sqDist_eq_dist x y, val_l1Dist_eq x y⟩

/-- int8 / int16 (and uint8 / uint16) rows, UNCONDITIONALLY: differences and squares of
8/16-bit values fit the promoted `int` / `long`, so the kernels are exact on every input.  FULL. -/
theorem kernel_row_spec_int8_int16 (t : DType) (ht : t.isSmallInt = true) (xs ys : List Int)
    (hx : ∀ x ∈ xs, t.inRange x) (hy : ∀ y ∈ ys, t.inRange y) (w : Nat) (init : Cell) :
    t.promote = some .s32 ∧
    rowResult .euclidean w (rowTerms (termInt .native .euclidean .s32) xs ys) init
      = .sqrt (sqDist (toRat xs) (toRat ys)) ∧
    rowResult .manhattan w (rowTerms (termInt .native .manhattan .s32) xs ys) init
      = .val (l1Dist (toRat xs) (toRat ys)) := by
  have hno : ∀ p ∈ xs.zip ys, NoOverflowSq .s32 p.1 p.2 := fun p hp =>
    let ⟨h1, h2⟩ := List.of_mem_zip hp
    smallInt_noOverflow t ht p.1 p.2 (hx _ h1) (hy _ h2)
  exact ⟨smallInt_promote t ht, rowResult_sqDist _ _ _ _ _ (sum_euclid_int _ _ xs ys (.inr hno)),
    rowResult_l1Dist _ _ _ _ _ (sum_manhattan_int _ _ xs ys (.inr fun p hp => (hno p hp).1))⟩

example : DType.isSmallInt .i16 = true ∧ (∀ x ∈ [32767, -32768], DType.inRange .i16 x) := by decide +kernel
example : rowResult .euclidean 2 (rowTerms (termInt .native .euclidean .s32) [32767, -32768] [-32768, 32767]) .nan
    = .sqrt 8589672450 := by decide +kernel

/-- every integer element type, under the hypothesis that no difference (Manhattan) and no
difference or square (Euclidean) leaves the promoted C type.  PARTIAL: the hypothesis
`NoOverflow…` is not a guard of the code — for int32 / int64 data it can fail
(`overflow_counterexample`); for int32 only the difference matters (`s32_noOverflowSq_of_diff`). -/
theorem kernel_row_spec_partial (c : CArith) (xs ys : List Int) (w : Nat) (init : Cell) :
    ((∀ p ∈ xs.zip ys, NoOverflowSq c p.1 p.2) →
      rowResult .euclidean w (rowTerms (termInt .native .euclidean c) xs ys) init
        = .sqrt (sqDist (toRat xs) (toRat ys))) ∧
    ((∀ p ∈ xs.zip ys, NoOverflowDiff c p.1 p.2) →
      rowResult .manhattan w (rowTerms (termInt .native .manhattan c) xs ys) init
        = .val (l1Dist (toRat xs) (toRat ys))) :=
  ⟨fun hno => rowResult_sqDist _ _ _ _ _ (sum_euclid_int _ c xs ys (.inr hno)),
    fun hno => rowResult_l1Dist _ _ _ _ _ (sum_manhattan_int _ c xs ys (.inr hno))⟩

example : ∀ p ∈ [(2147483647 : Int)].zip [(1 : Int)], NoOverflowSq .s32 p.1 p.2 := by decide +kernel
example : ∀ p ∈ [(4611686018427387907 : Int)].zip [(4611686018427387904 : Int)], NoOverflowSq .s64 p.1 p.2 := by
  decide +kernel

/-- the full-strength statement for the integer types of the Euclidean / Manhattan kernels
(no overflow hypothesis).  NOT asserted: false, see `overflow_counterexample`. -/
def kernel_row_spec_full : Prop :=
  ∀ (t : DType) (c : CArith), t ∈ Kernel.dtypes .euclidean → t.promote = some c →
    ∀ (xs ys : List Int), (∀ x ∈ xs, t.inRange x) → (∀ y ∈ ys, t.inRange y) →
      ∀ (w : Nat) (init : Cell),
        rowResult .euclidean w (rowTerms (termInt .native .euclidean c) xs ys) init
          = .sqrt (sqDist (toRat xs) (toRat ys)) ∧
        rowResult .manhattan w (rowTerms (termInt .native .manhattan c) xs ys) init
          = .val (l1Dist (toRat xs) (toRat ys))

/-- `euclidean(int64 [[4·10⁹]], [0])`: the square 1.6·10¹⁹ wraps to a negative `long`, the
result is NaN instead of 4·10⁹ (reproduced on the real code: known finding) -/
theorem overflow_counterexample : ¬ kernel_row_spec_full := by
  intro h
  have := (h .i64 .s64 (by rw [generated_types_modelled.2.1]; decide) rfl [4000000000] [0] (by decide) (by decide) 1 (.val 0)).1
  revert this
  decide +kernel

/-- The repaired kernels (`IntArith.viaDouble`: the subtraction is done in double, or in `long`
for int64 operands of equal sign — the form `intArith` selects when the generated kernel bodies
are the repaired ones): exact for EVERY integer element type and every input, no overflow
hypothesis.  FULL (for that source form; float rounding of |values| > 2⁵³ is not modelled). -/
theorem kernel_row_spec_repaired (c : CArith) (xs ys : List Int) (w : Nat) (init : Cell) :
    rowResult .euclidean w (rowTerms (termInt .viaDouble .euclidean c) xs ys) init
      = .sqrt (sqDist (toRat xs) (toRat ys)) ∧
    rowResult .manhattan w (rowTerms (termInt .viaDouble .manhattan c) xs ys) init
      = .val (l1Dist (toRat xs) (toRat ys)) :=
  ⟨rowResult_sqDist _ _ _ _ _ (sum_euclid_int _ c xs ys (.inl rfl)),
    rowResult_l1Dist _ _ _ _ _ (sum_manhattan_int _ c xs ys (.inl rfl))⟩

/-- the int32 instance: `2·10⁹ − (−2·10⁹)` wraps to −294967296 in C `int` -/
example : rowResult .manhattan 1 (rowTerms (termInt .native .manhattan .s32) [2000000000] [-2000000000]) (.val 0)
    = .val 294967296 := by decide +kernel

/-- Hamming, every integral element type, UNCONDITIONALLY (only `!=` on the elements):
the fraction of differing coordinates.  FULL for `n_features > 0`; for `n_features = 0` the
code computes `0.0/0 = NaN` (`hamming_zero_width`), the property's "fraction" is undefined there. -/
theorem hamming_row_spec (a : IntArith) (c : CArith) (xs ys : List Int) (w : Nat) (hw : 0 < w) (init : Cell) :
    rowResult .hamming w (rowTerms (termInt a .hamming c) xs ys) init
      = .val ((hammingCount xs ys : Rat) / (w : Rat)) := by
  rw [rowResult_hamming _ _ _ hw, sum_hamming_int]

theorem hamming_zero_width (a : IntArith) (c : CArith) (xs : List Int) (init : Cell) :
    rowResult .hamming 0 (rowTerms (termInt a .hamming c) xs []) init = .nan := by
  have : rowTerms (termInt a .hamming c) xs [] = [] := by simp [rowTerms]
  rw [this, rowResult_hamming_zero]

example : rowResult .hamming 3 (rowTerms (termInt .native .hamming .u64) [1, 3, 8] [1, 2, 3]) .untracked = .val (2/3) := by
  decide +kernel

/-- Reading a basic-slicing view (any start, any positive or negative step — every-other
row/column, reversed, …) of a C- or Fortran-ordered array through (offset, strides) returns the
logical element.  FULL. -/
theorem strided_read_eq_logical {ε} (N W : Nat) (f : Nat → Nat → ε) (fortran : Bool)
    (r0 : Nat) (rs : Int) (nr : Nat) (c0 : Nat) (cs : Int) (nc : Nat) (i j i' j' : Nat)
    (hi : (r0 : Int) + (i : Int) * rs = (i' : Int)) (hj : (c0 : Int) + (j : Int) * cs = (j' : Int))
    (hi' : i' < N) (hj' : j' < W) :
    ((if fortran then Arr.ofFnF N W f else Arr.ofFnC N W f).sub2 r0 rs nr c0 cs nc).read2? i j
      = some (f i' j') := by
  cases fortran
  · simp only [Bool.false_eq_true, if_false]
    rw [read2?_sub2 _ (W : Int) 1 rfl r0 rs nr c0 cs nc i j i' j' hi hj, read2?_ofFnC N W f i' j' hi' hj']
  · simp only [if_true]
    rw [read2?_sub2 _ 1 (N : Int) rfl r0 rs nr c0 cs nc i j i' j' hi hj, read2?_ofFnF N W f i' j' hi' hj']

/-- the same for the 1-D target `y[c0::cs]` -/
theorem strided_read1_eq_logical {ε} (W : Nat) (g : Nat → ε) (c0 : Nat) (cs : Int) (nc : Nat)
    (j j' : Nat) (hj : (c0 : Int) + (j : Int) * cs = (j' : Int)) (hj' : j' < W) :
    ((Arr.ofFn1 W g).sub1 c0 cs nc).read1? j = some (g j') := by
  rw [read1?_sub1 _ 1 rfl c0 cs nc j j' hj, read1?_ofFn1 W g j' hj']

/-- reversed rows, every other column of a Fortran-ordered 4×5 table -/
example : ((Arr.ofFnF 4 5 (fun i j => 10 * i + j)).sub2 3 (-1) 4 0 2 3).rows? 4 3
    = some [[30, 32, 34], [20, 22, 24], [10, 12, 14], [0, 2, 4]] := by decide +kernel

/-- For EVERY interleaving of the rows' step sequences (any thread count, any assignment of
iterations to threads, any preemption) the final `out` buffer equals the one the
sequential loop produces: row `i` only ever touches the flat position of `out[i]`, and
distinct rows own distinct positions (`stride ≠ 0`; all numpy-made views).  FULL. -/
theorem interleaving_independent {ε} (k : Kernel) (term : ε → ε → Rat) (rows : List (List ε)) (ys : List ε)
    (offset stride : Int) (buf : Nat → Cell)
    (hpos : ∀ i, i < rows.length → 0 ≤ idx1 offset stride i) (hs : stride ≠ 0 ∨ rows.length ≤ 1)
    (e : Exec Cell) (he : IsInterleaving (progsOf k term rows ys) e) :
    runMem offset stride e buf = runMem offset stride (seqExec (progsOf k term rows ys)) buf :=
  runMem_progsOf_eq_seq k term rows ys offset stride buf hpos hs e he

/-- … and that buffer holds, at the position of `out[i]`, the sequential result of row `i`;
every other position is untouched (no write outside the view). -/
theorem interleaving_result {ε} (k : Kernel) (term : ε → ε → Rat) (rows : List (List ε)) (ys : List ε)
    (offset stride : Int) (buf : Nat → Cell)
    (hpos : ∀ i, i < rows.length → 0 ≤ idx1 offset stride i) (hs : stride ≠ 0 ∨ rows.length ≤ 1)
    (e : Exec Cell) (he : IsInterleaving (progsOf k term rows ys) e) :
    (∀ i xs, rows[i]? = some xs → runMem offset stride e buf (outPos offset stride i)
        = rowResult k ys.length (rowTerms term xs ys) (buf (outPos offset stride i))) ∧
    (∀ c, (∀ i, i < rows.length → outPos offset stride i ≠ c) → runMem offset stride e buf c = buf c) := by
  have hl := progsOf_length k term rows ys
  have spec := runMem_spec (progsOf k term rows ys) e he offset stride buf (hl.symm ▸ hpos) (hl.symm ▸ hs)
  constructor
  · intro i xs hxs
    rw [spec.1 i (hl.symm ▸ (List.getElem?_eq_some_iff.mp hxs).1), progOf_progsOf k term rows ys i xs hxs]
    rfl
  · intro c hc
    exact spec.2 c (hl.symm ▸ hc)

/-- the executable scheduler used by the driver produces interleavings (non-vacuity of
`IsInterleaving`; the choice list is arbitrary) -/
theorem schedule_is_interleaving {ε} (k : Kernel) (term : ε → ε → Rat) (rows : List (List ε)) (ys : List ε)
    (choices : List Nat) :
    IsInterleaving (progsOf k term rows ys) (schedule (progsOf k term rows ys) choices) :=
  schedule_isInterleaving _ _

/-- a genuinely interleaved execution (rows alternate) next to the sequential one -/
example :
    (schedule (progsOf .manhattan (termRat .manhattan) [[1, 2], [3, 4]] [0, 0]) [1, 0, 1]).map (·.1)
      = [1, 0, 1, 0, 0, 1] ∧
    (seqExec (progsOf .manhattan (termRat .manhattan) [[1, 2], [3, 4]] [0, 0])).map (·.1)
      = [0, 0, 0, 1, 1, 1] := by decide +kernel

/-- the position hypotheses hold for a reversed `out` view `buf[2::-2]` of two rows -/
example : (∀ i, i < 2 → 0 ≤ idx1 2 (-2) i) ∧ ((-2 : Int) ≠ 0 ∨ 2 ≤ 1) := by decide +kernel

/-- `_prepare_for_2d_to_1d_distance` accepts exactly: X of rank 2, y of rank 1, equal width,
and `out` absent or a float64 vector of length `X.shape[0]`.  Everything else raises. -/
theorem prepare_accepts_iff (Xm ym : Meta) (om : Option Meta) (sh : List Nat) :
    prepare Xm ym om = .ok sh ↔
      ∃ n w, Xm.shape = [n, w] ∧ ym.shape = [w] ∧ sh = [n] ∧
        (om = none ∨ ∃ o, om = some o ∧ o.dtype = "float64" ∧ o.shape = [n]) := by
  constructor
  · intro h
    by_cases hr : Xm.shape.length ≠ 2 ∨ ym.shape.length ≠ 1
    · rw [prepare_error_of_bad_rank Xm ym om hr] at h; cases h
    obtain ⟨hr2, hr1⟩ := not_or.mp hr
    obtain ⟨n, wx, hX⟩ := List.length_eq_two.mp (not_not.mp hr2)
    obtain ⟨wy, hy⟩ := List.length_eq_one_iff.mp (not_not.mp hr1)
    by_cases hw : wx = wy
    swap
    · rw [prepare_error_of_width Xm ym om n wx wy hX hy hw] at h; cases h
    subst hw
    refine ⟨n, wx, hX, hy, ?_⟩
    unfold prepare at h
    rw [hX, hy] at h
    simp only [ne_eq, not_true_eq_false, if_false] at h
    cases om with
    | none => cases h; exact ⟨rfl, .inl rfl⟩
    | some o =>
      obtain ⟨hdt, h⟩ := ite_error_eq_ok.1 h
      rcases hsh : o.shape with _ | ⟨m, rest⟩
      · rw [hsh] at h; cases h
      rw [hsh] at h
      obtain ⟨hm, h⟩ := ite_error_eq_ok.1 h
      obtain ⟨hrest, h⟩ := ite_error_eq_ok.1 h
      cases h
      obtain rfl := not_not.mp hm
      obtain rfl := not_not.mp hrest
      exact ⟨rfl, .inr ⟨o, rfl, not_not.mp hdt, hsh⟩⟩
  · rintro ⟨n, w, hX, hy, rfl, ho⟩
    unfold prepare
    rw [hX, hy]
    rcases ho with rfl | ⟨o, rfl, hdt, hsh⟩
    · simp
    · simp [hdt, hsh]

/-- A call that does not raise had well-formed arguments: rank 2 / rank 1 / equal width /
suitable `out`, an element type the kernel is compiled for, the same for `y`, writable `out`.
(Contrapositive: wrong rank, width mismatch, unsupported or mixed buffer types raise.) -/
theorem malformed_raises (k : Kernel) (Xm ym : Meta) (data : Data) (out : Option (Meta × Arr Cell))
    (choices : List Nat) (r : Result) (h : call k Xm ym data out choices = .ok r) :
    (∃ n w, Xm.shape = [n, w] ∧ ym.shape = [w] ∧
        (out = none ∨ ∃ o, out.map (·.1) = some o ∧ o.dtype = "float64" ∧ o.shape = [n])) ∧
    (∃ t, DType.ofName Xm.dtype = some t ∧ t ∈ k.dtypes) ∧ ym.dtype = Xm.dtype ∧
    (out.map (·.1.writable)).getD true = true := by
  obtain ⟨sh, t, hprep, hdisp, -⟩ := call_ok_kernelRun k Xm ym data out choices r h
  obtain ⟨n, w, hX, hy, -, ho⟩ := (prepare_accepts_iff _ _ _ _).mp hprep
  obtain ⟨h1, h2, h3, h4⟩ := dispatch_ok _ _ _ _ _ hdisp
  exact ⟨⟨n, w, hX, hy, ho.imp_left Option.map_eq_none_iff.mp⟩, ⟨t, h1, h2⟩, h3, h4⟩

/-- Validation ok ⇒ every index the kernel forms (`i < n_samples = len(out)`,
`j < n_features = len(y)`; `X[i,j]`, `y[j]`, `out[i]`) lies inside the respective buffer,
for arrays satisfying numpy's extent invariant.  FULL. -/
theorem validated_in_bounds {ε} (Xm ym : Meta) (om : Option Meta) (sh : List Nat)
    (X y : Arr ε) (out : Arr Cell)
    (hprep : prepare Xm ym om = .ok sh)
    (hX : X.shape = Xm.shape) (hy : y.shape = ym.shape) (ho : out.shape = sh)
    (hXe : X.extentOk = true) (hye : y.extentOk = true) (hoe : out.extentOk = true) :
    ∃ n w, out.shape = [n] ∧ y.shape = [w] ∧
      ∀ i j, i < n → j < w →
        (X.read2? i j).isSome ∧ (y.read1? j).isSome ∧ (out.read1? i).isSome := by
  obtain ⟨n, w, hXs, hys, rfl, -⟩ := (prepare_accepts_iff _ _ _ _).mp hprep
  refine ⟨n, w, ho, by rw [hy, hys], fun i j hi hj => ⟨?_, ?_, ?_⟩⟩
  · exact read2?_isSome X n w (by rw [hX, hXs]) hXe i j hi hj
  · exact read1?_isSome y w (by rw [hy, hys]) hye j hj
  · exact read1?_isSome out n ho hoe i hi

/-- the hypotheses are satisfiable: a reversed / every-other-column int16 view, a strided `out` -/
example :
    prepare ⟨"int16", [2, 2], true⟩ ⟨"int16", [2], true⟩ (some ⟨"float64", [2], true⟩) = .ok [2] ∧
    (⟨#[1, 0, 4, 0, 7, 0, 5, 0], 4, [2, 2], [-4, 2]⟩ : Arr Int).extentOk = true ∧
    (⟨#[4, 1], 0, [2], [1]⟩ : Arr Int).extentOk = true ∧
    (⟨#[.nan, .untracked, .val 7], 2, [2], [-2]⟩ : Arr Cell).extentOk = true := by decide +kernel

/-- … and then the kernel runs to completion in the model (never `bad-request`) -/
theorem validated_runs {ε} (k : Kernel) (term : ε → ε → Rat) (Xm ym : Meta) (om : Option Meta)
    (sh : List Nat) (X y : Arr ε) (out : Arr Cell) (so : Int) (choices : List Nat)
    (hprep : prepare Xm ym om = .ok sh)
    (hX : X.shape = Xm.shape) (hy : y.shape = ym.shape) (ho : out.shape = sh)
    (hst : out.strides = [so]) (halias : so ≠ 0 ∨ sh.sum ≤ 1)
    (hXe : X.extentOk = true) (hye : y.extentOk = true) (hoe : out.extentOk = true) :
    ∃ r, kernelRun k term X y out choices = .ok r := by
  obtain ⟨n, w, hXs, hys, rfl, -⟩ := (prepare_accepts_iff _ _ _ _).mp hprep
  have hX := hX.trans hXs
  have hy := hy.trans hys
  obtain ⟨rows, hrows⟩ : ∃ rows, X.rows? n w = some rows := Option.isSome_iff_exists.mp
    (allSome_range_isSome n _ fun i hi => allSome_range_isSome w _ fun j hj =>
      read2?_isSome X n w hX hXe i j hi hj)
  obtain ⟨ys, hys⟩ : ∃ ys, y.elems? w = some ys := Option.isSome_iff_exists.mp
    (allSome_range_isSome w _ fun j hj => read1?_isSome y w hy hye j hj)
  have hal : ¬ (so = 0 ∧ 1 < n) := by
    rintro ⟨h0, h1⟩; rcases halias with h | h
    · exact h h0
    · simp at h; omega
  unfold kernelRun
  rw [ho, hy, hst]
  simp only [hXe, hye, hoe, Bool.and_self, Bool.not_true, Bool.false_eq_true, if_false, hal,
    hrows, hys]
  exact ⟨_, rfl⟩

/-- A kernel run that succeeds (under whatever schedule) leaves in the caller's buffer, at the
position of `out[i]`, the result of row `i` of the logical data read through the strides; all
other positions of the base buffer keep their content; the returned view is the caller's.  FULL. -/
theorem out_is_result {ε} (k : Kernel) (term : ε → ε → Rat) (X y : Arr ε) (out : Arr Cell)
    (choices : List Nat) (r : Result) (h : kernelRun k term X y out choices = .ok r) :
    ∃ n w so rows ys, out.shape = [n] ∧ y.shape = [w] ∧ out.strides = [so] ∧
      X.rows? n w = some rows ∧ y.elems? w = some ys ∧ rows.length = n ∧ ys.length = w ∧
      r.n = n ∧ r.offset = out.offset ∧ r.stride = so ∧ r.buf.length = out.buf.size ∧
      (∀ i xs, rows[i]? = some xs → ∃ init, out.buf[outPos out.offset so i]? = some init ∧
          r.buf[outPos out.offset so i]? = some (rowResult k w (rowTerms term xs ys) init)) ∧
      (∀ c, (∀ i, i < n → outPos out.offset so i ≠ c) → r.buf[c]? = out.buf[c]?) := by
  obtain ⟨n, w, so, rows, ys, s⟩ := kernelRun_spec k term X y out choices r h
  exact ⟨n, w, so, rows, ys, s.hshape, s.hy, s.hstr, s.hrows, s.hys, s.hrowsLen, s.hysLen, s.hn,
    s.hoff, s.hstride, s.hlen, s.hrow, s.hother⟩

/-- Whatever the buffer held before (garbage, NaN, a previous result) and whatever the two
schedules, the results are the same: every row zeroes its cell before accumulating.  FULL. -/
theorem out_independent_of_initial {ε} (k : Kernel) (term : ε → ε → Rat) (X y : Arr ε)
    (out1 out2 : Arr Cell) (choices1 choices2 : List Nat) (r1 r2 : Result)
    (hoff : out1.offset = out2.offset) (hsh : out1.shape = out2.shape) (hst : out1.strides = out2.strides)
    (h1 : kernelRun k term X y out1 choices1 = .ok r1)
    (h2 : kernelRun k term X y out2 choices2 = .ok r2) :
    ∃ n so, out1.shape = [n] ∧ out1.strides = [so] ∧
      ∀ i, i < n → r1.buf[outPos out1.offset so i]? = r2.buf[outPos out1.offset so i]?
                   ∧ (r1.buf[outPos out1.offset so i]?).isSome :=
  kernelRun_init_independent k term X y out1 out2 choices1 choices2 r1 r2 hoff hsh hst h1 h2

/-- float32 / float64 data: `euclidean` / `manhattan` return, per logical row read through the
strides, `√Σ(x_j−y_j)²` resp. `Σ|x_j−y_j|`; `hamming` never accepts float data.  Composition of
validation (`prepare`), dispatch, strided reads, ANY schedule the choice list encodes, and the row
programs.  FULL (exact-rational arithmetic). -/
theorem call_returns_norms_float (k : Kernel) (Xm ym : Meta) (X y : Arr Rat)
    (out : Option (Meta × Arr Cell)) (choices : List Nat) (r : Result)
    (h : call k Xm ym (.rats X y) out choices = .ok r) :
    ∃ w rows ys, X.rows? r.n w = some rows ∧ y.elems? w = some ys ∧ rows.length = r.n ∧ ys.length = w ∧
      k ≠ .hamming ∧
      (k = .euclidean → r.values = rows.map (fun xs => Cell.sqrt (sqDist xs ys))) ∧
      (k = .manhattan → r.values = rows.map (fun xs => Cell.val (l1Dist xs ys))) := by
  obtain ⟨sh, t, -, hdisp, hk⟩ := call_ok_kernelRun k Xm ym _ out choices r h
  rcases hk with ⟨c, X', y', -, hd, -⟩ | ⟨X', y', hprom, hd, hrun⟩
  · cases hd
  cases hd
  obtain ⟨w, rows, ys, hrows, hys, hrl, hyl, hv⟩ := kernelRun_values k (termRat k) X y _ choices r hrun
  refine ⟨w, rows, ys, hrows, hys, hrl, hyl, ?_, ?_, ?_⟩
  · rintro rfl
    -- the hamming kernel has no float specialisation (generated `INTEGRAL_TYPE_T`)
    have : ∀ t ∈ Kernel.dtypes .hamming, t.promote ≠ none := by
      rw [generated_types_modelled.2.2.2]; decide
    exact this t (dispatch_ok _ _ _ _ _ hdisp).2.1 hprom
  · rintro rfl
    exact hv ▸ List.map_congr_left fun xs _ => (kernel_row_spec_float xs ys w .nan).1
  · rintro rfl
    exact hv ▸ List.map_congr_left fun xs _ => (kernel_row_spec_float xs ys w .nan).2

/-- integer data: `hamming` returns the fraction of differing coordinates (for `n_features > 0`),
unconditionally; `euclidean` / `manhattan` return the norms when the source uses the repaired
arithmetic (`intArith = .viaDouble`) or when no coordinate of the logical data overflows the
promoted C type (`NoOverflowSq` / `NoOverflowDiff`; automatic for 8/16-bit types:
`smallInt_noOverflow`).  PARTIAL exactly as `kernel_row_spec_partial`: without that hypothesis the
statement is false for int32 / int64 (`overflow_counterexample`). -/
theorem call_returns_norms_int (k : Kernel) (Xm ym : Meta) (X y : Arr Int)
    (out : Option (Meta × Arr Cell)) (choices : List Nat) (r : Result)
    (h : call k Xm ym (.ints X y) out choices = .ok r) :
    ∃ t c w rows ys, DType.ofName Xm.dtype = some t ∧ t ∈ k.dtypes ∧ t.promote = some c ∧
      X.rows? r.n w = some rows ∧ y.elems? w = some ys ∧ rows.length = r.n ∧ ys.length = w ∧
      (k = .hamming → 0 < w →
        r.values = rows.map (fun xs => Cell.val ((hammingCount xs ys : Rat) / (w : Rat)))) ∧
      (k = .euclidean →
        (intArith = .viaDouble ∨ ∀ xs ∈ rows, ∀ p ∈ xs.zip ys, NoOverflowSq c p.1 p.2) →
        r.values = rows.map (fun xs => Cell.sqrt (sqDist (toRat xs) (toRat ys)))) ∧
      (k = .manhattan →
        (intArith = .viaDouble ∨ ∀ xs ∈ rows, ∀ p ∈ xs.zip ys, NoOverflowDiff c p.1 p.2) →
        r.values = rows.map (fun xs => Cell.val (l1Dist (toRat xs) (toRat ys)))) := by
  obtain ⟨sh, t, -, hdisp, hk⟩ := call_ok_kernelRun k Xm ym _ out choices r h
  rcases hk with ⟨c, X', y', hprom, hd, hrun⟩ | ⟨X', y', -, hd, -⟩
  swap
  · cases hd
  cases hd
  obtain ⟨hname, hmem, -, -⟩ := dispatch_ok _ _ _ _ _ hdisp
  obtain ⟨w, rows, ys, hrows, hys, hrl, hyl, hv⟩ :=
    kernelRun_values k (termInt intArith k c) X y _ choices r hrun
  refine ⟨t, c, w, rows, ys, hname, hmem, hprom, hrows, hys, hrl, hyl, ?_, ?_, ?_⟩
  · rintro rfl hw
    exact hv ▸ List.map_congr_left fun xs _ => hamming_row_spec intArith c xs ys w hw .nan
  · rintro rfl hyp
    exact hv ▸ List.map_congr_left fun xs hxs =>
      rowResult_sqDist _ _ _ _ _ (sum_euclid_int _ c xs ys (hyp.imp_right (· xs hxs)))
  · rintro rfl hyp
    exact hv ▸ List.map_congr_left fun xs hxs =>
      rowResult_l1Dist _ _ _ _ _ (sum_manhattan_int _ c xs ys (hyp.imp_right (· xs hxs)))

/-- the hypotheses are met by a concrete successful call (int16 view, strided garbage `out`), whose
returned view is `[√25, √18]` -/
example :
    (call .euclidean ⟨"int16", [2, 2], true⟩ ⟨"int16", [2], true⟩
      (.ints ⟨#[1, 0, 4, 0, 7, 0, 5, 0], 4, [2, 2], [-4, 2]⟩ ⟨#[4, 1], 0, [2], [1]⟩)
      (some (⟨"float64", [2], true⟩, ⟨#[.nan, .untracked, .val 7], 2, [2], [-2]⟩))
      [1, 0, 0, 1, 1, 0]).map (·.values) = .ok [.sqrt 25, .sqrt 18] ∧
    (∀ xs ∈ [[(7 : Int), 5], [1, 4]], ∀ p ∈ xs.zip [(4 : Int), 1], NoOverflowSq .s32 p.1 p.2) := by
  -- either arithmetic gives this result; evaluating `intArith` would compare the whole kernel table
  unfold call dispatch
  rw [generated_types_modelled.2.1]
  generalize intArith = a
  cases a <;> decide +kernel

/-- a complete call on a reversed, every-other-column int16 view with a strided garbage `out`,
under a non-trivial schedule -/
example :
    (call .euclidean ⟨"int16", [2, 2], true⟩ ⟨"int16", [2], true⟩
      (.ints ⟨#[1, 0, 4, 0, 7, 0, 5, 0], 4, [2, 2], [-4, 2]⟩ ⟨#[4, 1], 0, [2], [1]⟩)
      (some (⟨"float64", [2], true⟩, ⟨#[.nan, .untracked, .val 7], 2, [2], [-2]⟩))
      [1, 0, 0, 1, 1, 0]).map (·.buf) = .ok [.sqrt 18, .untracked, .sqrt 25] := by
  unfold call dispatch
  rw [generated_types_modelled.2.1]
  generalize intArith = a
  cases a <;> decide +kernel

end C13
