import Proofs.C11Csv
/-!
# C11 — ergodic trimming keeps exactly the heaviest strongly connected component

Model: `Model/Trim.lean` (`Ens.Trim.trimDisconnected`, mirror of
`enspara.msm.transition_matrices.trim_disconnected`, and `TrimMapping`).
Graph: `i → j` iff `thr ≤ C i j ∧ C i j ≠ 0` between states `< n`.
scipy's component numbering (`labels`, `nsub`) is a parameter of the model; every theorem about
`trimDisconnected` assumes only `validLabeling (closure …) n labels nsub = true`, i.e. that the
numbering IS the partition into strongly connected components of the model's own Warshall closure,
numbered `0 … nsub-1` without gaps.  The driver evaluates exactly this Boolean on scipy's labels for
every correspondence case; the examples below show the hypothesis is satisfiable on a graph with a
one-way link and two competing components.  Which maximal component wins a weight tie depends
on scipy's numbering (first maximal label, `keep_label_first_max`); with the labelling fixed the
output is fully determined.  The correspondence passes scipy's ORIGINAL numbering to the model, so the
first-maximum choice is compared with the implementation's pick also under ties (a different but still
heaviest pick satisfies the property and is reported as a broken correspondence, not as a violation).

Correspondence-only clauses.  The model has no notion of a container and no `MSM.fit`, hence two clauses
of the property statement are NOT theorems here and are established only by the differential /
predicate check in `harness/props/c11.py` on the real code:
* "dense and sparse inputs agree and keep their container type" (ndarray, np.matrix, every scipy sparse
  `*_matrix` / `*_array` class, canonical and non-canonical storage; result type `is` the input type);
* "a model fitted with trimming reports the same mapping" (`MSM(trim=True).fit(a).mapping_` equals the mapping
  of `trim_disconnected` on the counts, and satisfies the predicate w.r.t. an independent pair count).
Likewise "the caller's matrix is unchanged" is checked on the real code only (the model is functional).
-/
namespace C11
open Ens Ens.Trim

/-- reachability along thresholded edges between states `< n`, spelled out -/
abbrev Reaches (n : Nat) (e : Nat → Nat → Bool) (i j : Nat) : Prop :=
  Relation.ReflTransGen (fun a b => a < n ∧ b < n ∧ e a b = true) i j

/-- what an edge is: the count reaches the threshold and is not zero (so for `thr ≤ 0` every
    non-zero count is an edge, as for scipy after `thresholded_counts[counts < thr] = 0`) -/
theorem edge_iff (C : Nat → Nat → Nat) (thr : Int) (i j : Nat) :
    edge C thr i j = true ↔ thr ≤ (C i j : Int) ∧ C i j ≠ 0 := by
  simp [edge]

/-- the Warshall closure is reflexive–transitive reachability — all `n`, all graphs -/
theorem closure_is_reach (n : Nat) (e : Nat → Nat → Bool) (i j : Nat) (hi : i < n) (hj : j < n) :
    reachB n e i j = true ↔ Reaches n e i j :=
  reachB_iff_reach n e hi hj

/-- `sccOf i` is the set of states mutually reachable with `i`, ascending -/
theorem sccOf_spec (C : Nat → Nat → Nat) (n : Nat) (thr : Int) (i : Nat) (hi : i < n) :
    (sccOf C n thr i).Pairwise (· < ·) ∧
    ∀ j, j ∈ sccOf C n thr i ↔
      j < n ∧ Reaches n (edge C thr) i j ∧ Reaches n (edge C thr) j i :=
  ⟨sccOfM_pairwise _ _ _, fun _ => mem_sccOf hi⟩

/-- the only error: an empty matrix (`np.argmax` of an empty list) -/
theorem trim_error_iff_empty (C : Nat → Nat → Nat) (n : Nat) (thr : Int) (labels : Nat → Nat) (nsub : Nat)
    (renumber : Bool) (hv : validLabeling (closure n (edge C thr)) n labels nsub = true) :
    ((∃ err, trimDisconnected C n labels nsub renumber = .error err) ↔ n = 0) ∧
    (trimDisconnected C n labels nsub renumber = .error .valueError ↔ n = 0) := by
  have v := valid_of_validLabeling hv
  have h0 : nsub = 0 ↔ n = 0 := by have := valid_nsub_pos v; omega
  refine ⟨by rw [Ens.Trim.trim_error_iff, h0], ?_⟩
  rw [← h0]
  constructor
  · intro h; exact (Ens.Trim.trim_error_iff renumber).1 ⟨_, h⟩
  · exact trim_zero renumber

/-- the kept set is a strongly connected component: non-empty, its states are mutually reachable,
    and it is maximal (every state mutually reachable with a kept state is kept) -/
theorem keep_is_scc (C : Nat → Nat → Nat) (n : Nat) (thr : Int) (labels : Nat → Nat) (nsub : Nat)
    (renumber : Bool) (r : Result)
    (hv : validLabeling (closure n (edge C thr)) n labels nsub = true)
    (h : trimDisconnected C n labels nsub renumber = .ok r) :
    r.keep ≠ [] ∧ (∀ i ∈ r.keep, i < n) ∧
    ∀ i ∈ r.keep, ∀ j, j < n →
      (j ∈ r.keep ↔ Reaches n (edge C thr) i j ∧ Reaches n (edge C thr) j i) := by
  have v := valid_of_validLabeling hv
  obtain ⟨h0, hk⟩ := trim_keep h
  rw [hk]
  refine ⟨?_, ?_, ?_⟩
  · obtain ⟨i, hi⟩ := keepStates_nonempty (C := C) v h0
    exact List.ne_nil_of_mem hi
  · intro i hi; exact (mem_members.1 hi).1
  · intro i hi j hj
    rw [keepStates_eq_sccOf v hi, mem_sccOf (mem_members.1 hi).1]
    exact ⟨fun h => h.2, fun h => ⟨hj, h⟩⟩

/-- the kept component has maximal total weight, the weight of a set being the sum of the
    ORIGINAL (un-thresholded) row sums of its states; it is one of the model's `heaviest` -/
theorem keep_heaviest (C : Nat → Nat → Nat) (n : Nat) (thr : Int) (labels : Nat → Nat) (nsub : Nat)
    (renumber : Bool) (r : Result)
    (hv : validLabeling (closure n (edge C thr)) n labels nsub = true)
    (h : trimDisconnected C n labels nsub renumber = .ok r) :
    (∀ S, weight C n S = (S.map fun i => sumTo n fun j => C i j).sum) ∧
    (∀ j, j < n → weight C n (sccOf C n thr j) ≤ weight C n r.keep) ∧
    r.keep ∈ heaviest C n thr := by
  have v := valid_of_validLabeling hv
  obtain ⟨h0, hk⟩ := trim_keep h
  rw [hk]
  exact ⟨fun _ => rfl, fun j hj => keepStates_weight_ge v hj, keepStates_mem_heaviest v h0⟩

/-- `heaviest` is exactly the set of SCCs of maximal weight (label-free specification) -/
theorem heaviest_spec (C : Nat → Nat → Nat) (n : Nat) (thr : Int) (S : List Nat) :
    S ∈ heaviest C n thr ↔
      (∃ i, i < n ∧ S = sccOf C n thr i) ∧
      ∀ j, j < n → weight C n (sccOf C n thr j) ≤ weight C n S :=
  mem_heaviest_iff

/-- tie-break of the code: the kept states are those of the FIRST label of maximal weight -/
theorem keep_label_first_max (C : Nat → Nat → Nat) (n : Nat) (labels : Nat → Nat) (nsub : Nat)
    (renumber : Bool) (r : Result) (h : trimDisconnected C n labels nsub renumber = .ok r) :
    ∃ l, l < nsub ∧ (∀ i, i ∈ r.keep ↔ i < n ∧ labels i = l) ∧
      (∀ l', l' < nsub → subgraphPop C n labels l' ≤ subgraphPop C n labels l) ∧
      (∀ l', l' < l → subgraphPop C n labels l' < subgraphPop C n labels l) := by
  obtain ⟨h0, hk⟩ := trim_keep h
  obtain ⟨h1, h2, h3⟩ := argmaxTo_spec (subgraphPop C n labels) (Nat.pos_of_ne_zero h0)
  exact ⟨_, h1, fun i => by rw [hk]; exact mem_members, h2, h3⟩

/-- renumbered variant: a compact `|keep| × |keep|` matrix with `C' a b = C (keep a) (keep b)` -/
theorem trim_renumbered_entries (C : Nat → Nat → Nat) (n : Nat) (labels : Nat → Nat) (nsub : Nat)
    (r : Result) (h : trimDisconnected C n labels nsub true = .ok r) :
    r.shape = r.keep.length ∧
    ∀ a b (ha : a < r.keep.length) (hb : b < r.keep.length), r.entry a b = C r.keep[a] r.keep[b] :=
  ⟨(trim_inv_renumber h).2.2.1, fun _ _ ha hb => renumber_entry h ha hb⟩

/-- in-place variant: same shape, original counts between kept states, 0 on every removed
    row and column -/
theorem trim_inplace_entries (C : Nat → Nat → Nat) (n : Nat) (labels : Nat → Nat) (nsub : Nat)
    (r : Result) (h : trimDisconnected C n labels nsub false = .ok r) :
    r.shape = n ∧
    (∀ i j, i ∈ r.keep → j ∈ r.keep → r.entry i j = C i j) ∧
    (∀ i j, i < n → j < n → (i ∉ r.keep ∨ j ∉ r.keep) → r.entry i j = 0) :=
  ⟨(trim_inv_inplace h).2.2.1, fun _ _ hi hj => inplace_entry_in h hi hj,
   fun _ _ hi hj ho => inplace_entry_out h hi hj ho⟩

/-- the trimmed matrix is strongly connected w.r.t. the thresholded edges OF THE TRIMMED MATRIX
    (walks between kept states never leave the component): every new state reaches every
    new state in the renumbered matrix; every kept state reaches every kept state in the in-place
    matrix, whose removed states have no edge at all.  (A single kept state is strongly
    connected by reflexivity, whatever its self count.) -/
theorem trim_strongly_connected (C : Nat → Nat → Nat) (n : Nat) (thr : Int) (labels : Nat → Nat)
    (nsub : Nat) (hv : validLabeling (closure n (edge C thr)) n labels nsub = true) :
    (∀ r, trimDisconnected C n labels nsub true = .ok r →
      ∀ a b, a < r.shape → b < r.shape → Reaches r.shape (edge r.entry thr) a b) ∧
    (∀ r, trimDisconnected C n labels nsub false = .ok r →
      (∀ i j, i ∈ r.keep → j ∈ r.keep → Reaches n (edge r.entry thr) i j) ∧
      (∀ i j, i < n → j < n → (i ∉ r.keep ∨ j ∉ r.keep) → edge r.entry thr i j = false)) := by
  have v := valid_of_validLabeling hv
  refine ⟨?_, ?_⟩
  · intro r h a b ha hb
    have hs := (trim_inv_renumber h).2.2.1
    rw [hs] at ha hb ⊢
    exact renumber_strongly_connected v h ha hb
  · intro r h
    exact ⟨fun i j hi hj => inplace_strongly_connected v h hi hj,
      fun i j hi hj ho => inplace_no_edge_out h hi hj ho⟩

/-- the mapping: `keep` is strictly increasing; (renumbered) new id `t` ↦ `keep[t]` is an
    order-preserving bijection from `0 … |keep|-1` onto `keep` and `to_mapped` is its inverse;
    (in place) both dictionaries are the identity on `keep`. -/
theorem mapping_order_iso (C : Nat → Nat → Nat) (n : Nat) (labels : Nat → Nat) (nsub : Nat) :
    (∀ r, trimDisconnected C n labels nsub true = .ok r →
      r.keep.Pairwise (· < ·) ∧
      (∀ a b (ha : a < r.keep.length) (hb : b < r.keep.length), a < b → r.keep[a] < r.keep[b]) ∧
      (∀ t o, r.mapping.originalOf t = some o ↔ r.keep[t]? = some o) ∧
      (∀ o t, r.mapping.mappedOf o = some t ↔ r.keep[t]? = some o) ∧
      (∀ o t, r.mapping.mappedOf o = some t ↔ r.mapping.originalOf t = some o)) ∧
    (∀ r, trimDisconnected C n labels nsub false = .ok r →
      r.keep.Pairwise (· < ·) ∧
      (∀ t o, r.mapping.originalOf t = some o ↔ (o = t ∧ o ∈ r.keep)) ∧
      (∀ o t, r.mapping.mappedOf o = some t ↔ (o = t ∧ o ∈ r.keep))) := by
  refine ⟨fun r h => ?_, fun r h => ?_⟩
  · obtain ⟨_, hk, _, _, hm⟩ := trim_inv_renumber h
    have hp : r.keep.Pairwise (· < ·) := hk ▸ members_pairwise _ _ _
    obtain ⟨l1, l2⟩ := zip_lookup hp List.nodup_range List.length_range
    rw [hm]
    exact ⟨hp, fun a b ha hb hab => List.pairwise_iff_getElem.1 hp a b ha hb hab,
      fun t o => (l1 t o).trans mem_zip_range, fun o t => (l2 o t).trans mem_zip_range,
      fun o t => (l2 o t).trans (l1 t o).symm⟩
  · obtain ⟨_, hk, _, _, hm⟩ := trim_inv_inplace h
    have hp : r.keep.Pairwise (· < ·) := hk ▸ members_pairwise _ _ _
    obtain ⟨l1, l2⟩ := zip_lookup hp (hp.imp Nat.ne_of_lt) rfl
    rw [hm]
    exact ⟨hp, fun t o => (l1 t o).trans mem_zip_self, fun o t => (l2 o t).trans mem_zip_self⟩

/-- renumbered and in-place results describe the same model: same kept states, the compact matrix
    is the in-place matrix restricted to `keep`, everything outside `keep` is zero in place, and
    composing the renumbered mapping with the in-place one changes nothing. -/
theorem renumbered_eq_inplace_restricted (C : Nat → Nat → Nat) (n : Nat) (labels : Nat → Nat)
    (nsub : Nat) (r₁ r₂ : Result) (h₁ : trimDisconnected C n labels nsub true = .ok r₁)
    (h₂ : trimDisconnected C n labels nsub false = .ok r₂) :
    r₁.keep = r₂.keep ∧
    (∀ a b (ha : a < r₁.keep.length) (hb : b < r₁.keep.length),
      r₁.entry a b = r₂.entry r₁.keep[a] r₁.keep[b]) ∧
    (∀ i j, i < n → j < n → (i ∉ r₁.keep ∨ j ∉ r₁.keep) → r₂.entry i j = 0) ∧
    (∀ t o, r₁.mapping.originalOf t = some o → r₂.mapping.originalOf o = some o) := by
  have hk : r₁.keep = r₂.keep := by rw [(trim_inv_renumber h₁).2.1, (trim_inv_inplace h₂).2.1]
  refine ⟨hk, ?_, ?_, ?_⟩
  · intro a b ha hb
    rw [renumber_entry h₁ ha hb, inplace_entry_in h₂ (hk ▸ List.getElem_mem ha) (hk ▸ List.getElem_mem hb)]
  · intro i j hi hj ho
    exact inplace_entry_out h₂ hi hj (hk ▸ ho)
  · intro t o hto
    have hm := ((mapping_order_iso C n labels nsub).1 r₁ h₁).2.2.1 t o
    have := ((mapping_order_iso C n labels nsub).2 r₂ h₂).2.1 o o
    rw [this]
    refine ⟨rfl, ?_⟩
    rw [← hk]
    exact List.mem_of_getElem? (hm.1 hto)

/-- `TrimMapping.read(write(m)) == m` for the mapping of either variant (exact equality of the
    stored dictionary, csv cells going through `str`/`int`) -/
theorem trimmapping_roundtrip (C : Nat → Nat → Nat) (n : Nat) (labels : Nat → Nat) (nsub : Nat)
    (renumber : Bool) (r : Result) (h : trimDisconnected C n labels nsub renumber = .ok r) :
    TrimMapping.read r.mapping.write = .ok r.mapping := by
  cases renumber
  · obtain ⟨_, hk, _, _, hm⟩ := trim_inv_inplace h
    have hp : r.keep.Pairwise (· < ·) := hk ▸ members_pairwise _ _ _
    obtain ⟨h1, h2⟩ := zip_keys hp (hp.imp Nat.ne_of_lt) rfl
    rw [hm]
    exact read_write_sorted h1 h2
  · obtain ⟨_, hk, _, _, hm⟩ := trim_inv_renumber h
    obtain ⟨h1, h2⟩ := zip_keys (hk ▸ members_pairwise _ _ _ : r.keep.Pairwise (· < ·)) List.nodup_range
      List.length_range
    rw [hm]
    exact read_write_sorted h1 h2

/-- round trip for ANY mapping that is one-to-one (rows come back sorted by original id, so
    equality is equality of dictionaries = permutation of the item lists + same lookups) -/
theorem trimmapping_roundtrip_general (m : TrimMapping) (h1 : (m.toOriginal.map Prod.fst).Nodup)
    (h2 : (m.toOriginal.map Prod.snd).Nodup) :
    ∃ m', TrimMapping.read m.write = .ok m' ∧ m'.toOriginal.Perm m.toOriginal ∧
      m'.toMapped.Perm m.toMapped ∧
      (∀ t, m'.originalOf t = m.originalOf t) ∧ (∀ o, m'.mappedOf o = m.mappedOf o) :=
  read_write_perm m h1 h2

/-- a csv file whose header is not `original,mapped` is rejected, an empty one too -/
theorem read_rejects (h : List String) (rest : List (List String)) (hh : h ≠ csvHeader) :
    TrimMapping.read (h :: rest) = .error .assertion ∧ TrimMapping.read [] = .error .stopIteration := by
  simp [TrimMapping.read, hh]

/-! ### non-vacuity: a graph with a one-way link and two competing components

States 0↔1 (counts 2, 1), one-way 1→2 (count 5), 2↔3 (counts 1, 1).  Row sums 2, 6, 1, 1.
At threshold 1 the components are {0,1} (weight 8) and {2,3} (weight 2); at threshold 2 all
components are singletons and state 1 (weight 6) wins; scipy-style numberings `[1,1,0,0]`
and `[3,2,1,0]`. -/

def exC : Nat → Nat → Nat := fun i j =>
  (([[0,2,0,0],[1,0,5,0],[0,0,0,1],[0,0,1,0]] : List (List Nat)).getD i []).getD j 0
def exL1 : Nat → Nat := fun i => ([1,1,0,0] : List Nat).getD i 0
def exL2 : Nat → Nat := fun i => ([3,2,1,0] : List Nat).getD i 0

example : validLabeling (closure 4 (edge exC 1)) 4 exL1 2 = true := by decide +kernel
example : validLabeling (closure 4 (edge exC 2)) 4 exL2 4 = true := by decide +kernel
/-- the one-way link 1→2 does not merge the components; a weakly-connected labelling is rejected -/
example : validLabeling (closure 4 (edge exC 1)) 4 (fun _ => 0) 1 = false := by decide +kernel
example : reachB 4 (edge exC 1) 0 3 = true ∧ reachB 4 (edge exC 1) 3 0 = false := by decide +kernel
example : heaviest exC 4 1 = [[0,1],[0,1]] ∧ heaviest exC 4 2 = [[1]] := by decide +kernel
example : ∃ r, trimDisconnected exC 4 exL1 2 true = .ok r ∧ r.keep = [0,1] ∧
    r.toLists = [[0,2],[1,0]] ∧ r.mapping.toOriginal = [(0,0),(1,1)] := ⟨_, rfl, by decide +kernel⟩
example : ∃ r, trimDisconnected exC 4 exL2 4 true = .ok r ∧ r.keep = [1] ∧
    r.toLists = [[0]] ∧ r.mapping.toOriginal = [(0,1)] ∧ r.mapping.toMapped = [(1,0)] :=
  ⟨_, rfl, by decide +kernel⟩
example : ∃ r, trimDisconnected exC 4 exL2 4 false = .ok r ∧ r.keep = [1] ∧
    r.toLists = [[0,0,0,0],[0,0,0,0],[0,0,0,0],[0,0,0,0]] ∧ r.mapping.toOriginal = [(1,1)] :=
  ⟨_, rfl, by decide +kernel⟩
example : trimDisconnected exC 0 exL1 0 true = .error .valueError := rfl
/-- `write` sorts the rows by original id (here the dictionary order is the other one) -/
example : (TrimMapping.ofTransformations [(5,0),(2,1)]).write
    = [["original","mapped"],["2","1"],["5","0"]] := by
  have htm : (TrimMapping.ofTransformations [(5,0),(2,1)]).toMapped = [(5,0),(2,1)] := by decide +kernel
  have hs : ([(5,0),(2,1)] : List (Nat × Nat)).mergeSort (fun a b => decide (a.1 ≤ b.1)) = [(2,1),(5,0)] := by
    simp [List.mergeSort]
  rw [TrimMapping.write, htm, hs]
  decide +kernel
/-- hypotheses of `trimmapping_roundtrip_general` on a mapping that is NOT sorted -/
example : (((TrimMapping.ofTransformations [(5,0),(2,1)]).toOriginal.map Prod.fst).Nodup) ∧
    (((TrimMapping.ofTransformations [(5,0),(2,1)]).toOriginal.map Prod.snd).Nodup) := by decide +kernel
/-- non-injective transformations are outside `trimmapping_roundtrip_general`: the later pair wins -/
example : (TrimMapping.ofTransformations [(2,0),(5,0)]).toOriginal = [(0,5)] := by decide +kernel

end C11
