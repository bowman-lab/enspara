import Proofs.C01Examples
/-!
C01 — clustering results are self-consistent for every algorithm and input.

`Consistent D n s` (Proofs/C01Pam.lean) is the property's predicate: center coordinates are the frames at
the center indices (which are frames of the data); every frame's distance is the table distance to the
center it is labelled with, the label being a position of the center list; no center is strictly closer;
every center frame carries its own label at distance zero.
`TableOK D n`: the metric is zero exactly on the diagonal and never negative ("distinct points");
neither symmetry nor the triangle inequality is assumed.
"Inputs are not modified" and float rounding are outside the model (checked on the real code by
byte snapshots / tolerances in harness/props/c01.py).
All theorems: every size `n`, every table, every stopping parameter, every proposal list / oracle.

Hypotheses that are NOT guards of the code but the property's own quantifier:
* `nClusters ≠ some 0` and `0 ≤ cutoff` ("cluster counts / radii"): `kcenters(n_clusters=0)` returns the empty
  clustering and a negative radius with more clusters than frames re-adds frame 0; the code checks neither.
* init centers / supplied center indices are DISTINCT frames of the data (`Nodup`, `< n`): "data sets of distinct
  points", "start from frames of the data".  With a repeated init frame the real code (and the model, see the
  `example` after `kcenters_consistent`) reports fewer center indices than center coordinates, because
  `find_cluster_centers` sees no frame labelled with the second copy.  Outside the quantifier; the harness runs
  such inputs only to compare code and model (tag `outside-quantifier:repeated-init-frame`).
* `WarmOK` with supplied labels/distances assumes that the caller's arrays are `Consistent` for the supplied (or
  inferred) centers - "starting from a supplied consistent state".  The code itself only asserts
  `distances[cluster_center_inds] < 0.001`; arrays that pass that assert but are not a nearest-center labelling
  are outside the property.
-/
namespace C01
open Ens Ens.Cluster Ens.Cluster.Ex

/-! ### `assign_to_nearest_center` -/

/-- the loop branch of `assign_to_nearest_center` over distinct frames of the data gives a consistent state -/
theorem assignNearest_consistent {D : Table} {n : Nat} (T : TableOK D n) {cs : List Nat}
    (hne : cs ≠ []) (hnd : cs.Nodup) (hlt : ∀ c ∈ cs, c < n) :
    Consistent D n { arr := assignNearest D n cs, ctrInds := cs, ctrFrames := cs } :=
  Consistent.of_runMin T (RunMin.assignNearest D n cs) hne (Inj_of_nodup hnd) hlt

example : Consistent D6 6 s6 := assignNearest_consistent D6_ok (by decide) (by decide) (by decide)

/-- `assign_to_nearest_center` as the C01 entry points call it: centers = distinct frames of the data, hence
at most `n` of them, hence the loop branch (the per-frame argmin branch needs more centers than frames; for it
see `assignToNearestCenter_nearest` below, which needs neither distinctness nor `c < n`) -/
theorem assignToNearestCenter_consistent {D : Table} {n : Nat} (T : TableOK D n) {cs : List Nat} {xyz : Bool}
    {a : Arr} (hne : cs ≠ []) (hnd : cs.Nodup) (hlt : ∀ c ∈ cs, c < n)
    (h : assignToNearestCenter D n cs xyz = .ok a) :
    Consistent D n { arr := a, ctrInds := cs, ctrFrames := cs } :=
  Consistent.of_runMin T (RunMin.assignToNearestCenter h hne) hne (Inj_of_nodup hnd) hlt

/-- BOTH branches of `assign_to_nearest_center`, for ANY non-empty list of centers given as columns of the table
(repeats allowed, more centers than frames allowed - with `xyz = true` that is the per-frame argmin branch):
every frame's label is a position of the center list, its distance is the table distance to that center, and no
center is strictly closer.  ("Centers own their label at distance 0" is meaningless for repeated centers and is
not claimed here.) -/
theorem assignToNearestCenter_nearest {D : Table} {n : Nat} {cs : List Nat} {xyz : Bool} {a : Arr}
    (hne : cs ≠ []) (h : assignToNearestCenter D n cs xyz = .ok a) :
    a.fresh = false ∧
    (∀ f, f < n → ∃ (k c : Nat), a.assign f = (k : Nat) ∧ cs[k]? = some c ∧ a.dist f = D f c) ∧
    (∀ f, f < n → ∀ (k c : Nat), cs[k]? = some c → ¬ D f c < a.dist f) := by
  have hr := RunMin.assignToNearestCenter h hne
  refine ⟨?_, hr.lab hne, hr.best⟩
  cases hx : a.fresh
  · rfl
  · exact absurd (hr.fresh_iff.mp hx) hne

/-- the argmin branch really runs and agrees with the loop branch: 3 centers (one repeated), 2 frames -/
example : assignToNearestCenter D6 2 [5, 1, 1] true = assignArgmin D6 2 [5, 1, 1] ∧
    (assignToNearestCenter D6 2 [5, 1, 1] true).toOption.map (fun a => (a.assignA, a.distA)) =
      some (#[1, 1], #[1, 0]) ∧
    (assignToNearestCenter D6 2 [5, 1, 1] false).toOption.map (fun a => (a.assignA, a.distA)) =
      some (#[1, 1], #[1, 0]) := by decide +kernel

/-- `find_cluster_centers` recovers the center indices of a consistent state (so the indices inferred by the
warm starts are the centers the labels refer to) -/
theorem findClusterCenters_of_consistent {D : Table} {n : Nat} (T : TableOK D n) {s : St}
    (hs : Consistent D n s) : findClusterCenters n s.arr = some s.ctrInds :=
  findClusterCenters_eq T hs

/-! ### what `Consistent` gives: labels in range, distinct centers -/

theorem consistent_labels_in_range {D : Table} {n : Nat} {s : St} (hs : Consistent D n s) {f : Nat}
    (hf : f < n) : 0 ≤ s.arr.assign f ∧ s.arr.assign f < (s.ctrInds.length : Nat) := by
  obtain ⟨k, c, h1, h2, _⟩ := hs.lab f hf
  have := getElem?_lt h2
  rw [h1]; constructor
  · exact Int.natCast_nonneg k
  · exact_mod_cast this

theorem consistent_centers_distinct {D : Table} {n : Nat} {s : St} (hs : Consistent D n s) :
    s.ctrInds.Nodup :=
  nodup_of_Inj hs.inj

/-! ### k-centers -/

/-- `kcenters` (cold start, or warm start from distinct frames of the data) returns a consistent state,
for every cluster count ≥ 1 (or none) and every radius ≥ 0 -/
theorem kcenters_consistent {D : Table} {n : Nat} (T : TableOK D n) {nClusters : Option Nat} {cutoff : Rat}
    {init : Option (List Nat)} {fuel : Nat} {s : St}
    (hk : nClusters ≠ some 0) (hc : 0 ≤ cutoff)
    (hinit : ∀ cs, init = some cs → cs ≠ [] ∧ cs.Nodup ∧ ∀ c ∈ cs, c < n)
    (h : kcenters D n nClusters cutoff init fuel = .ok s) : Consistent D n s := by
  obtain ⟨s0, h0, hn, hl⟩ := kcenters_ok h
  obtain ⟨hinv, hstop⟩ := kcentersLoop_inv T (Nat.pos_of_ne_zero hn) hc fuel (KInv.start T h0 hinit) hl
  exact hinv.consistent T (stopped_nonempty hinv hk hstop)

/-- outside the quantifier: a repeated init frame leaves the second copy without any labelled frame, so
`find_cluster_centers` returns one index for two coordinates (code and model agree on this) -/
example : (kcenters D6 6 (some 1) 0 (some [4, 4]) 8).toOption.map (fun s => (s.ctrInds, s.ctrFrames)) =
    some ([4], [4, 4]) := by decide +kernel

/-- the arrays `kcenters` returns have one entry per frame -/
theorem kcenters_arrays_sized {D : Table} {n : Nat} {nClusters : Option Nat} {cutoff : Rat}
    {init : Option (List Nat)} {fuel : Nat} {s : St} (h : kcenters D n nClusters cutoff init fuel = .ok s) :
    s.arr.distA.size = n ∧ s.arr.assignA.size = n :=
  kcenters_sized h

/-- …and with `fuel ≥ n` the model's loop always finishes (the Python `while` has no bound; on distinct points
with a radius ≥ 0 it stops after at most `n` new centers): `kcenters_consistent` is never vacuous -/
theorem kcenters_total {D : Table} {n : Nat} (T : TableOK D n) (hn : 0 < n) {nClusters : Option Nat} {cutoff : Rat}
    {init : Option (List Nat)} {fuel : Nat} (hc : 0 ≤ cutoff) (hfuel : n ≤ fuel)
    (hinit : ∀ cs, init = some cs → cs ≠ [] ∧ cs.Nodup ∧ ∀ c ∈ cs, c < n) :
    ∃ s, kcenters D n nClusters cutoff init fuel = .ok s := by
  obtain ⟨s0, h0⟩ : ∃ s0, kcentersStart D n init = .ok s0 := by
    cases init with
    | none => exact ⟨_, rfl⟩
    | some cs => obtain ⟨hne, hnd, hlt⟩ := hinit cs rfl; exact ⟨_, kcentersWarm_ok T hne hnd hlt⟩
  rw [kcenters_of_loop h0 (Nat.pos_iff_ne_zero.mp hn)]
  exact kcentersLoop_total T hn hc fuel (KInv.start T h0 hinit) (by omega)

example : (kcenters D6 6 (some 3) 0 none 8).toOption.map (fun s => (s.ctrInds, s.arr.assignA)) =
    some ([0, 5, 3], #[0, 0, 0, 2, 2, 1]) := by decide +kernel
example : (kcenters D6 6 none 2 (some [4, 1]) 8).toOption.map (fun s => (s.ctrInds, s.ctrFrames, s.arr.assignA)) =
    some ([4, 1, 5], [4, 1, 5], #[1, 1, 1, 0, 0, 2]) := by decide +kernel

/-! ### k-medoids -/

/-- one PAM step (any proposed frame, accepted or rejected) keeps the state consistent -/
theorem pamStep_preserves_consistent {D : Table} {n : Nat} (T : TableOK D n) {s : St} (hs : Consistent D n s)
    {cid p : Nat} (hcid : cid < s.ctrInds.length) (hp : p < n) {st : PamStep}
    (h : pamStep D n s cid p = .ok st) : Consistent D n st.after :=
  pamStep_consistent T hs hcid hp h

/-- …and such a step never trips the asserts of `_kmedoids_pam_update` (the hypothesis `= .ok` above is
never vacuous) -/
theorem pamStep_total_of_consistent {D : Table} {n : Nat} (T : TableOK D n) {s : St} (hs : Consistent D n s)
    {cid p : Nat} (hcid : cid < s.ctrInds.length) (hp : p < n) : ∃ st, pamStep D n s cid p = .ok st :=
  pamStep_total T hs hcid hp

/-- the three reassignment branches of one step on the six points: frames 1,2 move to the proposal (`dst_dn`),
frames 3,4,5 stay with the other center (`dst_up_assig_other`), frame 0 is recomputed (`dst_up_assig_this`);
the step is accepted -/
example : (pamStep D6 6 s6 0 1).toOption.map (fun st => (st.dn, st.other, st.this, st.acc)) =
    some (2, 3, 1, true) := step_0_1.1
example : (pamStep D6 6 s6 0 1).toOption.map (fun st => (st.after.ctrInds, st.after.arr.assignA)) =
    some ([1, 5], #[0, 0, 0, 1, 1, 1]) := step_0_1.2
/-- a rejected step on the same state (proposal frame 2, the point `3`, for cluster 0) -/
example : (pamStep D6 6 s6 0 2).toOption.map (fun st => (st.dn, st.other, st.this, st.acc, st.after == s6)) =
    some (1, 3, 2, false, true) := step_0_2.1

/-- one sweep of `_kmedoids_pam_update` (explicit proposals or random choices from any oracle) keeps the
state consistent -/
theorem pamUpdate_preserves_consistent {D : Table} {n : Nat} (T : TableOK D n) {s s' : St}
    {props : Option (List Nat)} {orc orc' : List Nat} {tr : List PamStep} (hs : Consistent D n s)
    (h : pamUpdate D n s props orc = .ok (s', orc', tr)) : Consistent D n s' :=
  pamUpdate_consistent T hs h

/-- `kmedoids` (any number of sweeps, explicit proposals or any oracle; start from distinct center indices,
from a full consistent state, or from the labels+distances of one): the result and the state after every
sweep are consistent -/
theorem kmedoids_consistent {D : Table} {n nIters : Nat} (T : TableOK D n) {inds : Option (List Nat)}
    {ad : Option Arr} {props : Option (List Nat)} {orc : List Nat} {r : Run}
    (hw : WarmOK D n inds ad) (h : kmedoids D n nIters inds ad props orc = .ok r) :
    Consistent D n r.final ∧ ∀ x ∈ r.sweeps, Consistent D n x := by
  obtain ⟨s, hs, hit⟩ := kmedoids_start T hw h
  obtain ⟨k, _, hsw⟩ := kmedoidsIterations_ok hit
  exact sweepsFrom_consistent T (k+1) hs hsw

example : (kmedoids D6 6 2 (some [0, 5]) none (some [1, 4]) []).toOption.map
    (fun r => (r.final.ctrInds, r.final.ctrFrames, r.final.arr.assignA, r.trace.map (·.acc))) =
    some ([1, 4], [1, 4], #[0, 0, 0, 1, 1, 1], [true, true, false, false]) := by decide +kernel
example : (kmedoids D6 6 1 none (some s6.arr) none [2, 0]).toOption.map
    (fun r => (r.final.ctrInds, r.trace.map (fun st => (st.p, st.acc)))) =
    some ([0, 3], [(2, false), (3, true)]) := by decide +kernel

/-- `hybrid` = `kcenters` then the sweeps with random proposals (any oracle): consistent -/
theorem hybrid_consistent {D : Table} {n : Nat} (T : TableOK D n) {nClusters : Option Nat} {cutoff : Rat}
    {init : Option (List Nat)} {fuel nIters : Nat} {orc : List Nat} {r : Run}
    (hk : nClusters ≠ some 0) (hc : 0 ≤ cutoff)
    (hinit : ∀ cs, init = some cs → cs ≠ [] ∧ cs.Nodup ∧ ∀ c ∈ cs, c < n)
    (h : hybrid D n nClusters cutoff init fuel nIters orc = .ok r) :
    Consistent D n r.final ∧ ∀ x ∈ r.sweeps, Consistent D n x := by
  obtain ⟨s, hkc, h | ⟨_, rfl⟩⟩ := hybrid_ok h
  · obtain ⟨k, _, hsw⟩ := kmedoidsIterations_ok h.2
    exact sweepsFrom_consistent T (k+1) (kcenters_consistent T hk hc hinit hkc) hsw
  · exact ⟨kcenters_consistent T hk hc hinit hkc, nofun⟩

example : (hybrid D6 6 (some 2) 0 none 8 2 [1, 1, 0, 2]).toOption.map
    (fun r => (r.final.ctrInds, r.final.arr.assignA, r.trace.map (fun st => (st.p, st.acc)))) =
    some ([1, 4], #[0, 0, 0, 1, 1, 1], [(1, true), (4, true), (0, false), (5, false)]) := hybrid_2.1

/-- the arrays the sweeps return have one entry per frame whenever the arrays they start from do (accepted
candidates are built with `n` entries, rejected ones keep the old arrays) -/
theorem sweeps_arrays_sized {D : Table} {n nIters : Nat} {s : St} {props : Option (List Nat)} {orc : List Nat}
    {r : Run} (hs : s.arr.distA.size = n ∧ s.arr.assignA.size = n)
    (h : kmedoidsIterations D n nIters s props orc = .ok r) :
    r.final.arr.distA.size = n ∧ r.final.arr.assignA.size = n := by
  obtain ⟨k, _, hsw⟩ := kmedoidsIterations_ok h
  exact sweepsFrom_sized (k+1) hs hsw

/-- k-hybrid: one label and one distance per frame -/
theorem hybrid_arrays_sized {D : Table} {n : Nat} {nClusters : Option Nat} {cutoff : Rat}
    {init : Option (List Nat)} {fuel nIters : Nat} {orc : List Nat} {r : Run}
    (h : hybrid D n nClusters cutoff init fuel nIters orc = .ok r) :
    r.final.arr.distA.size = n ∧ r.final.arr.assignA.size = n := by
  obtain ⟨s, hkc, h | ⟨_, rfl⟩⟩ := hybrid_ok h
  · exact sweeps_arrays_sized (kcenters_sized hkc) h.2
  · exact kcenters_sized hkc

end C01
