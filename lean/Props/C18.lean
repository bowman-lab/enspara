import Proofs.C18Dtype
import Proofs.C18Ccn
import Proofs.C18Laws
import Proofs.C18Pooled
import Proofs.C18Bincount1
import Proofs.C18Weighted
import Model.Generated.InfoKernel
/-!
C18 — joint counts are exact and mutual information obeys its algebraic laws.

Model: `Model/Info.lean` (mirrors `libinfo.matrix_bincount2d`, `mutual_info.joint_counts`,
`mutual_information`, `mi_matrix`, `weighted_mi`, `channel_capacity_normalization`,
`entropy.shannon_entropy`, `entropy.kl_divergence`).  Real-valued notions: `termsVal l =
Σ_{(c,x)∈l} c·log x` is the value of a term list printed by the driver; `miVal j x y` is the value
of `mi[x, y]` for the table `j`.  Counts are `Nat` in the model and `uint32` in the code: model and
code agree for fewer than 2³² frames only (trusted base of `harness/props/c18.py`; no theorem carries
the bound).

Outside the model, exercised by the harness only: the memory layout of the arrays (C / Fortran /
strided / reversed views — the model's arrays are index functions), OS thread scheduling, floating
point (the model returns exact rational terms) and `weighted_mi`'s trailing `np.clip(·, 0, inf)`
(see `wmiValidate`; its default state counts `int(features.max()) + 1` are modelled).
-/
namespace C18
open Ens Ens.Info Ens.Sched Ens.InfoR

/-- every cell `[x, y, i, j]` of the table is the exact number of frames `t` with `a[t,x] = i` and
`b[t,y] = j` (for all `i j : ℤ`: nothing is counted in another cell), and the shape is the declared one -/
theorem jc_exact (a b : Arr) (nA nB : Int) (r : JC) (h : matrixBincount2d a b nA nB = .ok r) :
    r.Fa = a.F ∧ r.Fb = b.F ∧ r.nA = nA ∧ r.nB = nB ∧
    ∀ x y i j, r.cnt x y i j = if x < a.F ∧ y < b.F then frameCount a b x y i j else 0 := by
  obtain ⟨_, rfl⟩ := (matrixBincount2d_ok_iff a b nA nB r).1 h
  exact ⟨rfl, rfl, rfl, rfl, fun _ _ _ _ => rfl⟩

/-- `joint_counts(X, Y, n_x, n_y)` is exact for every pair of the eight integer dtypes (the dtype
harmonisation changes no value of a valid array) -/
theorem jc_exact_all_dtypes (X Y : TArr) (hX : X.valid) (hY : Y.valid) (nx ny : Int) (r : JC)
    (h : jointCounts X (some Y) (some nx) (some ny) = .ok r) :
    r.Fa = X.arr.F ∧ r.Fb = Y.arr.F ∧ r.nA = nx ∧ r.nB = ny ∧
    ∀ x y i j, r.cnt x y i j =
      if x < X.arr.F ∧ y < Y.arr.F then frameCount X.arr Y.arr x y i j else 0 := by
  rw [jointCounts_eq X Y hX hY nx ny r h]
  exact ⟨rfl, rfl, rfl, rfl, fun _ _ _ _ => rfl⟩

/-- any interleaving of the `prange` iterations (every thread count, schedule clause and assignment
of iterations to threads) computes the table of the sequential triple loop.
Scope: race-freedom is *structural* here — the program of `a_row` is typed `Slab → Slab`, i.e. the
model already says that iteration `a_row` touches `jc[a_row, …]` only.  A kernel that wrote into
another row's slab (`jc[b_row, a_row, …]`, a `prange` over `t`, …) is outside what this theorem can
see; that the source really indexes `jc[a_row, b_row, i, j]` inside `prange(a_row)` is re-checked on
every run by `kernel_source_as_modelled` below (a `decide` over the normalised loop nest, write
and guards extracted from `libinfo.pyx`), and the compiled code is exercised by the differential thread sweeps (1…16 threads)
of `harness/props/c18.py`. -/
theorem jc_interleaving (a b : Arr) (e : Exec Slab) (h : IsInterleaving (progs a b) e) :
    run e (fun _ => zeroSlab) = run (seqExec a b) (fun _ => zeroSlab) :=
  jc_interleaving_core a b e h

/-- the kernel executed under an arbitrary schedule is the kernel -/
theorem jc_interleaving_sched (choices : List Nat) (a b : Arr) (nA nB : Int) :
    matrixBincount2dSched choices a b nA nB = matrixBincount2d a b nA nB := by
  unfold matrixBincount2dSched matrixBincount2d
  rw [jc_interleaving_core a b _ (schedule_isInterleaving (progs a b) choices)]

/-- guard ok ⇒ the two arrays have the same number of frames and every write of the triple loop is
inside the `(Fa, Fb, nA, nB)` table -/
theorem jc_guard_sound (a b : Arr) (nA nB : Int) (h : guard a b nA nB = .ok ()) :
    a.T = b.T ∧ ∀ x, x < a.F → ∀ w ∈ writesOf a b x,
      w.1 < b.F ∧ 0 ≤ w.2.1 ∧ w.2.1 < nA ∧ 0 ≤ w.2.2 ∧ w.2.2 < nB := by
  obtain ⟨hT, hA, hB⟩ := guard_range a b nA nB h
  refine ⟨hT, fun x hx w hw => ?_⟩
  obtain ⟨y, hy, t, ht, rfl⟩ := (mem_writesOf a b x w).1 hw
  exact ⟨hy, (hA t x ht hx).1, (hA t x ht hx).2, (hB t y ht hy).1, (hB t y ht hy).2⟩

/-- the guard accepts exactly the well-formed streams: non-empty, equal lengths, every id in range -/
theorem jc_guard_iff (a b : Arr) (nA nB : Int) :
    guard a b nA nB = .ok () ↔
      a.F < 2 ^ 32 ∧ a.T = b.T ∧ a.entries ≠ [] ∧ b.entries ≠ [] ∧
      (∀ v ∈ a.entries, 0 ≤ v ∧ v < nA) ∧ (∀ v ∈ b.entries, 0 ≤ v ∧ v < nB) :=
  guard_ok_iff a b nA nB

/-- pooled trajectories: the table of the concatenation is the sum of the tables -/
theorem jc_additive (a a' b b' : Arr) (nA nB : Int) (r r' : JC)
    (hFa : a'.F = a.F) (hFb : b'.F = b.F)
    (h : matrixBincount2d a b nA nB = .ok r) (h' : matrixBincount2d a' b' nA nB = .ok r') :
    ∃ p, matrixBincount2d (a.append a') (b.append b') nA nB = .ok p ∧
      ∀ x y i j, p.cnt x y i j = r.cnt x y i j + r'.cnt x y i j := by
  obtain ⟨hg, rfl⟩ := (matrixBincount2d_ok_iff a b nA nB r).1 h
  obtain ⟨hg', rfl⟩ := (matrixBincount2d_ok_iff a' b' nA nB r').1 h'
  exact ⟨_, ok_of_guard _ _ nA nB (guard_append a a' b b' nA nB hFa hFb hg hg'),
    countTable_append a a' b b' nA nB (guard_range a b nA nB hg).1 hFa hFb⟩

/-- reordering the frames (the same way on both sides) gives the same table -/
theorem jc_perm_frames (a b : Arr) (nA nB : Int) (σ : Nat → Nat) (r : JC)
    (hσ : ((List.range a.T).map σ).Perm (List.range a.T))
    (h : matrixBincount2d a b nA nB = .ok r) :
    matrixBincount2d (a.permFrames σ) (b.permFrames σ) nA nB = .ok r := by
  obtain ⟨hg, rfl⟩ := (matrixBincount2d_ok_iff a b nA nB r).1 h
  rw [← countTable_permFrames a b nA nB σ hσ]
  exact ok_of_guard _ _ nA nB ((guard_permFrames a b nA nB σ hσ (guard_range a b nA nB hg).1).2 hg)

/-- relabelling the states of every feature by permutations of the declared range moves the counts
to the relabelled cells -/
theorem jc_relabel (a b : Arr) (nA nB : Int) (πa πb : Nat → Int → Int) (r : JC)
    (ha : ∀ f, f < a.F → RelabelOn (πa f) nA) (hb : ∀ f, f < b.F → RelabelOn (πb f) nB)
    (h : matrixBincount2d a b nA nB = .ok r) :
    ∃ p, matrixBincount2d (a.relabel πa) (b.relabel πb) nA nB = .ok p ∧
      ∀ x y i j, x < a.F → y < b.F → 0 ≤ i → i < nA → 0 ≤ j → j < nB →
        p.cnt x y (πa x i) (πb y j) = r.cnt x y i j := by
  obtain ⟨hg, rfl⟩ := (matrixBincount2d_ok_iff a b nA nB r).1 h
  refine ⟨_, ok_of_guard _ _ nA nB (guard_relabel a b nA nB πa πb ha hb hg),
    fun x y i j hx hy hi0 hi hj0 hj => ?_⟩
  show (if x < a.F ∧ y < b.F then frameCount (a.relabel πa) (b.relabel πb) x y (πa x i) (πb y j) else 0)
    = if x < a.F ∧ y < b.F then frameCount a b x y i j else 0
  rw [if_pos ⟨hx, hy⟩, if_pos ⟨hx, hy⟩,
    frameCount_relabel a b nA nB πa πb x y (ha x hx) (hb y hy) hg hx hy i j hi0 hi hj0 hj]

/-- the 1-D kernel `libinfo.bincount2d`: `H[i, j]` is the exact number of frames with `a[t] = i`
and `b[t] = j` -/
theorem bincount1_exact (a b : Arr) (nA nB : Int) (h : Tab2) (hk : bincount2d a b nA nB = .ok h) :
    h.nA = nA ∧ h.nB = nB ∧ ∀ i j, h.cnt i j = frameCount a b 0 0 i j := by
  obtain ⟨_, _, _, _, _, rfl⟩ := bincount2d_ok a b nA nB h hk
  refine ⟨rfl, rfl, fun i j => ?_⟩
  show runSteps _ zeroSlab 0 i j = _
  rw [runSteps_bump, count_writes1]
  exact Nat.zero_add _

/-- … and its guards (equal lengths, ids in range) keep every write inside the table -/
theorem bincount1_guard_sound (a b : Arr) (nA nB : Int) (h : Tab2) (hFa : 0 < a.F) (hFb : 0 < b.F)
    (hk : bincount2d a b nA nB = .ok h) :
    a.T = b.T ∧ ∀ w ∈ writes1 a b, 0 ≤ w.2.1 ∧ w.2.1 < nA ∧ 0 ≤ w.2.2 ∧ w.2.2 < nB := by
  obtain ⟨_, _, hT, hA, hB, _⟩ := bincount2d_ok a b nA nB h hk
  refine ⟨hT, fun w hw => ?_⟩
  obtain ⟨t, ht, rfl⟩ := List.mem_map.1 hw
  have ht' : t < a.T := List.mem_range.1 ht
  have h1 := hA (by omega) (a.get t 0) ((mem_entries a _).2 ⟨t, ht', 0, hFa, rfl⟩)
  have h2 := hB (by omega) (b.get t 0) ((mem_entries b _).2 ⟨t, hT ▸ ht', 0, hFb, rfl⟩)
  exact ⟨h1.1, h1.2, h2.1, h2.2⟩

/-- the NORMALISED structure of the two kernels, extracted from `libinfo.pyx` on this run
(`Model/Generated/InfoKernel.lean`, regenerated by `harness/props/c18.py translate`: comments,
docstrings, assert messages and scalar declarations dropped, locals renamed canonically — array
parameters `A`, `B`, state counts `NA`, `NB`, output `OUT`, loop variables `L0 L1 L2` by nesting
depth — temporaries and hoisted bounds inlined, counting `while` loops read as `range` loops) is the
one `Model.Info` mirrors:
* `matrix_bincount2d`: the outermost loop is the `prange` over `a.shape[1]`, inside it the loops over
  `b.shape[1]` and `a.shape[0]`; there is exactly one write, in the innermost loop,
  `jc[prange index, inner index, a[t, prange index], b[t, inner index]] += 1` (iteration `a_row` owns the
  slab `jc[a_row, …]`); the guards are exactly the six modelled ones, all before the loops; the output is `np.zeros` of `uint32`
  with shape `(a.shape[1], b.shape[1], n_a, n_b)` and is what is returned; nothing unrecognised;
* `bincount2d`: one loop over `a.shape[0]`, the single write `H[a[t], b[t]] += 1`, the length guard
  and the four range guards under `a.shape[0] > 0`, `np.zeros((n_a, n_b), uint32)`;
* both fused types list the eight integer dtypes;
* pinned exactly (not only contained): the guard SET, each guard tagged `pre:` (before the first loop — a
  guard behind the loop nest would let the out-of-bounds write happen first); the enclosing condition of
  the write (`depth|cond|…`, must be empty); the declared C types of the parameters, loop variables and
  index temporaries (`long` / `unsigned int`, `int` state counts — a narrower type would wrap ids); the
  declared buffer type of the output; the decorators and module-level `# cython:` directives.
Renaming locals, deleting unused declarations, reordering declarations or rewriting the frame loop
as a counting `while` leave this structure unchanged; a different write cell, a dropped guard,
`np.empty`, or a `prange` on another loop make the obligation fail (the check then escalates). -/
theorem kernel_source_as_modelled :
    (Ens.Info.Gen.matrixBincount2d.loops =
        [("prange", "A.shape[1]"), ("range", "B.shape[1]"), ("range", "A.shape[0]")] ∧
     Ens.Info.Gen.matrixBincount2d.writes = ["3||OUT[L0,L1,A[L2,L0],B[L2,L1]]+=1"] ∧
     Ens.Info.Gen.matrixBincount2d.guards =
        ["pre:A.max()<NA", "pre:A.min()>=0", "pre:A.shape[0]==B.shape[0]", "pre:A.shape[1]<2**32",
         "pre:B.max()<NB", "pre:B.min()>=0"] ∧
     Ens.Info.Gen.matrixBincount2d.alloc =
        ["zeros", "(A.shape[1],B.shape[1],NA,NB)", "np.uint32", "buffer:np.ndarray[np.uint32_t,ndim=4]"] ∧
     Ens.Info.Gen.matrixBincount2d.ret = "OUT" ∧
     Ens.Info.Gen.matrixBincount2d.extras = [] ∧
     Ens.Info.Gen.matrixBincount2d.types =
        [("A", "INTEGRAL_2D_ARRAY"), ("A[L2,L0]", "long"), ("B", "INTEGRAL_2D_ARRAY"), ("B[L2,L1]", "long"),
         ("L0", "long"), ("L1", "long"), ("L2", "long"), ("NA", "int"), ("NB", "int")] ∧
     Ens.Info.Gen.matrixBincount2d.tags = ["@cython.boundscheck(False)", "@cython.wraparound(False)"]) ∧
    (Ens.Info.Gen.bincount2d.loops = [("range", "A.shape[0]")] ∧
     Ens.Info.Gen.bincount2d.writes = ["1||OUT[A[L0],B[L0]]+=1"] ∧
     Ens.Info.Gen.bincount2d.guards =
        ["pre:A.shape[0]==B.shape[0]", "pre:A.shape[0]>0=>A.max()<NA", "pre:A.shape[0]>0=>A.min()>=0",
         "pre:A.shape[0]>0=>B.max()<NB", "pre:A.shape[0]>0=>B.min()>=0"] ∧
     Ens.Info.Gen.bincount2d.alloc = ["zeros", "(NA,NB)", "np.uint32", "buffer:np.ndarray[np.uint32_t,ndim=2]"] ∧
     Ens.Info.Gen.bincount2d.ret = "OUT" ∧
     Ens.Info.Gen.bincount2d.extras = [] ∧
     Ens.Info.Gen.bincount2d.types =
        [("A", "INTEGRAL_1D_ARRAY"), ("A[L0]", "unsigned int"), ("B", "INTEGRAL_1D_ARRAY"),
         ("B[L0]", "unsigned int"), ("L0", "unsigned int"), ("NA", "int"), ("NB", "int")] ∧
     Ens.Info.Gen.bincount2d.tags = ["@cython.boundscheck(False)"]) ∧
    Ens.Info.Gen.fused =
      [("INTEGRAL_1D_ARRAY", ["int8", "int16", "int32", "int64", "uint8", "uint16", "uint32", "uint64"]),
       ("INTEGRAL_2D_ARRAY", ["int8", "int16", "int32", "int64", "uint8", "uint16", "uint32", "uint64"])] := by
  decide +kernel

/-- the value of the model's term list is `Σ_uv P_uv log (P_uv / (P_u· P_·v))` for `P = counts / N` -/
theorem mi_terms_value (c : ℕ → ℕ → ℕ) (nA nB : ℕ) :
    termsVal (miTerms c nA nB) = miF (probTable c nA nB) nA nB :=
  miTerms_val c nA nB

/-- mutual information is non-negative, for every table of counts -/
theorem mi_nonneg (j : JC) (x y : Nat) : 0 ≤ miVal j x y :=
  miTerms_nonneg _ _ _

/-- a data set against itself: `mi[x, y] = mi[y, x]` -/
theorem mi_symm_self (a : Arr) (n : ℤ) (r : JC) (h : matrixBincount2d a a n n = .ok r)
    (x y : Nat) (hx : x < a.F) (hy : y < a.F) : miVal r x y = miVal r y x :=
  mi_symm a a n n r r h h x y hx hy

/-- the diagonal is the Shannon entropy of the feature (as `shannon_entropy` computes it from the
marginal counts) -/
theorem mi_diag_eq_entropy (a : Arr) (n : ℤ) (r : JC) (h : matrixBincount2d a a n n = .ok r)
    (x : Nat) (hx : x < a.F) :
    ∃ ts, entropyTerms (countsList (fun u => margCount a x (u : ℤ)) n.toNat) true = .ok ts ∧
      termsVal ts = miVal r x x := by
  obtain ⟨_, hT, _, _, hr, _⟩ := ok_range a a n n ((matrixBincount2d_ok_iff a a n n r).1 h).1
  obtain ⟨ts, hts, hv⟩ := entropy_ok a x n.toNat hT (hr x hx)
  refine ⟨ts, hts, ?_⟩
  rw [hv, miVal_eq a a n n r h x x hx hx, ← miF_diag]
  congr 1
  funext u v
  rw [frameCount_diag]
  by_cases huv : u = v <;> simp [huv]

/-- `mi[x, y]` is at most the entropy of feature `x` of the first side and at most the entropy of
feature `y` of the second side -/
theorem mi_le_min_entropy (a b : Arr) (nA nB : ℤ) (r : JC) (h : matrixBincount2d a b nA nB = .ok r)
    (x y : Nat) (hx : x < a.F) (hy : y < b.F) :
    ∃ tx ty,
      entropyTerms (countsList (fun u => margCount a x (u : ℤ)) nA.toNat) true = .ok tx ∧
      entropyTerms (countsList (fun v => margCount b y (v : ℤ)) nB.toNat) true = .ok ty ∧
      miVal r x y ≤ termsVal tx ∧ miVal r x y ≤ termsVal ty := by
  obtain ⟨hT, hTpos, _, _, hra, hrb⟩ := ok_range a b nA nB ((matrixBincount2d_ok_iff a b nA nB r).1 h).1
  obtain ⟨tx, htx, vx⟩ := entropy_ok a x nA.toNat hTpos (hra x hx)
  obtain ⟨ty, hty, vy⟩ := entropy_ok b y nB.toNat (hT ▸ hTpos) (fun t ht => hrb y hy t (hT ▸ ht))
  have hP : ∀ u < nA.toNat, ∀ v < nB.toNat,
      (0 : ℝ) ≤ (frameCount a b x y (u : ℤ) (v : ℤ) : ℝ) / (a.T : ℝ) := fun u _ v _ => by positivity
  refine ⟨tx, ty, htx, hty, ?_, ?_⟩
  · rw [vx, miVal_eq a b nA nB r h x y hx hy, ← funext (fun u => rowS_frameCount a b x y _ u (hrb y hy))]
    exact miF_le_entF_row _ _ _ hP
  · rw [vy, miVal_eq a b nA nB r h x y hx hy, ← funext (fun v => colS_frameCount a b x y _ v hT (hra x hx))]
    exact miF_le_entF_col _ _ _ hP

/-- relabelling states leaves the mutual information unchanged -/
theorem mi_relabel_invariant (a b : Arr) (nA nB : ℤ) (πa πb : Nat → ℤ → ℤ) (r p : JC)
    (ha : ∀ f, f < a.F → RelabelOn (πa f) nA) (hb : ∀ f, f < b.F → RelabelOn (πb f) nB)
    (h : matrixBincount2d a b nA nB = .ok r)
    (hp : matrixBincount2d (a.relabel πa) (b.relabel πb) nA nB = .ok p)
    (x y : Nat) (hx : x < a.F) (hy : y < b.F) : miVal p x y = miVal r x y := by
  have hg := ((matrixBincount2d_ok_iff a b nA nB r).1 h).1
  obtain ⟨_, _, cA, cB, _, _⟩ := ok_range a b nA nB hg
  obtain ⟨hσ, hσi⟩ := relabelOn_toNat (ha x hx) cA
  obtain ⟨hρ, hρi⟩ := relabelOn_toNat (hb y hy) cB
  rw [miVal_eq a b nA nB r h x y hx hy, miVal_eq _ _ nA nB p hp x y hx hy,
    ← miF_relabel _ nA.toNat nB.toNat (fun u => (πa x (u : ℤ)).toNat) (fun v => (πb y (v : ℤ)).toNat)
      (fun u hu => (hσ u hu).1) hσi (fun v hv => (hρ v hv).1) hρi]
  apply miF_congr
  intro u hu v hv
  show (frameCount (a.relabel πa) (b.relabel πb) x y (((πa x (u : ℤ)).toNat : ℕ) : ℤ)
    (((πb y (v : ℤ)).toNat : ℕ) : ℤ) : ℝ) / (a.T : ℝ) = _
  rw [(hσ u hu).2, (hρ v hv).2, frameCount_relabel a b nA nB πa πb x y (ha x hx) (hb y hy) hg hx hy
    (u : ℤ) (v : ℤ) (by omega) (by omega) (by omega) (by omega)]

/-- reordering frames leaves the mutual information unchanged -/
theorem mi_frame_perm_invariant (a b : Arr) (nA nB : Int) (σ : Nat → Nat) (r p : JC)
    (hσ : ((List.range a.T).map σ).Perm (List.range a.T))
    (h : matrixBincount2d a b nA nB = .ok r)
    (hp : matrixBincount2d (a.permFrames σ) (b.permFrames σ) nA nB = .ok p) (x y : Nat) :
    miVal p x y = miVal r x y := by
  rw [jc_perm_frames a b nA nB σ r hσ h] at hp
  cases hp; rfl

/-- several trajectories: `mi_matrix` adds the tables (`jc += jc_i`), which is the table of the
concatenated trajectories, so its mutual information is that of the pooled counts -/
theorem mi_pooled (a a' b b' : Arr) (nA nB : ℤ) (r r' : JC)
    (hFa : a'.F = a.F) (hFb : b'.F = b.F)
    (h : matrixBincount2d a b nA nB = .ok r) (h' : matrixBincount2d a' b' nA nB = .ok r') :
    ∃ p, matrixBincount2d (a.append a') (b.append b') nA nB = .ok p ∧
      p.cnt = (r.add r').cnt ∧ ∀ x y, miVal p x y = miVal (r.add r') x y := by
  obtain ⟨p, hp, hc⟩ := jc_additive a a' b b' nA nB r r' hFa hFb h h'
  have hc : p.cnt = (r.add r').cnt := by
    funext x y i j
    exact hc x y i j
  obtain ⟨_, _, eA, eB, _⟩ := jc_exact _ _ nA nB p hp
  obtain ⟨_, _, eA', eB', _⟩ := jc_exact a b nA nB r h
  exact ⟨p, hp, hc, miVal_congr _ _ hc (eA.trans eA'.symm) (eB.trans eB'.symm)⟩

/-- `mi_matrix` over any number of trajectories (any dtypes): every cell of the accumulated table is
the sum of the per-trajectory frame counts -/
theorem mi_pooled_counts (trajs : List (TArr × TArr)) (nx ny : Int) (p : JC)
    (hv : ∀ XY ∈ trajs, XY.1.valid ∧ XY.2.valid)
    (h : miMatrixCounts trajs nx ny = .ok p) :
    ∀ x y i j, p.cnt x y i j = (trajs.map fun XY => trajCount XY x y i j).sum := by
  cases trajs with
  | nil => cases h
  | cons XY rest =>
    -- the accumulation step written out in `miMatrixCounts` is `miStep nx ny`
    have h : (jointCounts XY.1 (some XY.2) (some nx) (some ny) >>= fun j0 =>
        rest.foldlM (miStep nx ny) j0) = .ok p := h
    obtain ⟨j0, hj, h⟩ := bind_eq_ok.1 h
    have hv0 := hv XY List.mem_cons_self
    intro x y i j
    rw [foldlM_miStep nx ny rest j0 p (fun Z hZ => hv Z (List.mem_cons_of_mem _ hZ)) h,
      jointCounts_eq XY.1 XY.2 hv0.1 hv0.2 nx ny j0 hj, List.map_cons, List.sum_cons]
    rfl

/-- under uniform weights (any positive constant, normalised by the code to `1/T`) the weighted
estimator produces, for every feature pair, exactly the terms the counts-based estimator produces
from the joint counts of the data set against itself (`M` = the declared number of states, all ids
below it) -/
theorem weighted_uniform_eq_counts (X : Arr) (c : ℚ) (hc : 0 < c) (f g : ℕ) (M : ℕ) (hT : 0 < X.T)
    (hf : ∀ t, t < X.T → 0 ≤ X.get t f ∧ X.get t f < (M : ℤ))
    (hg : ∀ t, t < X.T → 0 ≤ X.get t g ∧ X.get t g < (M : ℤ)) :
    wmiTerms X (normWeights (List.replicate X.T c)) M f g
      = miTerms (fun (u v : ℕ) => frameCount X X f g (u : ℤ) (v : ℤ)) M M := by
  unfold wmiTerms miTerms
  congr 1
  funext u
  congr 1
  funext v
  exact wmiCell_uniform X _ f g M u v hT (fun t ht => normWeights_replicate X.T c hc t ht) hf hg

/-- `weighted_mi` returns those term lists (after its validation stage) -/
theorem weighted_mi_terms (X : Arr) (wl : List ℚ) (nfs : Option (List ℤ)) (res : WMI)
    (h : weightedMi X wl nfs = .ok res) :
    ∃ v, wmiValidate X wl nfs = .ok v ∧ res.states = v.1 ∧
      res.terms = tabulate X.F fun f => tabulate X.F fun g =>
        wmiTerms X (normWeights wl) v.2.toNat f g := by
  obtain ⟨v, hv, h⟩ := bind_eq_ok.1 h
  cases h
  exact ⟨v, hv, rfl, rfl⟩

/-- entry `(i, j)` is divided by `log (min n_x[i] n_y[j])`, and that minimum is ≥ 2 -/
theorem ccn_entry (rows cols : Nat) (nx ny : Int ⊕ List Int) (g : List (List Int))
    (h : channelCapacityArgs rows cols nx ny = .ok g) :
    g.length = rows ∧ ∀ i, i < rows → ∀ j, j < cols → ∃ a b,
      stateAt nx i = some a ∧ stateAt ny j = some b ∧
      (g[i]?).bind (·[j]?) = some (min a b) ∧ 2 ≤ min a b := by
  obtain ⟨lx, h1, h⟩ := bind_eq_ok.1 h
  obtain ⟨ly, h2, h⟩ := bind_eq_ok.1 h
  cases h
  obtain ⟨x1, x2, x3⟩ := validateStates_ok nx rows lx h1
  obtain ⟨y1, y2, y3⟩ := validateStates_ok ny cols ly h2
  refine ⟨by rw [ccnGrid_length, x1], fun i hi j hj => ?_⟩
  have hi' : i < lx.length := by omega
  have hj' : j < ly.length := by omega
  have a2 := x3 lx[i] (List.getElem_mem hi')
  have b2 := y3 ly[j] (List.getElem_mem hj')
  exact ⟨lx[i], ly[j], by rw [← x2 i hi, List.getElem?_eq_getElem hi'],
    by rw [← y2 j hj, List.getElem?_eq_getElem hj'],
    ccnGrid_get lx ly i j _ _ (List.getElem?_eq_getElem hi') (List.getElem?_eq_getElem hj'), by omega⟩

/-- the grid of the code before the `indexing='ij'` fix (numpy's default `'xy'`) is a different grid -/
theorem ccn_xy_grid_counterexample : ¬ (∀ nx ny : List Int, ccnGridXY nx ny = ccnGrid nx ny) := by
  intro h
  have := h [2, 3] [4, 5, 6]
  revert this
  decide +kernel

/-- `kl_divergence(P, Q) ≥ 0` when `Σ Q ≤ Σ P` (in particular for two probability distributions);
the code divides by `log base`, which keeps the sign for `base > 1` -/
theorem kl_nonneg (P Q : List ℚ) (ts : List Term) (h : klTerms P Q = .ok (.terms ts))
    (hsum : ratSum Q ≤ ratSum P) (base : ℝ) (hb : 1 < base) : 0 ≤ termsVal ts / Real.log base :=
  div_nonneg (kl_nonneg_core P Q ts h hsum) (Real.log_nonneg hb.le)

/-- … and it is zero exactly for equal distributions -/
theorem kl_eq_zero_iff (P Q : List ℚ) (ts : List Term) (h : klTerms P Q = .ok (.terms ts))
    (hsum : ratSum Q = ratSum P) (base : ℝ) (hb : 1 < base) :
    termsVal ts / Real.log base = 0 ↔ P = Q := by
  rw [div_eq_zero_iff, kl_eq_zero_iff_core P Q ts h hsum]
  have : Real.log base ≠ 0 := (Real.log_pos hb).ne'
  simp [this]

/-- the `inf` result (some `p > 0` where `q = 0`) only occurs for different distributions -/
theorem kl_inf_only_if_ne (P Q : List ℚ) (h : klTerms P Q = .ok .inf) : P ≠ Q := by
  rintro rfl
  have hr := (klTerms_ok P P _ h).2.2.2
  split at hr
  · next h3 =>
    obtain ⟨x, hx, hp⟩ := List.any_eq_true.1 h3
    have hp := of_decide_eq_true hp
    rw [← (mem_zip_self.1 hx).1] at hp
    exact hp.1.ne' hp.2
  · cases hr

/-! ### non-vacuity: concrete instances satisfying the hypotheses -/

/-- 3 frames × 2 features, states `< 2` -/
def exA : Arr := ⟨3, 2, fun t f => match t, f with
  | 0, 0 => 0 | 0, 1 => 1 | 1, 0 => 1 | 1, 1 => 0 | 2, 0 => 1 | 2, 1 => 1 | _, _ => 0⟩
/-- 3 frames × 1 feature, states `< 3` -/
def exB : Arr := ⟨3, 1, fun t _ => match t with | 0 => 0 | 1 => 2 | 2 => 1 | _ => 0⟩

-- jc_exact / jc_guard_sound / jc_guard_iff: the guard accepts, the table is the expected one
example : guard exA exB 2 3 = .ok () := by decide +kernel
example : (matrixBincount2d exA exB 2 3).map JC.toLists
    = .ok [[[[1, 0, 0], [0, 1, 1]]], [[[0, 0, 1], [1, 1, 0]]]] := by decide +kernel
-- … and the error branches are reachable: too-large id, negative id, different lengths, empty
example : (matrixBincount2d exA exB 2 2).map JC.toLists = .error .assertion := by decide +kernel
example : (matrixBincount2d exA (exB.relabel fun _ v => v - 1) 2 3).map JC.toLists = .error .assertion := by decide +kernel
example : (matrixBincount2d exA { exB with T := 2 } 2 3).map JC.toLists = .error .assertion := by decide +kernel
example : (matrixBincount2d { exA with T := 0 } { exB with T := 0 } 2 3).map JC.toLists = .error .valueError := by decide +kernel

-- bincount1_exact / bincount1_guard_sound: first column of `exA` against `exB`; the error branches
example : (bincount2d exA exB 2 3).map Tab2.toLists = .ok [[1, 0, 0], [0, 1, 1]] := by decide +kernel
example : (bincount2d exA exB 2 2).map Tab2.toLists = .error .assertion := by decide +kernel
example : (bincount2d exA (exB.relabel fun _ v => v - 1) 2 3).map Tab2.toLists = .error .assertion := by decide +kernel
example : (bincount2d exA { exB with T := 2 } 2 3).map Tab2.toLists = .error .assertion := by decide +kernel
example : (bincount2d { exA with T := 0 } { exB with T := 0 } 2 3).map Tab2.toLists = .ok [[0, 0, 0], [0, 0, 0]] := by
  decide +kernel

-- jc_exact_all_dtypes: int8 against uint16, both valid
example : (⟨⟨8, true⟩, exA⟩ : TArr).valid := by
  refine ⟨Or.inl rfl, ?_⟩; decide +kernel
example : (⟨⟨16, false⟩, exB⟩ : TArr).valid := by
  refine ⟨Or.inr (Or.inl rfl), ?_⟩; decide +kernel
example : (jointCounts ⟨⟨8, true⟩, exA⟩ (some ⟨⟨16, false⟩, exB⟩) (some 2) (some 3)).map JC.toLists
    = .ok [[[[1, 0, 0], [0, 1, 1]]], [[[0, 0, 1], [1, 1, 0]]]] := by decide +kernel
-- a negative id in a signed array is rejected before the cast to the unsigned dtype
example : (jointCounts ⟨⟨8, true⟩, exA.relabel fun _ v => v - 1⟩ (some ⟨⟨8, false⟩, exB⟩) (some 300) (some 3)).map
    JC.toLists = .error .dataInvalid := by decide +kernel

-- jc_interleaving: a genuinely interleaved execution (cells alternate) is an interleaving
example : IsInterleaving (progs exA exB) (schedule (progs exA exB) [1, 0, 1, 1, 0]) :=
  schedule_isInterleaving _ _
example : (schedule (progs exA exB) [1, 0, 1, 1, 0]).map (·.1) = [1, 0, 1, 1, 0, 0] := by decide +kernel
example : (seqExec exA exB).map (·.1) = [0, 0, 0, 1, 1, 1] := by decide +kernel

-- jc_additive: same feature counts on both sides
example : ∃ r r', matrixBincount2d exA exB 2 3 = .ok r ∧ matrixBincount2d exA exB 2 3 = .ok r' :=
  ⟨_, _, ok_of_guard exA exB 2 3 (by decide +kernel), ok_of_guard exA exB 2 3 (by decide +kernel)⟩

-- jc_perm_frames: reversing three frames
example : ((List.range exA.T).map fun t => 2 - t).Perm (List.range exA.T) := by decide +kernel

-- jc_relabel / mi_relabel_invariant: swapping the two states of the first side, a 3-cycle on the second
example : RelabelOn (fun v => 1 - v) 2 :=
  ⟨fun v _ _ => by show 0 ≤ 1 - v ∧ 1 - v < 2; omega, fun v w _ _ _ _ h => by have : 1 - v = 1 - w := h; omega⟩
example : RelabelOn (fun v => (v + 1) % 3) 3 :=
  ⟨fun v _ _ => by show 0 ≤ (v + 1) % 3 ∧ (v + 1) % 3 < 3; omega,
   fun v w _ _ _ _ h => by have : (v + 1) % 3 = (w + 1) % 3 := h; omega⟩

-- mi_symm_self / mi_diag_eq_entropy: a data set against itself
example : guard exA exA 2 2 = .ok () := by decide +kernel

-- mi_terms_value / mi_nonneg: a table with dependent features has non-empty term lists
example : miTerms (fun u v => if u = v then 1 else 0) 2 2 = [((1 : ℚ) / 2, 2), ((1 : ℚ) / 2, 2)] := by decide +kernel
-- the all-zero table (no observations) has no terms: the guarded division skips every cell
example : miTerms (fun _ _ => 0) 2 2 = [] := by decide +kernel

-- mi_pooled_counts: two trajectories of different dtypes
example : (miMatrixCounts [(⟨⟨8, true⟩, exA⟩, ⟨⟨16, false⟩, exB⟩), (⟨⟨8, true⟩, exA⟩, ⟨⟨16, false⟩, exB⟩)] 2 3).map
    JC.toLists = .ok [[[[2, 0, 0], [0, 2, 2]]], [[[0, 0, 2], [2, 2, 0]]]] := by decide +kernel

-- weighted_uniform_eq_counts / weighted_mi_terms: three frames, weights 1/3 and unnormalised weights 2
example : ∀ t, t < exA.T → 0 ≤ exA.get t 0 ∧ exA.get t 0 < ((2 : ℕ) : ℤ) := by decide +kernel
example : (weightedMi exA [1 / 3, 1 / 3, 1 / 3] none).map (·.terms)
    = (weightedMi exA [2, 2, 2] (some [2, 2])).map (·.terms) := by decide +kernel
example : (weightedMi exA [1 / 3, 1 / 3, 1 / 3] none).map (·.states) = .ok [2, 2] := by decide +kernel
example : (weightedMi exA [1 / 3, 1 / 3] none).map (·.states) = .error .dataInvalid := by decide +kernel
example : (weightedMi exA [1 / 3, -1 / 3, 1] none).map (·.states) = .error .assertion := by decide +kernel

-- ccn_entry: different lengths and different state counts on the two sides; scalar broadcast; errors
example : channelCapacityArgs 2 3 (.inr [2, 3]) (.inr [4, 5, 2]) = .ok [[2, 2, 2], [3, 3, 2]] := by decide +kernel
example : channelCapacityArgs 2 3 (.inl 4) (.inr [4, 5, 2]) = .ok [[4, 4, 2], [4, 4, 2]] := by decide +kernel
example : channelCapacityArgs 2 3 (.inr [2, 3, 4]) (.inr [4, 5, 2]) = .error .dataInvalid := by decide +kernel
example : channelCapacityArgs 2 3 (.inr [1, 3]) (.inr [4, 5, 2]) = .error .dataInvalid := by decide +kernel

-- kl_nonneg / kl_eq_zero_iff: two distributions with equal sums
example : klTerms [(1 : ℚ) / 2, 1 / 2, 0] [(1 : ℚ) / 4, 1 / 2, 1 / 4]
    = .ok (.terms [((1 : ℚ) / 2, 2), ((1 : ℚ) / 2, 1)]) := by decide +kernel
example : ratSum [(1 : ℚ) / 4, 1 / 2, 1 / 4] = ratSum [(1 : ℚ) / 2, 1 / 2, 0] := by decide +kernel
-- the other branches: `inf` when `p > 0 = q`, negative probability, different lengths
example : klTerms [(1 : ℚ) / 2, 1 / 2] [1, 0] = .ok .inf := by decide +kernel
example : klTerms [(3 : ℚ) / 2, -1 / 2] [1, 0] = .error .dataInvalid := by decide +kernel
example : klTerms [(1 : ℚ)] [1, 0] = .error .runtimeError := by decide +kernel

end C18
