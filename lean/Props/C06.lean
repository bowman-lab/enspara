import Proofs.C06Dtype
/-!
# C06 — ragged-array writes keep all views coherent over any operation history

Model: `Ens.RaggedW` (`lean/Model/RaggedW.lean`), `step cfg : State α → Op α → Except Err …` mirrors
`RaggedArray.__setitem__ / append / map_operator / __invert__ / __init__` of `enspara/ra/ra.py` with
`_data`, `_array`, `lengths` as separate fields.  `cfg` names a variant of the code:
`Cfg.current` = `/repo` HEAD (the five `fix:` commits of the read-side, write-side and operator-priority
repairs and the all-empty `append` repair are in),
`Cfg.beforeAppendEmpty` / `Cfg.beforePriority` / `Cfg.beforeC06` / `Cfg.asIs` = the variants before them.  Specification: `specStep` on a plain list
of rows.  Everything is for an arbitrary element type `α`, arbitrary states, operations, histories.

* Full-strength theorems for `/repo` HEAD (`Cfg.current`, all six repairs committed): `step_refines`,
  `step_preserves_coherent`, `history_refines`, `history_observers`, `dtype_stable_current`,
  `observers_agree`, `operators_pure_current`, `iop_elementwise_current`, `init_inv_rows`,
  `init_inv_flat`.
  Hypotheses: `Inv` (coherent, at least one row — what every constructor establishes, `init_inv_*`) of
  the START state and `Valid`, the property's own preconditions (operand / mask of the array's row
  structure — NOT guards of the code, see `Valid`).
* NOT theorems, checked by the correspondence (`harness/props/c06.py`) only: object identity and
  aliasing — "operators return NEW objects", "never alter their operands" (byte snapshots of both
  operands, of every index object and of every value object), "building by copy never aliases the
  caller's data".  The functional model cannot express sharing; `operators_pure*` only say that the
  result is the element-wise image and that `step` leaves the state as it was.
* The same statements for an arbitrary variant `cfg` carry the region `InScope cfg`
  (`…_variant` theorems); for the OLD variants the full statements are false — the
  `…_before_fix_counterexample`s (explicitly about `Cfg.beforeAppendEmpty` / `Cfg.beforePriority` / `Cfg.beforeC06` / `Cfg.asIs`) document what each
  committed repair changed.
-/
namespace C06
open Ens Ens.RaggedW
variable {α β γ : Type}

/-- the two stored representations describe the same content iff both are the images of one list of
rows (`_data` = concatenation, `lengths` = row lengths) -/
theorem coherent_iff_rows (s : State α) :
    Coherent s ↔ (s.data = s.array.flatten ∧ s.lengths = s.array.map List.length) := coherent_iff s

example : Coherent (⟨[1, 2, 3], [1, 2], [[1], [2, 3]], false, false⟩ : State Nat) := by decide +kernel
example : ¬ Coherent (⟨[1, 2, 3], [1, 2], [[9], [2, 3]], false, false⟩ : State Nat) := by decide +kernel

/-- partitioning the concatenation by the row lengths gives the rows back (`__init__(rows)`) -/
theorem partition_roundtrip (rows : Rows α) :
    partition (rows.map List.length) rows.flatten = rows := partition_flatten rows

/-- `RaggedArray(rows)` (any non-empty list of rows, rows may be empty): the object shows exactly
`rows` and satisfies the invariant all theorems below start from -/
theorem init_inv_rows (rows : Rows α) (obj : Bool) (h : rows ≠ []) :
    ∃ s, initRows rows obj = .ok s ∧ s.array = rows ∧ Inv s := initRows_spec rows obj h

/-- `RaggedArray([])` is the one input that does not give a usable object (no `_data` attribute) -/
theorem init_rows_empty (obj : Bool) : initRows ([] : Rows α) obj = .error .emptyArray := rfl

/-- `RaggedArray(array=flat, lengths=ls)` with `sum(ls) = len(flat)` (list or ndarray lengths, equal or
unequal, empty rows allowed), `/repo` HEAD: rows = the partition, invariant established -/
theorem init_inv_flat (cfg : Cfg) (hr : cfg.readsFix = true) (d : List α) (ls : List Nat) (np obj : Bool)
    (hne : ls ≠ []) (hsum : ls.sum = d.length) :
    ∃ s, initFlat cfg d ls np obj = .ok s ∧ s.array = partition ls d ∧ s.data = d ∧ s.lengths = ls ∧ Inv s :=
  initFlat_spec cfg d ls np obj hne hsum (Or.inr hr)

/-- … and a length list that does not add up to the data is rejected (DataInvalid / ValueError) -/
theorem init_flat_rejects (cfg : Cfg) (hr : cfg.readsFix = true) (d : List α) (ls : List Nat) (np obj : Bool)
    (hne : ls ≠ []) (hsum : ls.sum ≠ d.length) : ∃ e, initFlat cfg d ls np obj = .error e := by
  cases ls with
  | nil => exact absurd rfl hne
  | cons l0 ls =>
    unfold initFlat
    rw [if_neg (by rw [hr]; exact fun h => Bool.false_ne_true ((Bool.and_false _).symm.trans h))]
    dsimp only
    by_cases hb : (np && allEq (l0 :: ls)) = true
    · have hall := (Bool.and_eq_true_iff.mp hb).2
      rw [if_pos hb, if_pos hr, if_neg (fun hh => hsum ((allEq_sum hall).trans hh))]
      exact ⟨_, rfl⟩
    · rw [if_neg hb, partitionList, if_neg hsum]
      exact ⟨_, rfl⟩

example : ∃ s, initFlat Cfg.current [1, 2, 3] [1, 0, 2] true false = .ok s ∧ s.array = [[1], [], [2, 3]] :=
  ⟨_, rfl, rfl⟩

/-- **step_refines** for any variant of the code, in its region `InScope`.  In scope, a write does to the rows exactly what the
list-of-rows model does, raises exactly when the model raises (same error kind), and a pure
operator returns the model's result. -/
theorem step_refines_variant (cfg : Cfg) (s : State α) (op : Op α) (h : Inv s) (hs : InScope cfg s op) :
    absR (step cfg s op) = specStep s.array op :=
  (stepOK_of_inScope cfg h op hs).absR_eq

/-- **step_preserves_coherent** for any variant (in scope, and not the stale row-view write). -/
theorem step_preserves_coherent_variant (cfg : Cfg) (s s' : State α) (o : Option (State α)) (op : Op α)
    (h : Inv s) (hs : InScope cfg s op) (hst : ¬ StaleWrite cfg s op)
    (hstep : step cfg s op = .ok (s', o)) :
    Coherent s' ∧ s'.array ≠ [] ∧ ∀ b, o = some b → Coherent b :=
  let ⟨hinv, hval⟩ := (stepOK_of_inScope cfg h op hs).inv h hstep
  ⟨(hinv hst).1, (hinv hst).2, fun b hb => (hval b hb).1⟩

-- non-vacuity: a 2-d slice write in scope on the unchanged tree
example : InScope Cfg.asIs (⟨[1, 2, 3], [1, 2], [[1], [2, 3]], false, false⟩ : State Nat)
    (.set2d (.slice ⟨none, none, none⟩) (.slice ⟨some 0, some 1, none⟩) (.scalar 7)) := by decide +kernel
example : Inv (⟨[1, 2, 3], [1, 2], [[1], [2, 3]], false, false⟩ : State Nat) := by decide +kernel
example : absR (step Cfg.asIs (⟨[1, 2, 3], [1, 2], [[1], [2, 3]], false, false⟩ : State Nat)
    (.set2d (.slice ⟨none, none, none⟩) (.slice ⟨some 0, some 1, none⟩) (.scalar 7)))
    = .ok ([[7], [7, 3]], none) := by decide +kernel

def ragged0' : State Int := ⟨[1, 2, 3], [1, 2], [[1], [2, 3]], false, false⟩
def block0' : State Int := ⟨[1, 2, 3, 4], [2, 2], [[1, 2], [3, 4]], false, false⟩

/-- **The property's own preconditions** (NOT guards of the code):
* "operators between ragged arrays": the operand of `a ⊕ b` has the row structure of `a`.  `map_operator`
  itself only looks at the flat data (`self._data ⊕ other._data`): with a different row structure but
  the same number of cells it answers with `a`'s structure (the model `zipOp` does exactly that, and also
  mirrors numpy's 1-cell broadcasting); the list-of-rows model rejects such an operand.
* a boolean mask has the row structure of the array it indexes (`where` uses the mask's own starts).
Every other operation is valid on every array. -/
def Valid (s : State α) : Op α → Prop
  | .iop2 _ o => o.map List.length = s.lengths
  | .binop2 _ o => o.map List.length = s.lengths
  | .setMask mask _ => mask.map List.length = s.lengths
  | _ => True

instance (s : State α) [DecidableEq α] (op : Op α) : Decidable (Valid s op) := by
  cases op <;> dsimp only [Valid] <;> infer_instance

def isAppend : Op α → Bool
  | .append _ _ => true
  | .appendFlat _ => true
  | _ => false

/-- without the all-empty `append` repair (`Cfg.appendEmptyFix`), `append` on an array whose rows are ALL empty replaces the array
(`if len(self._data) == 0: self.__init__(values)`): the region that variant gets right -/
def AppendOK (cfg : Cfg) (s : State α) (op : Op α) : Prop :=
  cfg.appendEmptyFix = true ∨ isAppend op = false ∨ s.data ≠ []

instance [DecidableEq α] (cfg : Cfg) (s : State α) (op : Op α) : Decidable (AppendOK cfg s op) := by
  unfold AppendOK; infer_instance

/-- the read-side repair and the three write-side repairs are present -/
def Repaired (cfg : Cfg) : Prop :=
  cfg.readsFix = true ∧ cfg.rowViewsFix = true ∧ cfg.arrayViewsFix = true ∧ cfg.appendFix = true

/-- `c ⊕ a` with a numpy scalar / 0-d array on the LEFT -/
def isNpLeft : Op α → Bool
  | .npLeft _ _ => true
  | _ => false

/-- With these four repairs every valid operation is in scope, except an operator whose left operand is a
numpy scalar (without the operator-priority repair) and an `append` onto an array whose rows are all empty
(without the all-empty `append` repair: `AppendOK`). -/
theorem inScope_repaired (cfg : Cfg) (hr : Repaired cfg) (s : State α) (op : Op α) (h : Coherent s)
    (hv : Valid s op) (hn : cfg.priorityFix = true ∨ isNpLeft op = false) (ha : AppendOK cfg s op) :
    InScope cfg s op := by
  have hap : isAppend op = true → cfg.appendEmptyFix = true ∨ s.data ≠ [] := fun hop =>
    ha.imp_right fun h' => h'.resolve_left fun hf => Bool.noConfusion (hop.symm.trans hf)
  obtain ⟨h1, h2, _, h4⟩ := hr
  cases op with
  | setElem i j x => trivial
  | viewWrite i j x => trivial
  | setRow i v => exact Or.inl h2
  | setRows sel vs form => exact Or.inl h2
  | setIntSlice i sl v => trivial
  | set2d r c v => exact ⟨idxAgree_fixed cfg h1 h r c, Or.inl h2⟩
  | setPaired r c v => exact Or.inl h2
  | setMask mask v => exact ⟨maskAgree_of_lengths cfg h mask hv (Or.inl h1), Or.inl h2⟩
  | append vs form => exact ⟨hap rfl, Or.inl h4⟩
  | appendFlat v => exact ⟨h4, hap rfl⟩
  | iop f => exact Or.inr h1
  | iop2 g o => exact ⟨hv, Or.inr h1⟩
  | iopAt r c f => exact ⟨idxAgree_fixed cfg h1 h r c, Or.inl h2⟩
  | binop f => exact Or.inr h1
  | binop2 g o => exact ⟨hv, Or.inr h1⟩
  | copyCtor viaFlat np => exact Or.inr (Or.inr h1)
  | npLeft f rebind =>
    rcases hn with hn | hn
    · exact ⟨hn, Or.inr h1⟩
    · simp [isNpLeft] at hn

theorem repaired_current : Repaired Cfg.current := ⟨rfl, rfl, rfl, rfl⟩

/-- On the unchanged tree a mask assignment is in scope as soon as the mask has the row structure
of the array and at least one `True` cell (`where` + index conversion address exactly the `True`
cells: `maskAgree_of_lengths`). -/
theorem setMask_inScope_asIs (cfg : Cfg) (s : State α) (mask : List (List Bool)) (v : Val α)
    (h : Coherent s) (hlen : mask.map List.length = s.lengths)
    (htrue : (whereMask mask).isEmpty = false) (hv : ValOK cfg v) :
    InScope cfg s (.setMask mask v) :=
  ⟨maskAgree_of_lengths cfg h mask hlen (Or.inr htrue), hv⟩

/-- **The unchanged tree on plain 2-d indices.**  `a[r, c] = v` and `a[r, c] ⊕= k` are in scope for
EVERY variant of the code (in particular `Cfg.asIs`) when the row selector is a list of row numbers
or a slice with positive step, start ≥ -len and stop ≤ len, the column selector is an integer, a
non-empty list of integers or a slice with positive step and non-negative start, at least one row
is selected and (column slice) every selected row has a selected column: `PlainIdx`.
This is exactly the complement of the index classes of the known findings `set2d-*`. -/
theorem set2d_inScope_plain (cfg : Cfg) (s : State α) (r : Sel) (c : CSel) (v : Val α)
    (h : Coherent s) (hp : PlainIdx s.lengths r c) (hv : ValOK cfg v) :
    InScope cfg s (.set2d r c v) :=
  ⟨idxAgree_plain cfg h r c hp, hv⟩

theorem iopAt_inScope_plain (cfg : Cfg) (s : State α) (r : Sel) (c : CSel) (f : α → α)
    (h : Coherent s) (hp : PlainIdx s.lengths r c)
    (hn : cfg.rowViewsFix = true ∨ noRows cfg s.lengths.length r = false) :
    InScope cfg s (.iopAt r c f) :=
  ⟨idxAgree_plain cfg h r c hp, hn⟩

/-- the unchanged hand-written slice arithmetic equals CPython's `slice.indices` on plain slices -/
theorem asIs_slices_agree (n l : Nat) (rs cs : PySlice) (hr : PlainRowSlice n rs) (hc : PlainColSlice cs) :
    sliceToListAsIs rs n = specRowNums n (.slice rs) ∧ colsAsIs cs l = colsPy cs l :=
  ⟨sliceToListAsIs_plain n rs hr, colsAsIs_plain l cs hc⟩

-- non-vacuity: `a[-2:2, 1:] = …` on rows of lengths 2 and 3
example : PlainIdx [2, 3] (.slice ⟨some (-2), some 2, none⟩) (.slice ⟨some 1, none, some 2⟩) :=
  plainIdx_of_B _ _ _ (by decide +kernel)
example : PlainIdx [2, 3] (.list [-1, 0]) (.slice ⟨none, some (-1), none⟩) :=
  plainIdx_of_B _ _ _ (by decide +kernel)
-- … and the defect regions are outside
example : plainIdxB [2, 3] (.slice ⟨none, none, none⟩) (.slice ⟨some (-1), none, none⟩) = false := by decide +kernel
example : plainIdxB [2, 3] (.slice ⟨none, none, none⟩) (.slice ⟨some 2, none, none⟩) = false := by decide +kernel
example : plainIdxB [2, 3] (.slice ⟨none, some 3, none⟩) (.int 0) = false := by decide +kernel
example : plainIdxB [2, 3] (.slice ⟨none, none, some (-1)⟩) (.int 0) = false := by decide +kernel

/-- the full statement of *step_refines* for a variant of the code (not asserted in general) -/
def C06_step_refines_full (cfg : Cfg) : Prop :=
  ∀ (s : State Int) (op : Op Int), Inv s → Valid s op → absR (step cfg s op) = specStep s.array op

/-- the full statement of *step_preserves_coherent* -/
def C06_step_preserves_coherent_full (cfg : Cfg) : Prop :=
  ∀ (s s' : State Int) (o : Option (State Int)) (op : Op Int), Inv s → Valid s op →
    step cfg s op = .ok (s', o) → Coherent s'

def allEmpty0 : State Int := ⟨[], [0, 0], [[], []], false, false⟩
example : Inv allEmpty0 := by decide +kernel

/-- **step_refines**, full strength, `/repo` HEAD: every valid operation on every coherent array does to
the rows exactly what the list-of-rows model does (same result, same error kind, same operator
result). -/
theorem step_refines (s : State α) (op : Op α) (h : Inv s) (hv : Valid s op) :
    absR (step Cfg.current s op) = specStep s.array op :=
  step_refines_variant Cfg.current s op h
    (inScope_repaired _ repaired_current s op h.1 hv (Or.inl rfl) (Or.inl rfl))

/-- **step_preserves_coherent**, full strength, `/repo` HEAD (also for the result of a pure operator) -/
theorem step_preserves_coherent (s s' : State α) (o : Option (State α)) (op : Op α)
    (h : Inv s) (hv : Valid s op) (hstep : step Cfg.current s op = .ok (s', o)) :
    Coherent s' ∧ s'.array ≠ [] ∧ ∀ b, o = some b → Coherent b :=
  step_preserves_coherent_variant Cfg.current s s' o op h
    (inScope_repaired _ repaired_current s op h.1 hv (Or.inl rfl) (Or.inl rfl))
    (not_stale_of_fix Cfg.current rfl s op) hstep

example : C06_step_refines_full Cfg.current := fun s op h hv => step_refines s op h hv
example : C06_step_preserves_coherent_full Cfg.current :=
  fun s s' o op h hv hs => (step_preserves_coherent s s' o op h hv hs).1

/-! ### what the all-empty `append` repair changed: the variant `Cfg.beforeAppendEmpty` (for the record) -/

theorem repaired_beforeAppendEmpty : Repaired Cfg.beforeAppendEmpty := ⟨rfl, rfl, rfl, rfl⟩

/-- before the repair everything except `append` onto an array whose rows are all empty was already right -/
theorem step_refines_before_append_empty_fix (s : State α) (op : Op α) (h : Inv s) (hv : Valid s op)
    (ha : isAppend op = false ∨ s.data ≠ []) :
    absR (step Cfg.beforeAppendEmpty s op) = specStep s.array op :=
  step_refines_variant Cfg.beforeAppendEmpty s op h
    (inScope_repaired _ repaired_beforeAppendEmpty s op h.1 hv (Or.inl rfl) (Or.inr ha))

/-- `RaggedArray([[], []]).append([[1]])` gave `[[1]]` (the array was REPLACED), the list of rows is
`[[], [], [1]]`; HEAD gives the list-of-rows result -/
theorem append_all_empty_rows_before_fix_counterexample :
    absR (step Cfg.beforeAppendEmpty allEmpty0 (.append [[1]] .listarr)) = .ok ([[1]], none) ∧
    specStep allEmpty0.array (.append [[1]] .listarr) = .ok ([[], [], [1]], none) ∧
    absR (step Cfg.current allEmpty0 (.append [[1]] .listarr)) = .ok ([[], [], [1]], none) ∧
    absR (step Cfg.beforeAppendEmpty allEmpty0 (.appendFlat [1, 2])) = .ok ([[1, 2]], none) ∧
    absR (step Cfg.current allEmpty0 (.appendFlat [1, 2])) = .ok ([[], [], [1, 2]], none) :=
  ⟨by decide +kernel, by decide +kernel, by decide +kernel, by decide +kernel, by decide +kernel⟩

theorem step_refines_before_append_empty_fix_counterexample :
    ¬ C06_step_refines_full Cfg.beforeAppendEmpty := by
  intro h
  have := h allEmpty0 (.append [[1]] .listarr) (by decide +kernel) trivial
  revert this
  decide +kernel

/-! ### what the operator-priority repair changed: the variant `Cfg.beforePriority` (for the record) -/

theorem repaired_beforePriority : Repaired Cfg.beforePriority := ⟨rfl, rfl, rfl, rfl⟩

/-- without `__array_priority__` everything except a numpy scalar on the left of an operator was
already right -/
theorem step_refines_before_priority_fix (s : State α) (op : Op α) (h : Inv s) (hv : Valid s op)
    (hn : isNpLeft op = false) (ha : isAppend op = false ∨ s.data ≠ []) : absR (step Cfg.beforePriority s op) = specStep s.array op :=
  step_refines_variant Cfg.beforePriority s op h
    (inScope_repaired _ repaired_beforePriority s op h.1 hv (Or.inr hn) (Or.inr ha))

/-- `np.int64(2) * a` before the repair — ValueError on unequal rows, a plain ndarray on equal rows; the
list-of-rows model, `2 * a`, and HEAD give the element-wise result -/
theorem numpy_scalar_left_operand_before_fix_counterexample :
    absR (step Cfg.beforePriority ragged0' (.npLeft (2 * ·) false)) = .error .valueError ∧
    absR (step Cfg.beforePriority block0' (.npLeft (2 * ·) false)) = .error .notRagged ∧
    specStep block0'.array (.npLeft (2 * ·) false) = .ok ([[1, 2], [3, 4]], some [[2, 4], [6, 8]]) ∧
    absR (step Cfg.beforePriority block0' (.binop (2 * ·))) = .ok ([[1, 2], [3, 4]], some [[2, 4], [6, 8]]) ∧
    absR (step Cfg.current block0' (.npLeft (2 * ·) false)) = .ok ([[1, 2], [3, 4]], some [[2, 4], [6, 8]]) :=
  ⟨by decide +kernel, by decide +kernel, by decide +kernel, by decide +kernel, by decide +kernel⟩

theorem step_refines_before_priority_fix_counterexample : ¬ C06_step_refines_full Cfg.beforePriority := by
  intro h
  have := h block0' (.npLeft (2 * ·) false) (by decide +kernel) trivial
  revert this
  decide +kernel

/-! ### what the three write-side repairs changed: the variant `Cfg.beforeC06` (read-side repair only),
one witness per finding that was open then (all closed by the `fix:` commits; for the record) -/

/-- a ragged array `[[1], [2, 3]]` and an equal-length array `[[1, 2], [3, 4]]` as the
constructor builds them (2-d object block for equal lengths) -/
def ragged0 : State Int := ⟨[1, 2, 3], [1, 2], [[1], [2, 3]], false, false⟩
def block0 : State Int := ⟨[1, 2, 3, 4], [2, 2], [[1, 2], [3, 4]], false, false⟩
def all_ : PySlice := ⟨none, none, none⟩

example : Inv ragged0 ∧ Inv block0 := by decide +kernel

/-- `a[0] = [7, 8, 9]` on an equal-length array: ValueError; `a[0] = [7]` fills the row with 7 -/
theorem setrow_rectangular_resize_before_fix_counterexample :
    absR (step Cfg.beforeC06 block0 (.setRow 0 [7, 8, 9])) = .error .valueError ∧
    specStep block0.array (.setRow 0 [7, 8, 9]) = .ok ([[7, 8, 9], [3, 4]], none) ∧
    absR (step Cfg.beforeC06 block0 (.setRow 0 [7])) = .ok ([[7, 7], [3, 4]], none) ∧
    specStep block0.array (.setRow 0 [7]) = .ok ([[7], [3, 4]], none) :=
  ⟨by decide +kernel, by decide +kernel, by decide +kernel, by decide +kernel⟩

/-- `a[0:2] = RaggedArray([[5, 6, 1], [7, 8]])` (two rows, unequal) on a 2 x 2 array: the two row
OBJECTS are broadcast into the cells -/
theorem setrows_rectangular_before_fix_counterexample :
    absR (step Cfg.beforeC06 block0 (.setRows (.slice all_) [[5, 6, 1], [7, 8]] .ra)) = .error .garbled ∧
    specStep block0.array (.setRows (.slice all_) [[5, 6, 1], [7, 8]] .ra)
      = .ok ([[5, 6, 1], [7, 8]], none) := ⟨by decide +kernel, by decide +kernel⟩

/-- `a.append([5, 6])` : ValueError -/
theorem append_flat_row_before_fix_counterexample :
    absR (step Cfg.beforeC06 ragged0 (.appendFlat [5, 6])) ≠ specStep ragged0.array (.appendFlat [5, 6]) := by
  decide +kernel

/-- `a[5:, 0] += 1` (no row selected): IndexError from `value[0]`, the model does nothing -/
theorem iopat_no_row_selected_before_fix_counterexample :
    absR (step Cfg.beforeC06 ragged0 (.iopAt (.slice ⟨some 5, none, none⟩) (.int 0) (· + 1))) = .error .indexError ∧
    specStep ragged0.array (.iopAt (.slice ⟨some 5, none, none⟩) (.int 0) (· + 1)) = .ok ([[1], [2, 3]], none) :=
  ⟨by decide +kernel, by decide +kernel⟩

/-- `row = a[0]; row[0] = 9` on an equal-length array: `_array` changes, `_data` does not -/
theorem viewwrite_rectangular_before_fix_counterexample :
    ∃ s', step Cfg.beforeC06 block0 (.viewWrite 0 0 9) = .ok (s', none) ∧ ¬ Coherent s' ∧
      obsRow s' 0 = .ok [9, 2] ∧ obsElem s' 0 0 = .ok 1 :=
  ⟨⟨[1, 2, 3, 4], [2, 2], [[9, 2], [3, 4]], false, false⟩, by decide +kernel, by decide +kernel, by decide +kernel, by decide +kernel⟩

/-- a row write on an equal-length array turns `_data` into an object array (public `.dtype`) -/
theorem rowwrite_object_dtype_before_fix_counterexample :
    ∃ s', step Cfg.beforeC06 block0 (.setRow 0 [7, 8]) = .ok (s', none) ∧ s'.objDtype = true :=
  ⟨⟨[7, 8, 3, 4], [2, 2], [[7, 8], [3, 4]], false, true⟩, by decide +kernel, rfl⟩

/-- the full statement about the public `.dtype` observer: it never degrades to `object` -/
def C06_dtype_stable_full (cfg : Cfg) : Prop :=
  ∀ (s s' : State Int) (o : Option (State Int)) (op : Op Int), s.objDtype = false →
    step cfg s op = .ok (s', o) → s'.objDtype = false

/-- **dtype_stable** for any variant that has the row-view repair (every operation, every state) -/
theorem dtype_stable_variant (cfg : Cfg) (hfix : cfg.rowViewsFix = true) (s s' : State α)
    (o : Option (State α)) (op : Op α) (h0 : s.objDtype = false)
    (hstep : step cfg s op = .ok (s', o)) : s'.objDtype = false :=
  dtype_stable cfg hfix s s' o op h0 hstep

/-- **dtype_stable**, `/repo` HEAD: no operation ever turns `_data` into an object array -/
theorem dtype_stable_current (s s' : State α) (o : Option (State α)) (op : Op α) (h0 : s.objDtype = false)
    (hstep : step Cfg.current s op = .ok (s', o)) : s'.objDtype = false :=
  dtype_stable Cfg.current rfl s s' o op h0 hstep

example : C06_dtype_stable_full Cfg.current := fun s s' o op h0 hs => dtype_stable_current s s' o op h0 hs

theorem dtype_stable_before_fix_counterexample : ¬ C06_dtype_stable_full Cfg.beforeC06 := by
  intro h
  have := h block0 ⟨[7, 8, 3, 4], [2, 2], [[7, 8], [3, 4]], false, true⟩ none (.setRow 0 [7, 8]) rfl (by decide +kernel)
  cases this

/-- the full statement of step_refines was false before the write-side repairs -/
theorem step_refines_before_fix_counterexample : ¬ C06_step_refines_full Cfg.beforeC06 := by
  intro h
  have := h ragged0 (.appendFlat [5, 6]) (by decide +kernel) (by decide +kernel)
  exact append_flat_row_before_fix_counterexample this

/-- the full statement of step_preserves_coherent was false before the write-side repairs -/
theorem step_preserves_coherent_before_fix_counterexample : ¬ C06_step_preserves_coherent_full Cfg.beforeC06 := by
  intro h
  have := h block0 ⟨[1, 2, 3, 4], [2, 2], [[9, 2], [3, 4]], false, false⟩ none (.viewWrite 0 0 9)
    (by decide +kernel) trivial (by decide +kernel)
  revert this
  decide +kernel

/-- On `/repo` HEAD every 2-d index is handled like the list of rows (the read-side repair):
`a[r, c] = v` is in scope for every index and every non-degenerate value. -/
theorem set2d_inScope_current (s : State α) (r : Sel) (c : CSel) (v : Val α) (h : Coherent s)
    (hv : v.isEmptyContainer = false) : InScope Cfg.current s (.set2d r c v) :=
  ⟨idxAgree_fixed Cfg.current rfl h r c, Or.inr hv⟩

/-- … and so is every mask assignment with a mask of the array's row structure -/
theorem setMask_inScope_current (s : State α) (mask : List (List Bool)) (v : Val α) (h : Coherent s)
    (hlen : mask.map List.length = s.lengths) (hv : v.isEmptyContainer = false) :
    InScope Cfg.current s (.setMask mask v) :=
  ⟨maskAgree_of_lengths Cfg.current h mask hlen (Or.inl rfl), Or.inr hv⟩

/-! ### before the `fix:` commit of the read-side repair (`Cfg.asIs`), for the record:
the index classes that were known findings then, each now handled like the list of rows -/

/-- `a[mask] = 7` with an all-false mask: was IndexError -/
theorem setmask_all_false_before_fix_counterexample :
    absR (step Cfg.asIs ragged0 (.setMask [[false], [false, false]] (.scalar 7)))
      ≠ specStep ragged0.array (.setMask [[false], [false, false]] (.scalar 7)) ∧
    absR (step Cfg.current ragged0 (.setMask [[false], [false, false]] (.scalar 7)))
      = specStep ragged0.array (.setMask [[false], [false, false]] (.scalar 7)) := ⟨by decide +kernel, by decide +kernel⟩

/-- `a[:, 1:] = 7` when a selected row has no column 1: was TypeError -/
theorem set2d_empty_selection_before_fix_counterexample :
    absR (step Cfg.asIs ragged0 (.set2d (.slice all_) (.slice ⟨some 1, none, none⟩) (.scalar 7)))
      ≠ specStep ragged0.array (.set2d (.slice all_) (.slice ⟨some 1, none, none⟩) (.scalar 7)) ∧
    absR (step Cfg.current ragged0 (.set2d (.slice all_) (.slice ⟨some 1, none, none⟩) (.scalar 7)))
      = .ok ([[1], [2, 7]], none) := ⟨by decide +kernel, by decide +kernel⟩

/-- `a[:, -1:] = 7` : wrote every cell instead of the last cell of each row -/
theorem set2d_col_slice_negative_start_before_fix_counterexample :
    absR (step Cfg.asIs ragged0 (.set2d (.slice all_) (.slice ⟨some (-1), none, none⟩) (.scalar 7)))
      = .ok ([[7], [7, 7]], none) ∧
    absR (step Cfg.current ragged0 (.set2d (.slice all_) (.slice ⟨some (-1), none, none⟩) (.scalar 7)))
      = .ok ([[7], [2, 7]], none) ∧
    specStep ragged0.array (.set2d (.slice all_) (.slice ⟨some (-1), none, none⟩) (.scalar 7))
      = .ok ([[7], [2, 7]], none) := ⟨by decide +kernel, by decide +kernel, by decide +kernel⟩

/-- `a[:, ::-1] = 7` : was TypeError -/
theorem set2d_col_slice_negative_step_before_fix_counterexample :
    absR (step Cfg.asIs ragged0 (.set2d (.slice all_) (.slice ⟨none, none, some (-1)⟩) (.scalar 7)))
      ≠ specStep ragged0.array (.set2d (.slice all_) (.slice ⟨none, none, some (-1)⟩) (.scalar 7)) := by decide +kernel

/-- `a[::-1, 0] = 7` : was ValueError -/
theorem set2d_row_slice_negative_step_before_fix_counterexample :
    absR (step Cfg.asIs ragged0 (.set2d (.slice ⟨none, none, some (-1)⟩) (.int 0) (.scalar 7)))
      ≠ specStep ragged0.array (.set2d (.slice ⟨none, none, some (-1)⟩) (.int 0) (.scalar 7)) := by decide +kernel

/-- `a[:5, 0] = 7` on two rows: was IndexError -/
theorem set2d_row_slice_out_of_range_before_fix_counterexample :
    absR (step Cfg.asIs ragged0 (.set2d (.slice ⟨none, some 5, none⟩) (.int 0) (.scalar 7)))
      ≠ specStep ragged0.array (.set2d (.slice ⟨none, some 5, none⟩) (.int 0) (.scalar 7)) := by decide +kernel

/-- **history_refines** (partial): after ANY finite history whose operations are in scope, the rows of
the object are the rows of the list-of-rows model after the same history, and the two stored
representations are coherent — hence (`observers_agree`) every observer agrees with the model. -/
theorem history_refines_variant (cfg : Cfg) (s : State α) (ops : List (Op α)) (h : Inv s)
    (hall : AllInScope cfg s ops) :
    (run cfg s ops).array = specRun s.array ops ∧ Coherent (run cfg s ops) :=
  let ⟨h1, h2⟩ := run_refines cfg ops s h hall
  ⟨h1, h2.1⟩

/-- `P` holds for every operation of the history at the state it is applied to -/
def AllAlong (cfg : Cfg) (P : State α → Op α → Prop) : State α → List (Op α) → Prop
  | _, [] => True
  | s, op :: ops => P s op ∧
      (match step cfg s op with
        | .ok (s', _) => AllAlong cfg P s' ops
        | .error _ => AllAlong cfg P s ops)

/-- every operation of the history satisfies the property's preconditions where it is applied -/
abbrev AllValidC (cfg : Cfg) (s : State α) (ops : List (Op α)) : Prop := AllAlong cfg Valid s ops
abbrev AllValid (s : State α) (ops : List (Op α)) : Prop := AllValidC Cfg.current s ops
/-- … and no `append` is applied to an array whose rows are all empty -/
abbrev AllValidNow (s : State α) (ops : List (Op α)) : Prop :=
  AllAlong Cfg.current (fun s op => Valid s op ∧ (isAppend op = false ∨ s.data ≠ [])) s ops

def decAllAlong (cfg : Cfg) (P : State α → Op α → Prop) [∀ s op, Decidable (P s op)] :
    (ops : List (Op α)) → (s : State α) → Decidable (AllAlong cfg P s ops)
  | [], _ => isTrue trivial
  | op :: ops, s =>
    match hs : step cfg s op with
    | .ok (s', o) =>
      have := decAllAlong cfg P ops s'
      decidable_of_iff (P s op ∧ AllAlong cfg P s' ops) (by simp only [AllAlong, hs])
    | .error e =>
      have := decAllAlong cfg P ops s
      decidable_of_iff (P s op ∧ AllAlong cfg P s ops) (by simp only [AllAlong, hs])

instance (cfg : Cfg) (P : State α → Op α → Prop) [∀ s op, Decidable (P s op)] (ops : List (Op α))
    (s : State α) : Decidable (AllAlong cfg P s ops) := decAllAlong cfg P ops s

theorem allAlong_mono (cfg : Cfg) (P Q : State α → Op α → Prop) (hpq : ∀ s op, P s op → Q s op)
    (ops : List (Op α)) : ∀ s, AllAlong cfg P s ops → AllAlong cfg Q s ops := by
  induction ops with
  | nil => intro _ _; trivial
  | cons op ops ih =>
    intro s h
    refine ⟨hpq s op h.1, ?_⟩
    have h2 := h.2
    cases hs : step cfg s op with
    | error e => rw [hs] at h2; exact ih s h2
    | ok res => rw [hs] at h2; exact ih res.1 h2

/-- the full statement of *history_refines* for a variant of the code -/
def C06_history_refines_full (cfg : Cfg) : Prop :=
  ∀ (s : State Int) (ops : List (Op Int)), Inv s → AllValidC cfg s ops →
    (run cfg s ops).array = specRun s.array ops ∧ Coherent (run cfg s ops)

theorem allInScope_repaired (cfg : Cfg) (hr : Repaired cfg) (ops : List (Op α)) :
    ∀ (s : State α), Inv s → AllAlong cfg (fun s op => Valid s op ∧ AppendOK cfg s op) s ops →
    (cfg.priorityFix = true ∨ ∀ op ∈ ops, isNpLeft op = false) → AllInScope cfg s ops := by
  induction ops with
  | nil => intro _ _ _ _; trivial
  | cons op ops ih =>
    intro s h hv hn
    obtain ⟨hv1, hv2⟩ := hv
    have hn2 : cfg.priorityFix = true ∨ ∀ op' ∈ ops, isNpLeft op' = false :=
      hn.imp_right fun hn op' ho => hn op' (List.mem_cons_of_mem _ ho)
    have hin := inScope_repaired cfg hr s op h.1 hv1.1 (hn.imp_right fun hn => hn op List.mem_cons_self) hv1.2
    have hst := not_stale_of_fix cfg hr.2.2.1 s op
    refine ⟨hin, hst, ?_⟩
    cases hs : step cfg s op with
    | error e =>
      rw [hs] at hv2
      exact ih s h hv2 hn2
    | ok res =>
      obtain ⟨s', o⟩ := res
      rw [hs] at hv2
      exact ih s' (((stepOK_of_inScope cfg h op hin).inv h hs).1 hst) hv2 hn2

/-- **history_refines**, full strength, `/repo` HEAD: after ANY finite history of valid operations,
starting from any coherent non-empty array, the rows of the object are the rows of the list-of-rows
model after the same history and the two stored representations are coherent. -/
theorem history_refines (s : State α) (ops : List (Op α)) (h : Inv s) (hv : AllValid s ops) :
    (run Cfg.current s ops).array = specRun s.array ops ∧ Coherent (run Cfg.current s ops) :=
  history_refines_variant Cfg.current s ops h
    (allInScope_repaired _ repaired_current ops s h
      (allAlong_mono _ _ _ (fun _ _ hp => ⟨hp, Or.inl rfl⟩) ops s hv) (Or.inl rfl))

def decAllInScope [DecidableEq α] (cfg : Cfg) :
    (ops : List (Op α)) → (s : State α) → Decidable (AllInScope cfg s ops)
  | [], _ => isTrue trivial
  | op :: ops, s =>
    match hs : step cfg s op with
    | .ok (s', o) =>
      have := decAllInScope cfg ops s'
      decidable_of_iff (InScope cfg s op ∧ ¬ StaleWrite cfg s op ∧ AllInScope cfg s' ops)
        (by simp only [AllInScope, hs])
    | .error e =>
      have := decAllInScope cfg ops s
      decidable_of_iff (InScope cfg s op ∧ ¬ StaleWrite cfg s op ∧ AllInScope cfg s ops)
        (by simp only [AllInScope, hs])

instance [DecidableEq α] (cfg : Cfg) (ops : List (Op α)) (s : State α) :
    Decidable (AllInScope cfg s ops) := decAllInScope cfg ops s

example : C06_history_refines_full Cfg.current := fun s ops h hv => history_refines s ops h hv

/-- before the all-empty `append` repair the full statement of history_refines was false -/
theorem history_refines_before_append_empty_fix_counterexample :
    ¬ C06_history_refines_full Cfg.beforeAppendEmpty := by
  intro h
  have := (h allEmpty0 [.append [[1]] .listarr] (by decide +kernel) (by decide +kernel)).1
  revert this
  decide +kernel

/-- before the operator-priority repair: `a = np.int64(2) * a` on `[[1], [2, 3]]` raised, the list of rows
becomes `[[2], [4, 6]]` -/
theorem history_refines_before_priority_fix_counterexample : ¬ C06_history_refines_full Cfg.beforePriority := by
  intro h
  have := (h ragged0' [.npLeft (2 * ·) true] (by decide +kernel) ⟨trivial, by split <;> trivial⟩).1
  revert this
  decide +kernel

/-- history_refines was false before the write-side repairs: `a.append([5, 6])` on `[[1], [2, 3]]`
raised and left the array as it was, the list of rows becomes `[[1], [2, 3], [5, 6]]` -/
theorem history_refines_before_fix_counterexample : ¬ C06_history_refines_full Cfg.beforeC06 := by
  intro h
  have := (h ragged0 [.appendFlat [5, 6]] (by decide +kernel) ⟨by decide +kernel, by split <;> trivial⟩).1
  revert this
  decide +kernel

-- non-vacuity: a three-step history on the unchanged tree, in scope at every step
example : AllInScope Cfg.asIs ragged0
    [.setElem 1 (-1) 9, .set2d (.slice all_) (.int 0) (.flat [5, 6]), .append [[4, 4]] .listarr] := by decide +kernel
example : (run Cfg.asIs ragged0
    [.setElem 1 (-1) 9, .set2d (.slice all_) (.int 0) (.flat [5, 6]), .append [[4, 4]] .listarr]).array
    = [[5], [6, 9], [4, 4]] := by decide +kernel

/-- **observers_agree**: on a coherent state every way of looking at the object shows the rows:
`a[i]`, `a[i, j]` (incl. negative indices and IndexError), iteration, `flatten()/_data`, `lengths`,
`starts`, `len`, `size`, and every reduction (`all/any/max/min` are folds over `_data`). -/
theorem observers_agree (s : State α) (h : Coherent s) :
    (∀ i, obsRow s i = specRow s.array i) ∧
    (∀ i j, obsElem s i j = specElem s.array i j) ∧
    obsIter s = s.array ∧
    obsFlat s = s.array.flatten ∧
    obsLengths s = s.array.map List.length ∧
    (∀ r, r < s.array.length → (obsStarts s)[r]? = some ((s.array.take r).map List.length).sum) ∧
    obsLen s = s.array.length ∧
    obsSize s = (s.array.map List.length).sum ∧
    (∀ (β : Type) (f : β → α → β) (init : β), obsReduce s f init = s.array.flatten.foldl f init) :=
  ⟨fun i => obsRow_eq s i, fun i j => obsElem_eq h i j, obsIter_eq s, obsFlat_eq h, obsLengths_eq h,
   fun r hr => obsStarts_eq h r hr, obsLen_eq s, obsSize_eq h, fun _ f init => obsReduce_eq h f init⟩

example : obsElem ragged0 1 (-1) = .ok 3 ∧ obsElem ragged0 0 1 = .error .indexError := by decide +kernel

/-- history + observers: after any in-scope history every observer of the object equals the
observer of the list-of-rows model after the same history -/
theorem history_observers_variant (cfg : Cfg) (s : State α) (ops : List (Op α)) (h : Inv s)
    (hall : AllInScope cfg s ops) :
    let s' := run cfg s ops
    let rows' := specRun s.array ops
    (∀ i, obsRow s' i = specRow rows' i) ∧ (∀ i j, obsElem s' i j = specElem rows' i j) ∧
    obsIter s' = rows' ∧ obsFlat s' = rows'.flatten ∧ obsLengths s' = rows'.map List.length ∧
    obsLen s' = rows'.length ∧
    (∀ (β : Type) (f : β → α → β) (init : β), obsReduce s' f init = rows'.flatten.foldl f init) ∧
    (∀ r, r < rows'.length → (obsStarts s')[r]? = some ((rows'.take r).map List.length).sum) ∧
    obsSize s' = (rows'.map List.length).sum := by
  obtain ⟨h1, h2⟩ := history_refines_variant cfg s ops h hall
  obtain ⟨hRow, hElem, hIter, hFlat, hLengths, hStarts, hLen, hSize, hReduce⟩ :=
    observers_agree (run cfg s ops) h2
  simp only
  rw [← h1]
  exact ⟨hRow, hElem, hIter, hFlat, hLengths, hLen, hReduce, hStarts, hSize⟩

/-- **history_observers**, full strength, `/repo` HEAD: after any finite history of valid operations every
observer of the object (rows, cells incl. negative indices / IndexError, iteration, flat data, lengths,
starts, len, size, every reduction) equals the observer of the list-of-rows model after that history. -/
theorem history_observers (s : State α) (ops : List (Op α)) (h : Inv s) (hv : AllValid s ops) :
    let s' := run Cfg.current s ops
    let rows' := specRun s.array ops
    (∀ i, obsRow s' i = specRow rows' i) ∧ (∀ i j, obsElem s' i j = specElem rows' i j) ∧
    obsIter s' = rows' ∧ obsFlat s' = rows'.flatten ∧ obsLengths s' = rows'.map List.length ∧
    obsLen s' = rows'.length ∧
    (∀ (β : Type) (f : β → α → β) (init : β), obsReduce s' f init = rows'.flatten.foldl f init) ∧
    (∀ r, r < rows'.length → (obsStarts s')[r]? = some ((rows'.take r).map List.length).sum) ∧
    obsSize s' = (rows'.map List.length).sum :=
  history_observers_variant Cfg.current s ops h
    (allInScope_repaired _ repaired_current ops s h
      (allAlong_mono _ _ _ (fun _ _ hp => ⟨hp, Or.inl rfl⟩) ops s hv) (Or.inl rfl))

-- non-vacuity on `/repo` HEAD: a history through every writer family, incl. the formerly failing forms
example : AllValid block0
    [.setRow 0 [7, 8, 9], .viewWrite 1 0 5, .set2d (.slice all_) (.slice ⟨some (-1), none, none⟩) (.scalar 0),
     .setMask [[false, false, false], [false, false]] (.scalar 1), .appendFlat [6],
     .iopAt (.slice ⟨some 9, none, none⟩) (.int 0) (· + 1), .setRows (.slice ⟨none, some 2, none⟩) [[1], [2, 2]] .ra] := by
  decide +kernel
example : (run Cfg.current block0
    [.setRow 0 [7, 8, 9], .viewWrite 1 0 5, .set2d (.slice all_) (.slice ⟨some (-1), none, none⟩) (.scalar 0),
     .setMask [[false, false, false], [false, false]] (.scalar 1), .appendFlat [6],
     .iopAt (.slice ⟨some 9, none, none⟩) (.int 0) (· + 1), .setRows (.slice ⟨none, some 2, none⟩) [[1], [2, 2]] .ra]).array
    = [[1], [2, 2], [6]] := by decide +kernel

/-- **operators_pure**: `b = a ⊕ scalar`, `b = ~a`, `b = a < c` (any element function `f`, any result
type): a new value with the same lengths whose flat data and rows are the element-wise images; `a`
itself is not part of the result (the functional model returns it unchanged, see `step`). -/
theorem operators_pure (cfg : Cfg) (s : State α) (f : α → β) (h : Inv s)
    (hd : s.data ≠ [] ∨ cfg.readsFix = true) :
    ∃ b, mapOp cfg f s = .ok b ∧ b.lengths = s.lengths ∧ b.data = s.data.map f ∧
      b.array = s.array.map (List.map f) ∧ Coherent b :=
  let ⟨b, h1, h2, h3, h4, h5⟩ := mapOp_spec cfg h f hd
  ⟨b, h1, h4, h5, h2, h3.1⟩

/-- the same between two ragged arrays of equal row structure -/
theorem operators_pure2 (cfg : Cfg) (s : State α) (g : α → β → γ) (o : Rows β) (h : Inv s)
    (ho : o.map List.length = s.lengths) (hd : s.data ≠ [] ∨ cfg.readsFix = true) :
    ∃ b, zipOp cfg g s o.flatten = .ok b ∧ b.lengths = s.lengths ∧
      b.data = List.zipWith g s.data o.flatten ∧
      b.array = List.zipWith (List.zipWith g) s.array o ∧ Coherent b :=
  let ⟨b, h1, h2, h3, h4, h5⟩ := zipOp_spec cfg h g o ho hd
  ⟨b, h1, h4, h5, h2, h3.1⟩

/-- `/repo` HEAD: no side condition at all -/
theorem operators_pure_current (s : State α) (f : α → β) (h : Inv s) :
    ∃ b, mapOp Cfg.current f s = .ok b ∧ b.lengths = s.lengths ∧ b.data = s.data.map f ∧
      b.array = s.array.map (List.map f) ∧ Coherent b :=
  operators_pure Cfg.current s f h (Or.inr rfl)

theorem operators_pure2_current (s : State α) (g : α → β → γ) (o : Rows β) (h : Inv s)
    (ho : o.map List.length = s.lengths) :
    ∃ b, zipOp Cfg.current g s o.flatten = .ok b ∧ b.lengths = s.lengths ∧
      b.data = List.zipWith g s.data o.flatten ∧
      b.array = List.zipWith (List.zipWith g) s.array o ∧ Coherent b :=
  operators_pure2 Cfg.current s g o h ho (Or.inr rfl)

/-- in `step`, a pure operator leaves the object as it is and returns the element-wise result -/
theorem operators_pure_step (cfg : Cfg) (s s' : State α) (o : Option (State α)) (f : α → α)
    (h : Inv s) (hstep : step cfg s (.binop f) = .ok (s', o)) :
    s' = s ∧ ∃ b, o = some b ∧ b.data = s.data.map f ∧ b.lengths = s.lengths := by
  rw [step_binop] at hstep
  cases hm : mapOp cfg f s with
  | error e => rw [hm] at hstep; cases hstep
  | ok b =>
    rw [hm] at hstep
    cases hstep
    obtain ⟨h1, h2, _⟩ := (mapOp_fields cfg f s).of_eq hm
    exact ⟨rfl, b, rfl, h1, h2⟩

example : ∃ b, step Cfg.asIs ragged0 (.binop (· + 10)) = .ok (ragged0, some b) ∧
    b.array = [[11], [12, 13]] := ⟨⟨[11, 12, 13], [1, 2], [[11], [12, 13]], true, false⟩, by decide +kernel, rfl⟩

/-- **iop_elementwise**: `a ⊕= scalar` / `a ⊕= RaggedArray` rebinds `a` to the element-wise result
(`ra.py` has no `__iadd__`: Python evaluates `a = a.__add__(b)`). -/
theorem iop_elementwise (cfg : Cfg) (s : State α) (f : α → α) (h : Inv s)
    (hd : s.data ≠ [] ∨ cfg.readsFix = true) :
    ∃ s', step cfg s (.iop f) = .ok (s', none) ∧ s'.array = s.array.map (List.map f) ∧
      s'.lengths = s.lengths ∧ Coherent s' := by
  obtain ⟨b, h1, h2, h3, h4, _⟩ := mapOp_spec cfg h f hd
  exact ⟨b, by simp only [step, h1], h2, h4, h3.1⟩

theorem iop_elementwise_current (s : State α) (f : α → α) (h : Inv s) :
    ∃ s', step Cfg.current s (.iop f) = .ok (s', none) ∧ s'.array = s.array.map (List.map f) ∧
      s'.lengths = s.lengths ∧ Coherent s' :=
  iop_elementwise Cfg.current s f h (Or.inr rfl)

theorem iop2_elementwise (cfg : Cfg) (s : State α) (g : α → α → α) (o : Rows α) (h : Inv s)
    (ho : o.map List.length = s.lengths) (hd : s.data ≠ [] ∨ cfg.readsFix = true) :
    ∃ s', step cfg s (.iop2 g o) = .ok (s', none) ∧
      s'.array = List.zipWith (List.zipWith g) s.array o ∧ s'.lengths = s.lengths ∧ Coherent s' := by
  obtain ⟨b, h1, h2, h3, h4, _⟩ := zipOp_spec cfg h g o ho hd
  exact ⟨b, by simp only [step, h1], h2, h4, h3.1⟩

/-- `a[r, c] ⊕= scalar`: in scope, exactly the addressed cells are mapped (gather, map, scatter) -/
theorem iopAt_elementwise (cfg : Cfg) (s : State α) (r : Sel) (c : CSel) (f : α → α) (h : Inv s)
    (hs : InScope cfg s (.iopAt r c f)) :
    absR (step cfg s (.iopAt r c f)) = specStep s.array (.iopAt r c f) :=
  step_refines_variant cfg s _ h hs

example : absR (step Cfg.asIs ragged0 (.iopAt (.slice all_) (.slice ⟨none, some 1, none⟩) (· + 2)))
    = .ok ([[3], [4, 3]], none) := by decide +kernel

end C06
