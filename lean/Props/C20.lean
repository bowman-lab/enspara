import Proofs.C20Extra
import Proofs.C20Trans
import Proofs.C20Sharp
import Proofs.C20Shift
/-!
# C20 — rotamer assignment is a correct hysteresis state machine

Model: `Model/Rotamer.lean` (`rotamers` = `_rotamers`, `transitions1d/2d` = `disorder.transitions`).
Boundary lists: `Model/Generated/RotamerConsts.lean`, regenerated from the source on every run.

Vocabulary (all in `Model/Rotamer.lean`): `IsBasin hb i a` (`hb[i] ≤ a < hb[i+1]`), `InWidened hb b i a`
(some representative `a + 360k` lies in `[hb[i] − b, hb[i+1] + b]`), `SpecRun` (first state = basin of the
first angle; afterwards keep the state while `InWidened`, else move to the basin of the angle),
`AvoidsGates` (angle ≠ `v ± b (mod 360)` for every boundary `v`; at exactly these values the code's two
comparison branches disagree about open/closed ends — e.g. zero buffer, angle exactly 240 keeps state 1 of
`[0,120,240,360]` — they are outside the property's quantifier and are only checked for model = code), `Accepted` (the code's own guard
`0 ≤ b < 360 / n_basins`), `NoSelfWrap` (basin width + 2b ≤ 360 for every basin).

Open findings (see `known_findings.d/C20.json`):
* F13: for a two-basin set and a buffer with basin width + 2b > 360 the code's exit test is wrong
  (`rotamers_refines_hysteresis_counterexample`); the refinement is proved for the complementary range.
Fixed in /repo: RaggedArray input with a 0- or 1-frame trajectory used to fail inside RaggedArray slicing;
`disorder.transitions` used to raise when no trajectory had a transition; the source now
guards that case (generated flag `transitionsAllQuietGuard`), and `transitions2d_spec` holds at full strength.
-/
namespace C20
open Ens.Rotamer

deriving instance DecidableEq for Except

/-- every boundary list the library uses satisfies the structural conditions the proofs need
(strictly increasing 0 … 360, at least two basins, basins touching neither end stay inside [0,360] when
widened by any accepted buffer) — checked by evaluation on the generated constants -/
theorem generated_sets_good : ∀ hb ∈ Generated.boundarySets, GoodSet hb = true := by decide +kernel

/-- FULL STATEMENT (false today, F13): on every boundary set of the library, for every accepted
buffer and every admissible angle sequence the implementation model is a run of the hysteresis automaton. -/
def C20_rotamers_refines_hysteresis_full : Prop :=
  ∀ hb ∈ Generated.boundarySets, ∀ b : Rat, Accepted hb b →
  ∀ angles : List Rat, angles ≠ [] → AnglesOK hb b angles →
    ∃ states : List Nat, rotamers angles hb b = .ok (states.map Int.ofNat) ∧ SpecRun hb b angles states

/-- PARTIAL: the same with the extra hypothesis `NoSelfWrap hb b` (no widened basin covers the whole
circle).  What is missing for the full statement is exactly the region `¬ NoSelfWrap`, where the
statement is false (`rotamers_refines_hysteresis_counterexample`); `noSelfWrap_of_three_basins` shows the
hypothesis is automatic for the three-basin set, `noSelfWrap_iff_le_threshold` gives the exact range. -/
theorem rotamers_refines_hysteresis_partial : ∀ hb ∈ Generated.boundarySets, ∀ b : Rat, Accepted hb b → NoSelfWrap hb b → ∀ angles : List Rat, angles ≠ [] → AnglesOK hb b angles → ∃ states : List Nat, rotamers angles hb b = .ok (states.map Int.ofNat) ∧ SpecRun hb b angles states := by
  intro hb hmem b hacc hns angles hne hok
  obtain ⟨st, e, _, _, sp⟩ := rotamers_ok (generated_sets_good hb hmem) hacc hne
    (fun a ha => ⟨(hok a ha).1, (hok a ha).2.1⟩)
  exact ⟨st, e, sp hns (fun a ha => (hok a ha).2.2)⟩

/-- the automaton has exactly one run per angle sequence, so "is a run of" means "equals the run of" -/
theorem spec_run_unique : ∀ hb ∈ Generated.boundarySets, ∀ (b : Rat) (angles : List Rat) (s1 s2 : List Nat), SpecRun hb b angles s1 → SpecRun hb b angles s2 → s1 = s2 := by
  intro hb hmem b angles s1 s2 h1 h2
  exact specRun_det (goodSet_iff.1 (generated_sets_good hb hmem)).1 h1 h2

/-- witness: `[0,180,360]`, buffer 100 (accepted: < 180), angles 0, 180, the instance `b = 100` of
`selfwrap_always_wrong_two_equal_basins`.  The model returns `[0, 1]`, but 180 lies inside basin 0 widened by
100 (`[-100, 280]`), so the automaton stays in 0. -/
theorem rotamers_refines_hysteresis_counterexample : ([0, 180, 360] : List Rat) ∈ Generated.boundarySets → ¬ C20_rotamers_refines_hysteresis_full := by
  intro hmem hfull
  have h0 : (90 : Rat) < 100 := by norm_num
  have h1 : (100 : Rat) < 180 := by norm_num
  obtain ⟨st, e, sp⟩ := hfull _ hmem 100 (phi_accepted (by norm_num) h1) [0, 180] (List.cons_ne_nil _ _)
    (phi_anglesOK h0 h1)
  rw [phi_output h0 h1] at e
  have hst : st = [0, 1] :=
    (List.map_inj_right (l' := [0, 1]) fun _ _ h => Int.ofNat.inj h).1 (Except.ok.inj e).symm
  exact phi_not_specRun h0 (hst ▸ sp)

/-- with three (or more) equally treated basins of the generated kind the guard of the code already
implies `NoSelfWrap`: e.g. for `[0,120,240,360]` every accepted buffer is covered by the partial theorem -/
theorem noSelfWrap_of_three_basins : ∀ b : Rat, Accepted [0, 120, 240, 360] b → NoSelfWrap [0, 120, 240, 360] b := by
  intro b ⟨_, h⟩
  have e : (360 : Rat) / ((((([0, 120, 240, 360] : List Rat).length : Int) - 1 : Int)) : Rat) = 120 := by
    decide +kernel
  have hw : ∀ p ∈ ([0, 120, 240, 360] : List Rat).zip ([0, 120, 240, 360] : List Rat).tail,
      p.2 - p.1 = 120 := by decide +kernel
  rw [e] at h
  rw [noSelfWrap_iff_zip]
  intro p hp
  rw [hw p hp]
  linarith

/-- the exact unaffected range for a two-basin set `[0, m, 360]`: `2b ≤ min m (360 − m)`
(`b ≤ 90` for phi's `[0,180,360]`, `b ≤ 80` for psi's `[0,160,360]`) -/
theorem noSelfWrap_iff_le_threshold : ∀ m b : Rat, NoSelfWrap [0, m, 360] b ↔ (2 * b ≤ 360 - m ∧ 2 * b ≤ m) := by
  intro m b
  simp only [noSelfWrap_iff_zip, List.tail_cons, List.zip_cons_cons, List.zip_nil_right, List.forall_mem_cons,
    List.not_mem_nil, false_imp_iff, implies_true, and_true]
  -- basin 0: `m - 0 + 2b ≤ 360`; basin 1: `360 - m + 2b ≤ 360`
  exact and_congr (by rw [sub_zero, le_sub_iff_add_le'])
    (by rw [sub_add_eq_add_sub, sub_le_iff_le_add, add_le_add_iff_left])

/-- sharpness for `[0,180,360]`: for EVERY accepted buffer above the threshold (90 < b < 180) the admissible
two-frame sequence 0°, 180° makes the model (= the code) leave basin 0 although 180° lies inside the
widened basin — so the affected set for this list is exactly `¬ NoSelfWrap`, i.e. `b > 90` -/
theorem selfwrap_always_wrong_two_equal_basins : ∀ b : Rat, 90 < b → b < 180 → Accepted [0, 180, 360] b ∧ AnglesOK [0, 180, 360] b [0, 180] ∧ rotamers [0, 180] [0, 180, 360] b = .ok [0, 1] ∧ ¬ SpecRun [0, 180, 360] b [0, 180] [0, 1] := by
  intro b h0 h1
  exact ⟨phi_accepted (by linarith) h1, phi_anglesOK h0 h1, phi_output h0 h1, phi_not_specRun h0⟩

/-- zero buffer = plain binning: every frame's state is the basin containing that frame's angle -/
theorem zero_buffer_is_binning : ∀ hb ∈ Generated.boundarySets, ∀ angles : List Rat, angles ≠ [] → AnglesOK hb 0 angles → ∃ states : List Nat, rotamers angles hb 0 = .ok (states.map Int.ofNat) ∧ states.length = angles.length ∧ ∀ (n : Nat) (a : Rat) (s : Nat), angles[n]? = some a → states[n]? = some s → IsBasin hb s a := by
  intro hb hmem angles hne hok
  have hg := generated_sets_good hb hmem
  obtain ⟨st, e, hlen, _, sp⟩ := rotamers_ok hg (accepted_zero hg) hne (fun a ha => ⟨(hok a ha).1, (hok a ha).2.1⟩)
  exact ⟨st, e, hlen, specRun_zero_binning hg hok (sp (noSelfWrap_zero hg) (fun a ha => (hok a ha).2.2))⟩

/-- every state is a basin index `0 ≤ s < n_basins` (never the `-1` fill value), for EVERY accepted
buffer (also in the F13 region) and without the gate hypothesis -/
theorem state_valid : ∀ hb ∈ Generated.boundarySets, ∀ b : Rat, Accepted hb b → ∀ angles : List Rat, angles ≠ [] → (∀ a ∈ angles, 0 ≤ a ∧ a < 360) → ∃ out : List Int, rotamers angles hb b = .ok out ∧ out.length = angles.length ∧ ∀ s ∈ out, 0 ≤ s ∧ s < (hb.length : Int) - 1 := by
  intro hb hmem b hacc angles hne hok
  obtain ⟨st, e, hlen, hv, _⟩ := rotamers_ok (generated_sets_good hb hmem) hacc hne hok
  refine ⟨st.map Int.ofNat, e, by simp [hlen], ?_⟩
  intro s hs
  obtain ⟨t, ht, rfl⟩ := List.mem_map.1 hs
  have := hv t ht
  constructor
  · exact Int.natCast_nonneg t
  · show (t : Int) < (hb.length : Int) - 1
    omega

/-- the first frame gets the basin containing its angle, whatever buffer and later angles -/
theorem first_frame_bin : ∀ hb ∈ Generated.boundarySets, ∀ (b a0 : Rat) (rest : List Rat) (s0 : Int) (tl : List Int), 0 ≤ a0 → a0 < 360 → rotamers (a0 :: rest) hb b = .ok (s0 :: tl) → ∃ i : Nat, s0 = (i : Int) ∧ IsBasin hb i a0 := by
  intro hb hmem b a0 rest s0 tl h0 h1 h
  exact rotamers_first (generated_sets_good hb hmem) h0 h1 h

/-- the accepted range used above is the code's: anything outside is rejected with `DataInvalid` -/
theorem buffer_out_of_range_rejected : ∀ hb ∈ Generated.boundarySets, ∀ (b : Rat) (angles : List Rat), ¬ Accepted hb b → rotamers angles hb b = .error .dataInvalid := by
  intro hb hmem b angles hna
  have h3 := (goodSet_iff.1 (generated_sets_good hb hmem)).2.2.2.1
  exact rotamers_rejects angles (by omega) hna

/-- angle preparation of the wrappers (`dihedral_angles` L16-17, then the generated shift of each wrapper,
e.g. psi's −100): a dihedral in [−180°, 180°] ends up in [0, 360), i.e. inside the domain of the theorems above -/
theorem wrapper_angles_in_range : ∀ shift ∈ [Generated.phiShift, Generated.psiShift, Generated.chiShift], ∀ a : Rat, -180 ≤ a → a ≤ 180 → 0 ≤ shiftAngle shift (normalizeAngle a) ∧ shiftAngle shift (normalizeAngle a) < 360 := by
  intro shift hs a h0 h1
  have hr : 0 ≤ shift ∧ shift ≤ 360 := by
    have : ∀ t ∈ [Generated.phiShift, Generated.psiShift, Generated.chiShift], 0 ≤ t ∧ t ≤ 360 := by decide +kernel
    exact this shift hs
  obtain ⟨n0, n1⟩ := normalizeAngle_range (a := a) (le_trans (by norm_num) h0)
  exact shiftAngle_range n0 n1 hr.1 hr.2

/-- the shift commutes with the basin test: the shifted angle lies in `[lo, hi)` iff the unshifted angle lies in
the basin moved back by the shift, `[lo + s, hi + s)` on the circle (psi: `[0,160)` ↔ `[100,260)`) -/
theorem shift_commutes_with_basin : ∀ (s a lo hi : Rat), 0 ≤ a → a < 360 → 0 ≤ s → s ≤ 360 → 0 ≤ lo → hi ≤ 360 → ((lo ≤ shiftAngle s a ∧ shiftAngle s a < hi) ↔ ∃ k : Int, lo + s ≤ a + 360 * (k : Rat) ∧ a + 360 * (k : Rat) < hi + s) := by
  intro s a lo hi ha0 ha hs0 hs hlo hhi
  exact shiftAngle_basin ha0 ha hs0 hs hlo hhi

/-- 1-D bookkeeping: frame `n` is reported iff frames `n` and `n+1` exist and differ (any integer dtype,
values in the dtype's range; the subtraction wraps) -/
theorem transitions1d_spec : ∀ (d : DType) (xs : List Int), (∀ x ∈ xs, d.InRange x) → ∀ n : Nat, n ∈ transitions1d d xs ↔ ∃ x y, xs[n]? = some x ∧ xs[n + 1]? = some y ∧ x ≠ y := by
  intro d xs hr n
  exact mem_transitions1d d xs hr n

/-- … in increasing order, each once -/
theorem transitions1d_increasing : ∀ (d : DType) (xs : List Int), (transitions1d d xs).Pairwise (· < ·) := by
  intro d xs
  exact nonzeroIdxFrom_sorted _ 0

/-- the generated flag: the 2-D branch of `disorder.transitions` in the current source guards the
construction of the ragged array for input without any transition (if the guard disappears from the
source this stops checking, and the all-quiet cases of the correspondence fail) -/
theorem transitions_source_guards_all_quiet : Generated.transitionsAllQuietGuard = true := by decide

/-- 2-D bookkeeping at full strength: for every integer dtype and every list of trajectories (any lengths,
any number, with or without transitions) the call succeeds, returns one row per trajectory, and row `i`
reports `n` iff frames `n`, `n+1` of trajectory `i` exist and differ -/
theorem transitions2d_spec : ∀ (d : DType) (rows : List (List Int)), (∀ row ∈ rows, ∀ x ∈ row, d.InRange x) → ∃ out : List (List Nat), transitions2d Generated.transitionsAllQuietGuard d rows = .ok out ∧ out.length = rows.length ∧ ∀ (i : Nat) (row : List Int), rows[i]? = some row → ∃ o, out[i]? = some o ∧ ∀ n : Nat, n ∈ o ↔ ∃ x y, row[n]? = some x ∧ row[n + 1]? = some y ∧ x ≠ y := by
  intro d rows hr
  refine ⟨perRow d rows, transitions2d_ok _ d rows (Or.inl transitions_source_guards_all_quiet), by simp [perRow], ?_⟩
  intro i row hi
  refine ⟨transitions1d d row, by simp [perRow, hi], fun n => ?_⟩
  exact mem_transitions1d d row (hr row (List.mem_of_getElem? hi)) n

/-- … and the result is exactly the list of the 1-D results of the rows -/
theorem transitions2d_rowwise : ∀ (d : DType) (rows : List (List Int)), transitions2d Generated.transitionsAllQuietGuard d rows = .ok (rows.map (transitions1d d)) := by
  intro d rows
  exact transitions2d_ok _ d rows (Or.inl transitions_source_guards_all_quiet)

/-! ## Non-vacuity: concrete instances of the hypotheses and of the conclusions -/

-- the partial refinement theorem has instances: psi's set, default buffer 15, a sequence that dwells in
-- the buffer (170.25, 174.75 stay in basin 0 = [0,160] widened to [-15,175]), crosses, and wraps the seam
example : AnglesOK [0, 160, 360] 15 [41/4, 681/4, 699/4, 801/4, 1401/4, 21/4] := by
  apply anglesOK_quarter ⟨15, by norm_num⟩
  · intro v hv
    simp only [List.mem_cons, List.not_mem_nil, or_false] at hv
    rcases hv with rfl | rfl | rfl
    · exact ⟨0, by norm_num⟩
    · exact ⟨160, by norm_num⟩
    · exact ⟨360, by norm_num⟩
  · intro a ha
    simp only [List.mem_cons, List.not_mem_nil, or_false] at ha
    rcases ha with rfl | rfl | rfl | rfl | rfl | rfl
    · exact ⟨41, by norm_num, by decide⟩
    · exact ⟨681, by norm_num, by decide⟩
    · exact ⟨699, by norm_num, by decide⟩
    · exact ⟨801, by norm_num, by decide⟩
    · exact ⟨1401, by norm_num, by decide⟩
    · exact ⟨21, by norm_num, by decide⟩
example : Accepted [0, 160, 360] 15 := by constructor <;> norm_num
example : NoSelfWrap [0, 160, 360] 15 := (noSelfWrap_iff_le_threshold 160 15).2 (by constructor <;> norm_num)
-- … and the model's output on it shows hysteresis (plain binning would give [0,1,1,1,1,0]):
example : rotamers [41/4, 681/4, 699/4, 801/4, 1401/4, 21/4] [0, 160, 360] 15 = .ok [0, 0, 0, 1, 1, 1] := by decide +kernel
example : rotamers [41/4, 681/4, 699/4, 801/4, 1401/4, 21/4] [0, 160, 360] 0 = .ok [0, 1, 1, 1, 1, 0] := by decide +kernel
-- three basins, middle basin, both comparison branches used
example : rotamers [481/4, 441/4, 401/4, 1401/4, 1041/4, 1001/4, 881/4, 41/4] [0, 120, 240, 360] 15 = .ok [1, 1, 0, 0, 2, 2, 1, 0] := by decide +kernel
-- the generated sets are the three the wrappers use
example : Generated.boundarySets.length = 3 := by decide
-- error branches of the model are reachable
example : rotamers [10] [0, 180, 360] 180 = .error .dataInvalid := by decide +kernel
example : rotamers [10] [0, 180, 360] (-1) = .error .dataInvalid := by decide +kernel
example : rotamers [] [0, 180, 360] 15 = .error .indexError := by decide +kernel
example : rotamers [10] [5, 180, 360] 15 = .error .dataInvalid := by decide +kernel
-- the wrappers' angle preparation on concrete values: -170° → 190° → (psi shift 100) 90°; 30° → 30° → 290°
example : shiftAngle 100 (normalizeAngle (-170)) = 90 := by decide +kernel
example : shiftAngle 100 (normalizeAngle 30) = 290 := by decide +kernel
example : normalizeAngle (-1/4) = 719/2 := by decide +kernel
-- transitions: concrete values, unsigned wrap-around, quiet rows at start / middle / end
example : transitions1d ⟨8, false⟩ [0, 1, 1, 0, 255, 255, 3] = [0, 2, 3, 5] := by decide +kernel
example : (⟨8, false⟩ : DType).wrap (0 - 1) = 255 := by decide +kernel
example : (⟨8, true⟩ : DType).wrap (127 - (-128)) = -1 := by decide +kernel
example : transitions2d false ⟨16, true⟩ [[0, 0, 0], [0, 1, 0], [2, 2, 2], [1, 1, 0], [0, 0, 0]] = .ok [[], [0, 1], [], [1], []] := by decide +kernel
-- the unguarded construction (what the code did before the fix) fails on all-quiet input, the guarded one does not
example : transitions2d false ⟨64, true⟩ [[0, 0, 0], [0, 0, 0]] = .error .attributeError := by decide +kernel
example : transitions2d Generated.transitionsAllQuietGuard ⟨64, true⟩ [] = .ok [] := by decide +kernel
example : transitions2d Generated.transitionsAllQuietGuard ⟨8, false⟩ [[3], [], [7, 7]] = .ok [[], [], []] := by decide +kernel
example : transitions2d true ⟨64, true⟩ [[0, 0, 0], [0, 0, 0]] = .ok [[], []] := by decide +kernel

end C20
