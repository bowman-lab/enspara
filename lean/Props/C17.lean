/-
C17 — pathways are real, bottleneck-optimal and never over-explain the flux.

Model: `Model/Paths.lean` (`topPath`, `removeBottleneck`, `subtractPath`, `paths`).
Proof files: `Proofs/C17Ext` (order on −∞/finite/+∞), `C17Sum`, `C17Top` (search-loop invariants and
the Dijkstra argument), `C17TopPath`, `C17Paths`, `C17Loop`, `C17Flow` (acyclic conserved flows).

Not a theorem here: "the caller's flux matrix is left unchanged".  The model is purely functional
(`paths n F …` cannot modify `F`), so that clause has no Lean content; it is established by the
correspondence run only (byte snapshots of the matrix and of both index containers around every real
call, including in-place `remove_path` callables and repeated calls on the same objects).

Vocabulary (from the proof files):
* `edges p`      consecutive pairs of `p`;
* `bneck F q`    minimum of `F` over the edges of the walk `q` (`+inf` for a single state);
* `outflow n F S` total flux leaving the source set `S` (each source once);
* `fluxSum r`    sum of the returned pathway fluxes.
-/
import Proofs.C17Flow

namespace C17
open Ens Ens.Paths

variable {n : Nat} {F : Nat → Nat → Nat} {S T : List Nat}

/-- walk from a source to a sink along positive entries of `F`, inside `[0,n)` -/
def IsWalk (n : Nat) (F : Nat → Nat → Nat) (S T : List Nat) (q : List Nat) : Prop :=
  (∃ s, q.head? = some s ∧ s ∈ S) ∧ (∃ t, q.getLast? = some t ∧ t ∈ T) ∧
  (∀ e ∈ edges q, 0 < F e.1 e.2) ∧ ∀ x ∈ q, x < n

/-! ## `top_path` -/

/-- which of the three outcomes `top_path` has: IndexError (an index ≥ n), ValueError (empty sink
list) or a result; the model's fuel never runs out. -/
theorem top_path_total (n : Nat) (F : Nat → Nat → Nat) (S T : List Nat) :
    (topPath n F S T = .error .indexError ∧ ¬ ((∀ s ∈ S, s < n) ∧ (∀ t ∈ T, t < n))) ∨
    (topPath n F S T = .error .valueError ∧ (∀ s ∈ S, s < n) ∧ T = []) ∨
    (∃ p fl, topPath n F S T = .ok (p, fl) ∧ (∀ s ∈ S, s < n) ∧ (∀ t ∈ T, t < n) ∧ T ≠ []) :=
  topPath_cases n F S T

example : topPath 3 (fun i j => if i + 1 = j then 10 else 0) [0] [2] = .ok ([0, 1, 2], .fin 10) := by
  decide +kernel
example : topPath 3 (fun _ _ => 0) [0] [] = .error .valueError := by decide +kernel
example : topPath 3 (fun _ _ => 0) [3] [1] = .error .indexError := by decide +kernel

/-- a finite reported flux comes with a simple path from a source to a sink along positive edges -/
theorem top_path_valid {p : List Nat} {f : Nat} (h : topPath n F S T = .ok (p, .fin f)) :
    p.Nodup ∧ 2 ≤ p.length ∧ IsWalk n F S T p := by
  have hs := topPath_spec n F S T p (.fin f) h
  obtain ⟨s, y, rest, hq, hsS, -⟩ := hs.fin_head
  refine ⟨hs.nodup, by rw [hq]; exact Nat.le_add_left 2 _, ⟨s, by rw [hq]; rfl, hsS⟩, hs.last_mem,
    (adj_iff F p).1 hs.adj, hs.all_lt⟩

/-- the reported flux is the smallest flux on the edges of the returned path -/
theorem top_path_flux_is_bottleneck {p : List Nat} {f : Nat}
    (h : topPath n F S T = .ok (p, .fin f)) :
    (∀ e ∈ edges p, f ≤ F e.1 e.2) ∧ ∃ e ∈ edges p, F e.1 e.2 = f := by
  have hs := topPath_spec n F S T p (.fin f) h
  obtain ⟨-, -, -, -, -, hb⟩ := hs.fin_head
  exact bneck_fin_spec F p f hb

/-- Dijkstra optimality: no walk from a source to a sink has a larger bottleneck than the reported
flux (whatever it is: finite, `+inf` when a source is a sink, `-inf` when nothing is reachable) -/
theorem top_path_widest {p : List Nat} {fl : Ext} (h : topPath n F S T = .ok (p, fl))
    (q : List Nat) (hq : IsWalk n F S T q) : bneck F q ≤ fl := by
  have hs := topPath_spec n F S T p fl h
  obtain ⟨⟨s, h1, h2⟩, ⟨t, h3, h4⟩, h5, h6⟩ := hq
  exact hs.widest q s t h1 h2 h3 h4 ((adj_iff F q).2 h5) h6

/-- the same in elementary terms: every source-to-sink walk has an edge with flux ≤ the reported one -/
theorem top_path_widest_edges {p : List Nat} {f : Nat} (h : topPath n F S T = .ok (p, .fin f))
    (q : List Nat) (hq : IsWalk n F S T q) : ∃ e ∈ edges q, F e.1 e.2 ≤ f := by
  have hw := top_path_widest h q hq
  cases hb : bneck F q with
  | ninf => exact absurd hb (bneck_ne_ninf F q)
  | pinf => rw [hb, Ext.pinf_le_iff] at hw; cases hw
  | fin g =>
    rw [hb, Ext.fin_le_fin] at hw
    obtain ⟨-, e, he, hv⟩ := bneck_fin_spec F q g hb
    exact ⟨e, he, hv ▸ hw⟩

example : IsWalk 3 (fun i j => if i + 1 = j then 10 else 0) [0] [2] [0, 1, 2] := by
  refine ⟨⟨0, rfl, List.mem_cons_self⟩, ⟨2, rfl, List.mem_cons_self⟩, ?_, ?_⟩ <;> decide +kernel

example : topPath 3 (fun _ _ => 0) [0] [2] = .ok ([2], .ninf) := by decide +kernel
example : topPath 3 (fun _ _ => 0) [0] [2, 0] = .ok ([0], .pinf) := by decide +kernel

/-- `-inf` (what `paths` reads as "no more paths") is reported only when no walk exists -/
theorem top_path_no_path {p : List Nat} (h : topPath n F S T = .ok (p, .ninf))
    (q : List Nat) : ¬ IsWalk n F S T q := by
  intro hq
  have hw := top_path_widest h q hq
  rw [Ext.le_ninf_iff] at hw
  exact bneck_ne_ninf F q hw

/-! ## `paths` -/

variable {sch : Scheme} {np : Option Nat} {cn : Int} {cd : Nat} {r : List (List Nat × Nat)}

/-- the first pathway is the top path of the caller's matrix -/
theorem paths_head_is_top_path {pf : List Nat × Nat} {rest : List (List Nat × Nat)}
    (h : paths n F S T sch np cn cd = .ok (pf :: rest)) :
    topPath n F S T = .ok (pf.1, .fin pf.2) := by
  obtain ⟨-, h⟩ := paths_ok_loop h
  rcases pathsLoop_succ_ok n S T sch np cn cd _ _ F 0 0 _ h with
    ⟨-, hr⟩ | ⟨-, _, _, -, -, hr⟩ | ⟨-, p, f, htp, ⟨-, hr⟩ | ⟨-, _, _, -, -, hr⟩⟩
  · cases hr
  · cases hr
  · cases hr; exact htp
  · cases hr; exact htp

/-- every pathway is the top path of a residual matrix `G ≤ F`: simple, source→sink, along positive
residual edges, its flux is the smallest residual flux on its edges, and no source→sink walk of the
residual matrix has a larger bottleneck -/
theorem paths_each_valid_bottleneck_widest (h : paths n F S T sch np cn cd = .ok r)
    (pf : List Nat × Nat) (hpf : pf ∈ r) :
    ∃ G : Nat → Nat → Nat, (∀ i j, G i j ≤ F i j) ∧
      pf.1.Nodup ∧ 2 ≤ pf.1.length ∧ IsWalk n G S T pf.1 ∧
      (∀ e ∈ edges pf.1, pf.2 ≤ G e.1 e.2) ∧ (∃ e ∈ edges pf.1, G e.1 e.2 = pf.2) ∧
      ∀ q, IsWalk n G S T q → ∃ e ∈ edges q, G e.1 e.2 ≤ pf.2 := by
  obtain ⟨G, hle, htp⟩ := pathsLoop_each n S T sch np cn cd _ _ F 0 0 r (paths_ok_loop h).2 pf hpf
  obtain ⟨v1, v2, v3⟩ := top_path_valid htp
  obtain ⟨b1, b2⟩ := top_path_flux_is_bottleneck htp
  exact ⟨G, hle, v1, v2, v3, b1, b2, fun q hq => top_path_widest_edges htp q hq⟩

/-- successive pathway fluxes never increase (both schemes) -/
theorem paths_fluxes_antitone (h : paths n F S T sch np cn cd = .ok r) :
    r.Pairwise (fun a b => b.2 ≤ a.2) :=
  pathsLoop_antitone n S T sch np cn cd _ _ F 0 0 r (paths_ok_loop h).2

/-- FULL statement of "the sum never exceeds the total outflow of the sources" (both schemes).
It is FALSE for the `bottleneck` scheme (`paths_sum_bottleneck_counterexample`, finding F16). -/
def C17_paths_sum_le_outflow_full : Prop :=
  ∀ (n : Nat) (F : Nat → Nat → Nat) (S T : List Nat) (sch : Scheme) (np : Option Nat) (cn : Int)
    (cd : Nat) (r : List (List Nat × Nat)),
    paths n F S T sch np cn cd = .ok r → fluxSum r ≤ outflow n F S

/-- proved part: the `subtract` scheme (every path lowers the outflow of the sources by at least its
flux, and the outflow stays ≥ 0).  Missing with respect to the full statement: the `bottleneck`
scheme, for which the statement is false. -/
theorem paths_sum_le_outflow_partial (h : paths n F S T .subtract np cn cd = .ok r) :
    fluxSum r ≤ outflow n F S :=
  pathsLoop_sum_le n S T np cn cd _ _ F 0 0 r (paths_ok_loop h).2

/-- the F16 witness: `s→a 10, a→b1→t 6, a→b2→t 6` -/
def witnessF : Nat → Nat → Nat := fun i j =>
  if i = 0 ∧ j = 1 then 10 else if i = 1 ∧ (j = 2 ∨ j = 3) then 6
  else if (i = 2 ∨ i = 3) ∧ j = 4 then 6 else 0

theorem paths_sum_bottleneck_counterexample : ¬ C17_paths_sum_le_outflow_full := by
  intro h
  have hr : paths 5 witnessF [0] [4] .bottleneck none 1 1 =
      .ok [([0, 1, 2, 4], 6), ([0, 1, 3, 4], 6)] := by decide +kernel
  have := h 5 witnessF [0] [4] .bottleneck none 1 1 _ hr
  revert this
  decide +kernel

example : paths 5 witnessF [0] [4] .subtract none 1 1 =
    .ok [([0, 1, 2, 4], 6), ([0, 1, 3, 4], 4)] := by decide +kernel

/-- `num_paths` is respected, for every requested count (`num_paths = 0` returns no path: the loop
is `while counter < num_paths`) -/
theorem paths_count_le {N : Nat} (h : paths n F S T sch (some N) cn cd = .ok r) :
    r.length ≤ N := by
  have := pathsLoop_count n S T sch cn cd _ N _ F 0 0 r (paths_ok_loop h).2
  rwa [Nat.zero_add, Nat.zero_max] at this

example : paths 5 witnessF [0] [4] .subtract (some 0) 1 1 = .ok [] := by decide +kernel
example : paths 5 witnessF [0] [4] .subtract (some 1) 1 1 = .ok [([0, 1, 2, 4], 6)] := by decide +kernel
example : paths 5 witnessF [0] [4] .bottleneck (some 2) 2 1 =
    .ok [([0, 1, 2, 4], 6), ([0, 1, 3, 4], 6)] := by decide +kernel

/-- the graph of the upstream `test_paths` (fluxes × 10), default cut-off `1 - 1e-10` -/
def upstreamF : Nat → Nat → Nat := fun i j =>
  if i = 0 ∧ (j = 1 ∨ j = 2) then 5 else if i = 1 ∧ j = 3 then 3 else if i = 1 ∧ j = 5 then 2
  else if i = 2 ∧ j = 4 then 5 else if i = 3 ∧ j = 5 then 3 else 0

example : paths 6 upstreamF [0] [4, 5] .subtract none 9999999999 10000000000 =
    .ok [([0, 2, 4], 5), ([0, 1, 3, 5], 3), ([0, 1, 5], 2)] := by decide +kernel
example : paths 6 upstreamF [0] [4, 5] .bottleneck none 9999999999 10000000000 =
    .ok [([0, 2, 4], 5), ([0, 1, 3, 5], 3), ([0, 1, 5], 2)] := by decide +kernel
/-- the flux cut-off stops the loop early -/
example : paths 6 upstreamF [0] [4, 5] .subtract none 1 2 = .ok [([0, 2, 4], 5)] := by decide +kernel

/-- the loop of `paths` terminates: at most (number of positive entries + 1) iterations, because every
removal zeroes a positive entry and raises none.  Outcomes: IndexError when a source index is ≥ n
(`net_flux[sources, :]`); with `num_paths = 0` the empty result without looking at the sinks;
otherwise what the first `top_path` call does (IndexError for a sink ≥ n, ValueError for an empty
sink list, else a result). -/
theorem paths_terminates (n : Nat) (F : Nat → Nat → Nat) (S T : List Nat) (sch : Scheme)
    (np : Option Nat) (cn : Int) (cd : Nat) :
    (∃ r, paths n F S T sch np cn cd = .ok r ∧ (∀ s ∈ S, s < n) ∧
        ((np = some 0 ∧ r = []) ∨ ((∀ t ∈ T, t < n) ∧ T ≠ []))) ∨
    (paths n F S T sch np cn cd = .error .indexError ∧
        ¬ ((∀ s ∈ S, s < n) ∧ ((∀ t ∈ T, t < n) ∨ np = some 0))) ∨
    (paths n F S T sch np cn cd = .error .valueError ∧ (∀ s ∈ S, s < n) ∧ T = [] ∧ np ≠ some 0) := by
  unfold paths
  split
  · next hg => exact Or.inr (Or.inl ⟨rfl, fun h => not_any_ge_iff.2 h.1 hg⟩)
  · next hg =>
    have hS : ∀ s ∈ S, s < n := not_any_ge_iff.1 hg
    cases hc : countReached np 0 with
    | true =>
      have hnp := (countReached_zero np).1 hc
      exact Or.inl ⟨[], pathsLoop_reached n S T sch np cn cd _ _ F 0 0 hc, hS, Or.inl ⟨hnp, rfl⟩⟩
    | false =>
      have hnp : np ≠ some 0 := fun e => by
        rw [(countReached_zero np).2 e] at hc; cases hc
      rcases topPath_cases n F S T with ⟨he, hbad⟩ | ⟨he, h1, h2⟩ | ⟨p, fl, -, -, hT, hne⟩
      · refine Or.inr (Or.inl ⟨pathsLoop_err n S T sch np cn cd _ _ F 0 0 _ hc he, ?_⟩)
        rintro ⟨h1, h2 | h2⟩
        · exact hbad ⟨h1, h2⟩
        · exact hnp h2
      · exact Or.inr (Or.inr ⟨pathsLoop_err n S T sch np cn cd _ _ F 0 0 _ hc he, h1, h2, hnp⟩)
      · obtain ⟨r, hr⟩ := pathsLoop_ok n S T sch np cn cd (totalFlux n F S) hS hT hne
          (posEdges n F + 1) F 0 0 (Nat.lt_succ_self _)
        exact Or.inl ⟨r, hr, hS, Or.inr ⟨hT, hne⟩⟩

example : paths 3 (fun _ _ => 0) [0] [] .subtract (some 0) 1 1 = .ok [] := by decide +kernel
example : paths 3 (fun _ _ => 0) [0] [] .subtract none 1 1 = .error .valueError := by decide +kernel
example : paths 3 (fun _ _ => 0) [3] [] .subtract (some 0) 1 1 = .error .indexError := by decide +kernel

theorem paths_never_out_of_fuel (n : Nat) (F : Nat → Nat → Nat) (S T : List Nat) (sch : Scheme)
    (np : Option Nat) (cn : Int) (cd : Nat) : paths n F S T sch np cn cd ≠ .error .outOfFuel := by
  rcases paths_terminates n F S T sch np cn cd with ⟨r, h, -⟩ | ⟨h, -⟩ | ⟨h, -⟩ <;> rw [h] <;> nofun

/-- FULL statement of "reaches the requested fraction when the flux is conserved" (both schemes, no
path-count limit, requested fraction `cn / cd ≤ 1`): `Flow n F S T rank` says that `F` is an acyclic
flow (positive entries go up in `rank`, none enters a source or leaves a sink) that is balanced at
every state outside `S ∪ T`. -/
def C17_paths_reaches_fraction_conserved_full : Prop :=
  ∀ (n : Nat) (F : Nat → Nat → Nat) (S T : List Nat) (sch : Scheme) (cn : Int) (cd : Nat)
    (r : List (List Nat × Nat)) (rank : Nat → Nat),
    Flow n F S T rank → (∀ s ∈ S, s < n) → (∀ s ∈ S, s ∉ T) → S.Nodup → cn ≤ (cd : Int) →
    paths n F S T sch none cn cd = .ok r →
    cn * (outflow n F S : Int) ≤ (fluxSum r : Int) * (cd : Int)

/-- proved part: the `subtract` scheme (each step keeps the flow balanced and lowers the outflow of
the sources by exactly the path flux; while outflow remains a source-to-sink walk exists, so the
loop can only stop on the cut-off).  Missing with respect to the full statement: the `bottleneck`
scheme (examined by the correspondence run only). -/
theorem paths_reaches_fraction_conserved_partial (rank : Nat → Nat) (hflow : Flow n F S T rank)
    (hS : ∀ s ∈ S, s < n) (hdisj : ∀ s ∈ S, s ∉ T) (hnd : S.Nodup) (hc : cn ≤ (cd : Int))
    (h : paths n F S T .subtract none cn cd = .ok r) :
    cn * (outflow n F S : Int) ≤ (fluxSum r : Int) * (cd : Int) := by
  have h := (paths_ok_loop h).2
  rw [totalFlux_eq_outflow n F S hnd hS] at h
  have := pathsLoop_fraction n S T cn cd (outflow n F S) rank hdisj hc _ F 0 0 r hflow
    (Nat.zero_add _) h
  simpa using this

example : Flow 6 upstreamF [0] [4, 5] id := by
  refine Flow.of_bounded ?_ (by decide +kernel) (by decide +kernel) (by decide +kernel)
    (by decide +kernel)
  intro i j h
  -- outside `[0,6)²` every condition in `upstreamF` fails
  apply Decidable.byContradiction
  intro hb
  rw [upstreamF, if_neg (by omega), if_neg (by omega), if_neg (by omega), if_neg (by omega),
    if_neg (by omega)] at h
  exact Nat.lt_irrefl 0 h

end C17
