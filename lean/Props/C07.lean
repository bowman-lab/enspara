import Proofs.C07Examples
import Proofs.C07Exist
/-!
C07 — committors and mean first-passage times satisfy their first-step equations.

All statements are about the model `Model/Tpt.lean` (which mirrors `enspara/tpt/core.py`
statement by statement) and are stated with the model's own sum `sumTo`.  The numerical solvers
are parameters with contracts (`CommittorSolve`, `MfptSolve`, `FundInv`, `Stationary`), never
axioms; the `…_exec` theorems instantiate them with the certified exact solver that the driver
runs, so they speak about exactly the values the correspondence check compares against.

CORRESPONDENCE-ONLY clauses of the property (no theorem here; they are about containers, object identity and the
numerical eigen-solver, none of which the model has — `harness/props/c07.py` checks them on every case):
  * "dense and sparse inputs give the same values" (ndarray / np.matrix / Fortran / strided / float32 and the 7 scipy
    `*_matrix` containers are compared with each other on the real code);
  * "the inputs are not modified" (byte snapshots of every argument before/after every real call, also when the same
    objects are reused across calls);
  * populations GIVEN vs COMPUTED (`eq_probs` is a parameter with contract `Stationary`; that the library's own
    eigen-solver meets it, and that both ways give the same table, is checked numerically).
Existence of the solver outputs is NOT assumed silently: `ImQ_nonsingular`, `committor_solver_output_exists` and
`mfpt_solver_output_exists` prove that under the ergodicity hypotheses `I − Q` is non-singular, so the contracts
`CommittorSolve` / `MfptSolve` are satisfiable (`absorbing_unique`: a one-column system with the matrix `I − Q` has at
most one solution on `0 … n-1`).  For the all-pairs table the existence of the right inverse `Z` (`FundInv`) is a
hypothesis (checked exactly on every correspondence case by the certified solver; not proved in general).

Hypotheses are the property's quantifier: state indices in range, sources/sinks disjoint, sinks
listed without repetition, `T` non-negative and row-stochastic, absorbing set reachable from
every state ("ergodic"), `π` stationary with `Σ π = 1` and `π j ≠ 0`.
-/
open Ens Ens.Tpt Ens.LinSolveT

namespace C07
open Ens.Tpt.Ex

/-! ### committors -/

/-- Forward committors computed as in `committors` from ANY solution `B` of `(I−Q) B = R`:
0 on sources, 1 on sinks, transition-weighted average of the neighbours elsewhere. -/
theorem committor_first_step (n : Nat) (T : Mat) (sources sinks : List Nat) (B : Mat)
    (hsrc : ∀ s ∈ sources, s < n) (hsnk : ∀ s ∈ sinks, s < n)
    (hdisj : ∀ s ∈ sources, s ∉ sinks) (hnd : sinks.Nodup)
    (hB : CommittorSolve n T sources sinks B) :
    (∀ s ∈ sources, committorsFrom B sinks s = 0) ∧
    (∀ s ∈ sinks, committorsFrom B sinks s = 1) ∧
    (∀ i, i < n → i ∉ sources → i ∉ sinks →
      committorsFrom B sinks i = sumTo n (fun j => T i j * committorsFrom B sinks j)) :=
  committorsFrom_first_step hsrc hsnk hdisj hnd hB

example : (∀ s ∈ [0], s < 4) ∧ (∀ s ∈ [2, 3], s < 4) ∧ (∀ s ∈ [0], s ∉ [2, 3]) ∧
    [2, 3].Nodup ∧ CommittorSolve 4 T4 [0] [2, 3] B4 ∧ committorsFrom B4 [2, 3] 1 = 2/3 := by
  unfold CommittorSolve IsSolution
  decide +kernel

/-- Why the pinning statement `committors[sinks] = 1.0` is there: `R[sinks] = 1.0` fills whole
rows, so at a sink the row sum of `B` is the NUMBER of sinks. -/
theorem committor_rowsum_at_sink (n : Nat) (T : Mat) (sources sinks : List Nat) (B : Mat)
    (hB : CommittorSolve n T sources sinks B) (s : Nat) (hs : s ∈ sinks) (hns : s ∉ sources)
    (hsn : s < n) : rowSums B sinks.length s = sinks.length :=
  (sol_abs_row (isSolution_rowSums hB) hsn (List.mem_append_right _ hs) Nat.zero_lt_one).trans
    (rowSums_Rmat_sink hs hns _)

/-- Discrete maximum principle: any vector that is 0 on sources, 1 on sinks and harmonic elsewhere
lies in `[0,1]` when `T` is non-negative, row-stochastic and the absorbing set is reachable from
every state. -/
theorem harmonic_bounds (n : Nat) (T : Mat) (sources sinks : List Nat) (q : Vec)
    (hnn : ∀ i, i < n → ∀ j, j < n → 0 ≤ T i j)
    (hrow : ∀ i, i < n → sumTo n (fun j => T i j) = 1)
    (hreach : ∀ i, i < n → Reach n T (sources ++ sinks) i)
    (h0 : ∀ s ∈ sources, q s = 0) (h1 : ∀ s ∈ sinks, q s = 1)
    (hharm : ∀ i, i < n → i ∉ sources → i ∉ sinks → q i = sumTo n (fun j => T i j * q j)) :
    ∀ i, i < n → 0 ≤ q i ∧ q i ≤ 1 := by
  have h : Absorbing n T (sources ++ sinks) := ⟨hnn, hrow, hreach⟩
  have hh : ∀ i, i < n → i ∉ sources ++ sinks → q i = ∑ j ∈ Finset.range n, T i j * q j :=
    fun i hi hia => (hharm i hi (fun h => hia (List.mem_append_left _ h))
      fun h => hia (List.mem_append_right _ h)).trans (sumTo_eq_sum _ _)
  exact fun i hi =>
    ⟨harmonic_ge h (fun a ha => (List.mem_append.1 ha).elim (fun hs => (h0 a hs).ge)
        fun hs => h1 a hs ▸ zero_le_one) hh i hi,
      harmonic_le h (fun a ha => (List.mem_append.1 ha).elim (fun hs => h0 a hs ▸ zero_le_one)
        fun hs => (h1 a hs).le) hh i hi⟩

/-- Committors as computed lie in `[0,1]` (full strength: every state, any solver output `B`). -/
theorem committor_bounds (n : Nat) (T : Mat) (sources sinks : List Nat) (B : Mat)
    (hsrc : ∀ s ∈ sources, s < n) (hsnk : ∀ s ∈ sinks, s < n)
    (hdisj : ∀ s ∈ sources, s ∉ sinks) (hnd : sinks.Nodup)
    (hnn : ∀ i, i < n → ∀ j, j < n → 0 ≤ T i j)
    (hrow : ∀ i, i < n → sumTo n (fun j => T i j) = 1)
    (hreach : ∀ i, i < n → Reach n T (sources ++ sinks) i)
    (hB : CommittorSolve n T sources sinks B) :
    ∀ i, i < n → 0 ≤ committorsFrom B sinks i ∧ committorsFrom B sinks i ≤ 1 := by
  obtain ⟨h0, h1, hh⟩ := committor_first_step n T sources sinks B hsrc hsnk hdisj hnd hB
  exact harmonic_bounds n T sources sinks _ hnn hrow hreach h0 h1 hh

example : (∀ i, i < 4 → ∀ j, j < 4 → 0 ≤ T4 i j) ∧ (∀ i, i < 4 → sumTo 4 (fun j => T4 i j) = 1) ∧
    (∀ i, i < 4 → Reach 4 T4 ([0] ++ [2, 3]) i) := ⟨by decide +kernel, by decide +kernel, reach_T4⟩

/-- The same facts for what the driver's `committors` returns (certified exact solver). -/
theorem committor_exec (n : Nat) (T : Mat) (sources sinks : List Nat) (q : Vec)
    (hdisj : ∀ s ∈ sources, s ∉ sinks) (hnd : sinks.Nodup)
    (hq : committors n T sources sinks = .ok q) :
    (∀ s ∈ sources, q s = 0) ∧ (∀ s ∈ sinks, q s = 1) ∧
    (∀ i, i < n → i ∉ sources → i ∉ sinks → q i = sumTo n (fun j => T i j * q j)) :=
  committors_ok_first_step hdisj hnd hq

example : okVal (committors 4 T4 [0] [2, 3]) 1 = some (2/3) ∧
    okVal (committors 4 T4 [0] [2, 3]) 3 = some 1 ∧
    okVal (committors 4 T4 [0] [7]) 0 = none := by decide +kernel

/-! ### the solver outputs exist -/

/-- Under the ergodicity hypotheses `I − Q` is non-singular (finite square system: uniqueness from the maximum
principle ⇒ injective ⇒ unit). -/
theorem ImQ_nonsingular (n : Nat) (T : Mat) (S : List Nat)
    (hS : ∀ s ∈ S, s < n)
    (hnn : ∀ i, i < n → ∀ j, j < n → 0 ≤ T i j)
    (hrow : ∀ i, i < n → sumTo n (fun j => T i j) = 1)
    (hreach : ∀ i, i < n → Reach n T S i) :
    IsUnit (toMatrix n (ImQ T S)) :=
  ImQ_isUnit hS ⟨hnn, hrow, hreach⟩

/-- …so a solver output with the contract `(I−Q) B = R` exists for `committors`. -/
theorem committor_solver_output_exists (n : Nat) (T : Mat) (sources sinks : List Nat)
    (hsrc : ∀ s ∈ sources, s < n) (hsnk : ∀ s ∈ sinks, s < n)
    (hnn : ∀ i, i < n → ∀ j, j < n → 0 ≤ T i j)
    (hrow : ∀ i, i < n → sumTo n (fun j => T i j) = 1)
    (hreach : ∀ i, i < n → Reach n T (sources ++ sinks) i) :
    ∃ B : Mat, CommittorSolve n T sources sinks B :=
  absorbing_exists (fun s hs => (List.mem_append.1 hs).elim (hsrc s) (hsnk s)) ⟨hnn, hrow, hreach⟩
    sinks.length (Rmat T sources sinks)

/-- …and for `mfpts(sinks=…)`. -/
theorem mfpt_solver_output_exists (n : Nat) (T : Mat) (sinks : List Nat)
    (hsnk : ∀ s ∈ sinks, s < n)
    (hnn : ∀ i, i < n → ∀ j, j < n → 0 ≤ T i j)
    (hrow : ∀ i, i < n → sumTo n (fun j => T i j) = 1)
    (hreach : ∀ i, i < n → Reach n T sinks i) :
    ∃ t : Vec, MfptSolve n T sinks t :=
  (absorbing_exists hsnk ⟨hnn, hrow, hreach⟩ 1 (cVec sinks)).elim fun B hB => ⟨fun i => B i 0, hB.col0⟩

example : (∀ s ∈ [0] ++ [2, 3], s < 4) ∧ (∀ i, i < 4 → Reach 4 T4 ([0] ++ [2, 3]) i) :=
  ⟨by decide +kernel, reach_T4⟩

/-! ### mean first-passage times to a sink set -/

/-- MFPTs to a sink set, from ANY solution `t` of `(I−Q) t = c`: 0 on the sinks, one lag time
plus the transition-weighted average of the neighbours' times elsewhere. -/
theorem mfpt_sinks_first_step (n : Nat) (T : Mat) (sinks : List Nat) (t : Vec) (lag : Rat)
    (hsnk : ∀ s ∈ sinks, s < n) (ht : MfptSolve n T sinks t) :
    (∀ s ∈ sinks, mfptSinksFrom lag t s = 0) ∧
    (∀ i, i < n → i ∉ sinks →
      mfptSinksFrom lag t i = lag + sumTo n (fun j => T i j * mfptSinksFrom lag t j)) := by
  simp only [sumTo_eq_sum]
  exact (first_step_iff hsnk).1 (ht.smul lag)

example : (∀ s ∈ [2], s < 3) ∧ MfptSolve 3 T3 [2] t3 ∧ mfptSinksFrom (5/2) t3 0 = 20 := by
  unfold MfptSolve IsSolution
  decide +kernel

theorem mfpt_sinks_exec (n : Nat) (T : Mat) (sinks : List Nat) (lag : Rat) (m : Vec)
    (hm : mfptsSinks n T sinks lag = .ok m) :
    (∀ s ∈ sinks, m s = 0) ∧
    (∀ i, i < n → i ∉ sinks → m i = lag + sumTo n (fun j => T i j * m j)) := by
  unfold mfptsSinks at hm
  split at hm
  · rename_i hidx
    simp only [idxOk, List.all_eq_true, decide_eq_true_eq] at hidx
    split at hm
    · cases hm
    · rename_i t hsol
      cases hm
      exact mfpt_sinks_first_step n T sinks _ lag hidx (solve_sound hsol).col0
  · cases hm

example : okVal (mfptsSinks 3 T3 [2] (5/2)) 0 = some 20 ∧ okVal (mfptsSinks 3 T3 [2] (5/2)) 2 = some 0 := by
  decide +kernel

/-- Both tables scale linearly with the lag time: the lag multiplies the solver output, which
does not depend on it (source: `lagtime * np.linalg.solve(…)`, `lagtime * (…) / W`). -/
theorem mfpt_lag_linear (a lag : Rat) (t : Vec) (Z : Mat) (π : Vec) :
    (∀ i, mfptSinksFrom (a * lag) t i = a * mfptSinksFrom lag t i) ∧
    (∀ i j, mfptAll (a * lag) Z π i j = a * mfptAll lag Z π i j) := by
  refine ⟨fun i => ?_, fun i j => ?_⟩
  · exact mul_assoc _ _ _
  · simp only [mfptAll, mul_assoc, mul_div_assoc]

/-- …and for the executable reference: the result for lag `lag` is `lag ·` the result for lag 1,
errors included. -/
theorem mfpt_lag_linear_exec (n : Nat) (T : Mat) (sinks : List Nat) (π : Vec) (lag : Rat) :
    mfptsSinks n T sinks lag = (mfptsSinks n T sinks 1).map (fun t i => lag * t i) ∧
    mfptsAll n T π lag = (mfptsAll n T π 1).map (fun m i j => lag * m i j) := by
  constructor
  · unfold mfptsSinks
    cases idxOk n sinks
    · rfl
    · cases solve n 1 (ImQ T sinks) (cVec sinks)
      · rfl
      · exact congrArg Except.ok (funext fun i => (congrArg (lag * ·) (one_mul _)).symm)
  · unfold mfptsAll
    cases (List.range n).all fun j => decide (π j ≠ 0)
    · rfl
    · cases solve n n (fundA T π) eye
      · rfl
      · exact congrArg Except.ok (funext₂ fun i j =>
          (mul_div_assoc _ _ _).trans (congrArg (lag * ·) (congrArg (· / _) (one_mul _)).symm))

/-! ### all-pairs table -/

/-- All-pairs MFPTs from the fundamental matrix: for `π` stationary with `Σ π = 1`, `T`
row-stochastic and `Z` ANY right inverse of `I − T + W`, column `j` (with `π j ≠ 0`) satisfies the
first-step equations of the single sink `j`. -/
theorem mfpt_all_first_step (n : Nat) (T : Mat) (π : Vec) (Z : Mat) (lag : Rat)
    (hrow : ∀ i, i < n → sumTo n (fun j => T i j) = 1)
    (hπ : Stationary n T π) (hZ : FundInv n T π Z)
    (j : Nat) (hj : j < n) (hπj : π j ≠ 0) :
    mfptAll lag Z π j j = 0 ∧
    ∀ i, i < n → i ≠ j →
      mfptAll lag Z π i j = lag + sumTo n (fun k => T i k * mfptAll lag Z π k j) := by
  refine ⟨by rw [mfptAll_eq, sub_self, mul_zero], fun i hi hij => ?_⟩
  -- `Z − T Z = 1 − W` at `(i, j)`, `i ≠ j`, times `lag / π j`
  have h := Z_sub_TZ hπ hZ hi hj
  rw [if_neg hij] at h
  have hc : lag * (π j)⁻¹ * π j = lag := inv_mul_cancel_right₀ hπj lag
  have hrow' : ∑ k ∈ Finset.range n, T i k = 1 := (sumTo_eq_sum _ _).symm.trans (hrow i hi)
  simp only [sumTo_eq_sum, mfptAll_eq, mul_sub, Finset.sum_sub_distrib, mul_left_comm (T i _),
    ← Finset.mul_sum, ← Finset.sum_mul, hrow', one_mul]
  linear_combination (-(lag * (π j)⁻¹)) * h + hc

example : (∀ i, i < 3 → sumTo 3 (fun j => T3 i j) = 1) ∧ Stationary 3 T3 π3 ∧
    FundInv 3 T3 π3 Z3 ∧ π3 2 ≠ 0 ∧ mfptAll 1 Z3 π3 0 2 = 8 := by
  unfold Stationary FundInv IsSolution
  decide +kernel

/-- The exact stand-in for `eq_probs` only ever returns a stationary distribution. -/
theorem eq_probs_exec (n : Nat) (T : Mat) (π : Vec) (h : eqProbs n T = .ok π) :
    Stationary n T π := by
  unfold eqProbs at h
  simp only at h
  split at h
  · cases h
  · split at h
    · rename_i x _ hok
      cases h
      simp only [stationaryOk, Bool.and_eq_true, List.all_eq_true, List.mem_range,
        decide_eq_true_eq] at hok
      exact hok
    · cases h

/-- What the driver's all-pairs table satisfies (certified exact inverse plugged in). -/
theorem mfpt_all_exec (n : Nat) (T : Mat) (π : Vec) (lag : Rat) (m : Mat)
    (hrow : ∀ i, i < n → sumTo n (fun j => T i j) = 1) (hπ : Stationary n T π)
    (hm : mfptsAll n T π lag = .ok m) :
    ∀ j, j < n → m j j = 0 ∧ ∀ i, i < n → i ≠ j → m i j = lag + sumTo n (fun k => T i k * m k j) := by
  unfold mfptsAll at hm
  split at hm
  · rename_i hnz
    simp only [List.all_eq_true, List.mem_range, decide_eq_true_eq] at hnz
    split at hm
    · cases hm
    · rename_i Z hsol
      cases hm
      exact fun j hj => mfpt_all_first_step n T π Z lag hrow hπ (solve_sound hsol) j hj (hnz j hj)
  · cases hm

example : okVal (eqProbs 3 T3) 1 = some (1/2) ∧ okEntry (mfptsAll 3 T3 π3 1) 0 2 = some 8 ∧
    okEntry (mfptsAll 3 T3 π3 10) 2 0 = some 80 := by decide +kernel

/-- Column `j` of the all-pairs table equals the single-sink computation for the sink `{j}`
whenever the single-sink system determines its solution uniquely. -/
theorem mfpt_all_eq_single_sink (n : Nat) (T : Mat) (π : Vec) (Z : Mat) (t : Vec) (lag : Rat)
    (hrow : ∀ i, i < n → sumTo n (fun j => T i j) = 1)
    (hπ : Stationary n T π) (hZ : FundInv n T π Z)
    (j : Nat) (hj : j < n) (hπj : π j ≠ 0)
    (ht : MfptSolve n T [j] t)
    (huniq : ∀ (b : Mat) (x y : Vec), IsSolution n 1 (ImQ T [j]) (fun i _ => x i) b →
      IsSolution n 1 (ImQ T [j]) (fun i _ => y i) b → ∀ i, i < n → x i = y i) :
    ∀ i, i < n → mfptAll lag Z π i j = mfptSinksFrom lag t i := by
  obtain ⟨h0, h1⟩ := mfpt_all_first_step n T π Z lag hrow hπ hZ j hj hπj
  simp only [sumTo_eq_sum] at h1
  exact huniq _ _ _
    ((first_step_iff (x := fun i => mfptAll lag Z π i j) fun s hs => List.mem_singleton.1 hs ▸ hj).2
      ⟨fun s hs => List.mem_singleton.1 hs ▸ h0,
        fun i hi his => h1 i hi fun e => his (List.mem_singleton.2 e)⟩)
    (ht.smul lag)

/-- The uniqueness hypothesis holds under the property's quantifier (non-negative row-stochastic
`T`, state `j` reachable from every state), so there the columns agree unconditionally. -/
theorem mfpt_all_eq_single_sink_ergodic (n : Nat) (T : Mat) (π : Vec) (Z : Mat) (t : Vec)
    (lag : Rat)
    (hnn : ∀ i, i < n → ∀ j, j < n → 0 ≤ T i j)
    (hrow : ∀ i, i < n → sumTo n (fun j => T i j) = 1)
    (hπ : Stationary n T π) (hZ : FundInv n T π Z)
    (j : Nat) (hj : j < n) (hπj : π j ≠ 0)
    (hreach : ∀ i, i < n → Reach n T [j] i)
    (ht : MfptSolve n T [j] t) :
    ∀ i, i < n → mfptAll lag Z π i j = mfptSinksFrom lag t i := by
  refine mfpt_all_eq_single_sink n T π Z t lag hrow hπ hZ j hj hπj ht ?_
  exact fun b x y hx hy =>
    absorbing_unique (fun s hs => List.mem_singleton.1 hs ▸ hj) ⟨hnn, hrow, hreach⟩ hx hy

example : (∀ i, i < 3 → ∀ j, j < 3 → 0 ≤ T3 i j) ∧ (∀ i, i < 3 → Reach 3 T3 [2] i) ∧
    MfptSolve 3 T3 [2] t3 ∧ mfptAll 1 Z3 π3 0 2 = mfptSinksFrom 1 t3 0 := by
  refine ⟨by decide +kernel, reach_T3, ?_, by decide +kernel⟩
  unfold MfptSolve IsSolution
  decide +kernel

end C07
