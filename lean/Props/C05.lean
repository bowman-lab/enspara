import Proofs.C05PreFix
/-!
C05 — reading a ragged array equals reading the list of its rows.

`Ens.Ragged` (Model/Ragged.lean) mirrors `enspara/ra/ra.py`.  `rows ra` is the list of rows a ragged
array stands for; `specGet (rows ra) idx` is the same read on that plain list (numpy semantics on
every row, `Model.PySlice` for slices).  `absE` turns a returned value into what it stands for (a new
RaggedArray into its list of rows).  Every refinement theorem has the shape
`absE (getItemF ra fast idx) = specGet (rows ra) idx` — equality of `Except` values, so the error
branch is covered too.

**Current code** (`getItemF` = `getItemV true`: `_slice_to_list` / `_get_iis_from_slices` use
`slice.indices(len)`, empty selections are built with integer dtype, `__init__` keeps an empty `_data`
and reshapes to `(n, L) + cell shape`).  All property theorems of the first part are about this
variant and are proved in full: no excluded region; the only hypotheses are
* `WF ra` — `sum lengths = len data` (what `__init__` enforces via `partition_list` / `reshape`);
* `FastOKF ra fast` — when the row view was built by `reshape` the lengths are all equal (the guard
  `np.all(lengths == lengths[0])` of `__init__`);
* the property's own grammar: column-slice step ≠ 0, paired index lists of equal length, a mask with
  the row lengths of the array.
The correspondence check holds the staged code to this variant on every case; a probe read that no
longer behaves like the list of rows is reported as a violation (regression), never excused.

Outside the model (checked by the Python list-of-rows oracle only): the `dtype` attribute; the cell
dimension that `shape` appends for multi-dimensional cells and `flatten()` of such cells (cells are
atomic here: the model's `flatten`/`shape`/`size` count cells); the integer dtype of index arrays
(indices are unbounded integers here; `_convert_from_2d` casts integer index arrays to `int` before
any arithmetic, and the harness drives int8/int16/int32/uint8/intp arrays and scalars, also with
negative entries on dimensions larger than the dtype's range); the array shape of a paired result (a
flat list here; the harness compares nested lists, so a k×k block instead of k cells is a violation).
Both were defects until commit 82d78c9 and are ordinary, unexcused cases now.
Outside the property's quantifier (positive row lengths): on an array without any cell `shape`
raises `IndexError` (`lengths[0]`; `shape`/`specShape` model exactly that).

**Pre-fix variant** (`getItem` = `getItemV false`, the tree before the `fix:` commit that applied
`C05-ra-reads.diff`), `namespace C05.PreFix`: kept as the record of why the repair was needed — the
full statements `C05_…_full` are refuted on concrete witnesses (`…_counterexample`, by `decide`) and
proved under hypotheses that exclude exactly the failing input classes (`…_partial`):
`RowSliceOK` (positive step, bounds within `[-n, n]`), `ColSliceOK` (positive step, non-negative
start), non-empty row selection, every selected row keeps a column, non-empty index lists, a mask
with a `True`.  On each of these regions the pre-fix model computes what the current one computes
(`Proofs/C05PreFix.lean`), which is how the `…_partial` theorems are proved.  They say nothing about
the current code.
-/

deriving instance DecidableEq for Except

namespace C05
open Ens Ens.Ragged

/-! ### representation -/

/-- a ragged array built from nested rows stands for exactly those rows -/
theorem rows_ofRows {α : Type} (rs : List (List α)) : rows (ofRows rs) = rs := rows_ofRows' rs

/-- a well-formed ragged array is the one built from its own rows (flat data and lengths are determined by the rows) -/
theorem ofRows_rows {α : Type} (ra : RA α) (h : WF ra) : ofRows (rows ra) = ra := ofRows_rows' ra h

/-- both constructors agree (current code: `ofFlatF`, an array without any cell included): flat data + lengths gives the same array as the nested rows -/
theorem constructors_agree {α : Type} (rs : List (List α)) :
    ofFlatF rs.flatten (rs.map List.length) = .ok (ofRows rs) := by
  simp only [ofFlatF, List.length_flatten, ne_eq, not_true_eq_false, if_false, ofRows]

example : ofFlatF [1, 2, 3, 4, 5] [3, 2] = .ok (ofRows [[1, 2, 3], [4, 5]]) := by decide +kernel

/-- `starts[i]` is the sum of the lengths of the rows before `i` -/
theorem starts_eq_prefix_sums (lens : List Nat) (i : Nat) (h : i < lens.length) :
    (starts lens)[i]? = some (lens.take i).sum := starts_getElem? lens i h

example : starts [3, 2, 4] = [0, 3, 5] := by decide +kernel

/-- `_convert_from_2d` and `_convert_from_1d` are inverse to each other on valid cells -/
theorem convert2d_1d_inverse (lens : List Nat) (i j len : Nat) (hi : lens[i]? = some len) (hj : j < len) :
    convertOne lens ((i : Int), (j : Int)) = .ok ((lens.take i).sum + j) ∧
    convertFrom1d (starts lens) ((lens.take i).sum + j) = .ok (i, j) :=
  ⟨convertOne_nat lens i j len hi hj, convertFrom1d_flat lens i j len hi hj⟩

example : convertOne [3, 2, 4] (2, 1) = .ok 6 ∧ convertFrom1d (starts [3, 2, 4]) 6 = .ok (2, 1) := by decide +kernel

/-- `ra.where(mask)` lists the (row, column) of every `True` cell in row-major order, as `np.where` does row by row -/
theorem where_spec (m : RA Bool) (h : WF m) : whereIdx m = .ok (specWhere (rows m)) := where_spec' m h

example : whereIdx ⟨[true, false, true, false, true], [3, 2]⟩ = .ok [(0, 0), (0, 2), (1, 1)] := by decide +kernel

/-- `flatten()` is the concatenation of the rows -/
theorem flatten_spec {α : Type} (ra : RA α) (h : WF ra) : flatten ra = (rows ra).flatten := by
  simp only [flatten, rows, partitionAux_flatten]
  simp only [WF] at h
  simp [h]

/-- `slice.indices` never produces a position outside the sequence (so the specification's slice reads cannot fail for a spurious reason) -/
theorem slice_indices_in_range (len : Nat) (s : PySlice) (ix : List Nat) (h : s.indices len = some ix) :
    ∀ k ∈ ix, k < len := PySlice.indices_lt h

/-! ### the current code: every index form in full -/

/-- the variant switch of the driver is nothing but a choice between the two models; the harness always asks for `true` -/
theorem variant_dispatch {α : Type} (ra : RA α) (fast : Bool) (idx : Index) :
    getItemV true ra fast idx = getItemF ra fast idx ∧ getItemV false ra fast idx = getItem ra fast idx :=
  ⟨rfl, rfl⟩

/-- the row view after the repair (`reshape((n, L) + cell shape)`), zero-length rows included -/
theorem array_view_eq_rows {α : Type} (ra : RA α) (h : WF ra) (fast : Bool) (hf : FastOKF ra fast) :
    arrayViewF ra fast = .ok (rows ra) := arrayViewF_eq_rows ra h fast hf

theorem get_row {α : Type} (ra : RA α) (h : WF ra) (fast : Bool) (hf : FastOKF ra fast) (i : Int) :
    absE (getItemF ra fast (.one (.int i))) = specGet (rows ra) (.one (.int i)) :=
  view_row ra (arrayViewF_eq_rows ra h fast hf) i

theorem get_row_slice {α : Type} (ra : RA α) (h : WF ra) (fast : Bool) (hf : FastOKF ra fast) (s : PySlice) :
    absE (getItemF ra fast (.one (.slice s))) = specGet (rows ra) (.one (.slice s)) :=
  view_select ra (arrayViewF_eq_rows ra h fast hf) fun v => npSlice v s

theorem get_row_list {α : Type} (ra : RA α) (h : WF ra) (fast : Bool) (hf : FastOKF ra fast) (l : List Int) (b : Bool) :
    absE (getItemF ra fast (.one (.list l b))) = specGet (rows ra) (.one (.list l b)) :=
  view_select ra (arrayViewF_eq_rows ra h fast hf) fun v => npTake v l

theorem get_int_slice {α : Type} (ra : RA α) (h : WF ra) (fast : Bool) (hf : FastOKF ra fast) (i : Int) (cs : PySlice) :
    absE (getItemF ra fast (.two (.int i) (.slice cs))) = specGet (rows ra) (.two (.int i) (.slice cs)) :=
  view_int_slice ra (arrayViewF_eq_rows ra h fast hf) i cs

theorem get_elem {α : Type} (ra : RA α) (h : WF ra) (fast : Bool) (i j : Int) :
    absE (getItemF ra fast (.two (.int i) (.int j))) = specGet (rows ra) (.two (.int i) (.int j)) := by
  simp only [getItemF, specGet, pairedF, idxArr, pairedCoreF_col, absE_gather ra h]
  cases hc : cell (rows ra) (i, j) <;> simp [mapE_cons, hc]

/-- `a[rs, j]` for every row slice: negative steps, bounds beyond the row count, empty selections -/
theorem get_slice_int {α : Type} (ra : RA α) (h : WF ra) (fast : Bool) (rs : PySlice) (j : Int) :
    absE (getItemF ra fast (.two (.slice rs) (.int j))) = specGet (rows ra) (.two (.slice rs) (.int j)) :=
  slice_list_coreF ra h rs [j]

/-- `a[rs, [j…]]` for every row slice and every column list (also empty) -/
theorem get_slice_list {α : Type} (ra : RA α) (h : WF ra) (fast : Bool) (rs : PySlice) (l : List Int) (b : Bool) :
    absE (getItemF ra fast (.two (.slice rs) (.list l b))) = specGet (rows ra) (.two (.slice rs) (.list l b)) :=
  slice_list_coreF ra h rs l

/-- `a[rs, cs]` for every row slice and every column slice of the grammar (step ≠ 0): negative starts and steps, rows that come up empty, no rows at all -/
theorem get_slice_slice {α : Type} (ra : RA α) (h : WF ra) (fast : Bool) (rs cs : PySlice)
    (hs : cs.step ≠ some 0) :
    absE (getItemF ra fast (.two (.slice rs) (.slice cs))) = specGet (rows ra) (.two (.slice rs) (.slice cs)) :=
  slice_slice_coreF ra h rs cs hs

/-- `a[[i…], cs]` for every row list (also empty, out-of-range rows give `IndexError` on both sides) -/
theorem get_list_slice {α : Type} (ra : RA α) (h : WF ra) (fast : Bool) (l : List Int) (b : Bool)
    (cs : PySlice) (hs : cs.step ≠ some 0) :
    absE (getItemF ra fast (.two (.list l b) (.slice cs))) = specGet (rows ra) (.two (.list l b) (.slice cs)) :=
  slices_coreF ra h l cs hs

/-- `a[[i…], [j…]]` for lists of equal length, also empty -/
theorem get_paired {α : Type} (ra : RA α) (h : WF ra) (fast : Bool) (l l2 : List Int) (b b2 : Bool)
    (hlen : l.length = l2.length) :
    absE (getItemF ra fast (.two (.list l b) (.list l2 b2))) = specGet (rows ra) (.two (.list l b) (.list l2 b2)) := by
  simp only [getItemF, specGet, pairedF, idxArr]
  rw [pairedCoreF_zip ra l l2 hlen, if_pos hlen, absE_gather ra h]

/-- `a[[i…], [j]]`: a one-element column list is broadcast over the row list, as numpy does (`np.repeat` in `_convert_from_2d`) -/
theorem get_paired_broadcast_col {α : Type} (ra : RA α) (h : WF ra) (fast : Bool) (l : List Int) (b b2 : Bool) (j : Int)
    (hl : l.length ≠ 1) :
    absE (getItemF ra fast (.two (.list l b) (.list [j] b2))) = specGet (rows ra) (.two (.list l b) (.list [j] b2)) := by
  simp only [getItemF, specGet, pairedF, idxArr, pairedCoreF_col, absE_gather ra h, mapE_map,
    List.length_cons, List.length_nil, List.headD_cons]
  rw [if_neg (by simpa using hl), if_pos trivial]

/-- `a[[i], [j…]]`: a one-element row list is broadcast over a non-empty column list -/
theorem get_paired_broadcast_row {α : Type} (ra : RA α) (h : WF ra) (fast : Bool) (i : Int) (l2 : List Int) (b b2 : Bool)
    (hl : l2.length ≠ 1) (hne : l2 ≠ []) :
    absE (getItemF ra fast (.two (.list [i] b) (.list l2 b2))) = specGet (rows ra) (.two (.list [i] b) (.list l2 b2)) := by
  simp only [getItemF, specGet, pairedF, idxArr, pairedCoreF_row, List.length_cons, List.length_nil,
    List.headD_cons]
  rw [if_neg hne, if_neg (by intro h1; exact hl h1.symm), if_neg hl, if_pos ⟨trivial, hne⟩, absE_gather ra h,
    mapE_map]

example : absE (getItemF (⟨[1, 2, 3, 4, 5], [3, 2]⟩ : RA Nat) false (.two (.list [0, 1] false) (.list [-1] false))) =
    .ok (.arr [3, 5]) := by decide +kernel
example : absE (getItemF (⟨[1, 2, 3, 4, 5], [3, 2]⟩ : RA Nat) false (.two (.list [0] false) (.list [2, 0] true))) =
    .ok (.arr [3, 1]) := by decide +kernel

theorem get_int_list {α : Type} (ra : RA α) (h : WF ra) (fast : Bool) (i : Int) (l : List Int) (b : Bool) :
    absE (getItemF ra fast (.two (.int i) (.list l b))) = specGet (rows ra) (.two (.int i) (.list l b)) := by
  simp only [getItemF, specGet, pairedF, idxArr, colSel, pairedCoreF_row]
  by_cases hl : l = []
  · subst hl
    simp only [absE, if_true, npTake, mapE_nil, bindE_ok]
    rw [lengths_eq ra h, npIndex_map]
    cases npIndex (rows ra) i <;> rfl
  · rw [if_neg hl, absE_gather ra h, mapE_map]
    simp only [cell, npTake]
    rw [mapE_bind_const _ _ hl, bindE_assoc]

theorem get_list_int {α : Type} (ra : RA α) (h : WF ra) (fast : Bool) (l : List Int) (b : Bool) (j : Int) :
    absE (getItemF ra fast (.two (.list l b) (.int j))) = specGet (rows ra) (.two (.list l b) (.int j)) := by
  simp only [getItemF, specGet, pairedF, idxArr, pairedCoreF_col, absE_gather ra h, mapE_map]

/-- `a[mask]` for every ragged boolean mask of the same row lengths, all-false included -/
theorem get_mask {α : Type} (ra : RA α) (h : WF ra) (fast : Bool) (m : RA Bool) (hm : WF m)
    (hl : m.lengths = ra.lengths) :
    absE (getItemF ra fast (.mask m)) = specGet (rows ra) (.mask m) := by
  have hlen : (rows ra).map List.length = (rows m).map List.length := by
    rw [← lengths_eq ra h, ← lengths_eq m hm, hl]
  simp only [getItemF, specGet, where_spec' m hm, bindE_ok, pairedF, idxArr]
  rw [pairedCoreF_zip ra _ _ (by simp), List.zip_map', absE_gather ra h, mapE_map, mask_gather_rows _ _ hlen]
  rfl

/-- iterating (Python's `__getitem__(0), (1), …` protocol until `IndexError`) yields the rows in order; `len` is their number -/
theorem iter_spec {α : Type} (ra : RA α) (h : WF ra) (fast : Bool) (hf : FastOKF ra fast) :
    iterF ra fast = .ok (rows ra) ∧ lenF ra fast = .ok (rows ra).length :=
  ⟨view_iter (arrayViewF_eq_rows ra h fast hf), by simp only [lenF, arrayViewF_eq_rows ra h fast hf, bindE_ok]⟩

-- the witnesses that refute the pre-fix variant (namespace PreFix below), on the current code
example : absE (getItemF (⟨[1, 2, 3, 4, 5], [3, 2]⟩ : RA Nat) false (.two (.slice ⟨none, none, none⟩) (.slice ⟨some (-1), none, none⟩))) =
    .ok (.rows [[3], [5]]) := by decide +kernel
example : absE (getItemF (⟨[1, 2, 3, 4, 5], [3, 2]⟩ : RA Nat) false (.two (.slice ⟨none, none, some (-1)⟩) (.slice ⟨none, none, some (-2)⟩))) =
    .ok (.rows [[5], [3, 1]]) := by decide +kernel
example : absE (getItemF (⟨[1, 2, 3, 4, 5], [3, 2]⟩ : RA Nat) false (.two (.slice ⟨some 0, some 5, none⟩) (.slice ⟨some 2, none, none⟩))) =
    .ok (.rows [[3], []]) := by decide +kernel
example : absE (getItemF (⟨[1, 2, 3, 4, 5], [3, 2]⟩ : RA Nat) false (.two (.slice ⟨some 0, some 0, none⟩) (.int 0))) =
    .ok (.rows []) := by decide +kernel
example : absE (getItemF (⟨[1, 2, 3, 4, 5], [3, 2]⟩ : RA Nat) false (.two (.int 0) (.list [] false))) = .ok (.arr []) ∧
    absE (getItemF (⟨[1, 2, 3, 4, 5], [3, 2]⟩ : RA Nat) false (.two (.int 2) (.list [] false))) = .error .indexError := by decide +kernel
example : absE (getItemF (⟨[1, 2, 3, 4, 5], [3, 2]⟩ : RA Nat) false (.mask ⟨[false, false, false, false, false], [3, 2]⟩)) =
    .ok (.arr []) := by decide +kernel

/-- a column outside the row (after the single negative wrap) or a row outside the array is an `IndexError`, never a neighbouring row's datum; needs no well-formedness -/
theorem get_elem_oob_errors {α : Type} (ra : RA α) (fast : Bool) (i j : Int) :
    (∀ len, npIndex ra.lengths i = .ok len → (j < -(len : Int) ∨ (len : Int) ≤ j) →
      getItemF ra fast (.two (.int i) (.int j)) = .error .indexError) ∧
    ((i < -(ra.lengths.length : Int) ∨ (ra.lengths.length : Int) ≤ i) →
      getItemF ra fast (.two (.int i) (.int j)) = .error .indexError) :=
  ⟨fun len hrow hj => get_elem_F_of_convert_error ra fast i j _ (convertOne_col_oob ra.lengths i j len hrow hj),
   fun hi => get_elem_F_of_convert_error ra fast i j _ (convertOne_row_oob ra.lengths i j hi)⟩

-- row 0 has 3 cells: column 3 would be the first cell of row 1 in the flat data
example : getItemF (⟨[1, 2, 3, 4, 5], [3, 2]⟩ : RA Nat) false (.two (.int 0) (.int 3)) = .error .indexError := by decide +kernel
example : absE (getItemF (⟨[1, 2, 3, 4, 5], [3, 2]⟩ : RA Nat) false (.two (.int (-1)) (.int (-2)))) = .ok (.arr [4]) := by decide +kernel

/-- `lengths`, `starts`, `size`, `len`, `shape` are those of the list of rows -/
theorem attrs_spec {α : Type} (ra : RA α) (h : WF ra) (fast : Bool) (hf : FastOKF ra fast) :
    ra.lengths = (rows ra).map List.length ∧
    (∀ i, i < (rows ra).length → (starts ra.lengths)[i]? = some (((rows ra).map List.length).take i).sum) ∧
    size ra = ((rows ra).map List.length).sum ∧
    lenF ra fast = .ok (rows ra).length ∧
    shape ra = specShape (rows ra) := by
  exact ⟨lengths_eq ra h, starts_rows ra h, size_eq ra h,
    by simp only [lenF, arrayViewF_eq_rows ra h fast hf, bindE_ok], shape_eq ra h⟩

example : shape (⟨[1, 2, 3, 4, 5], [3, 2]⟩ : RA Nat) = .ok (2, none) ∧
    shape (⟨[1, 2, 3, 4], [2, 2]⟩ : RA Nat) = .ok (2, some 2) := by decide +kernel
example : iterF (⟨[1, 2, 3, 4, 5, 6], [3, 3]⟩ : RA Nat) true = .ok [[1, 2, 3], [4, 5, 6]] ∧
    WF (⟨[1, 2, 3, 4, 5, 6], [3, 3]⟩ : RA Nat) ∧ FastOKF (⟨[1, 2, 3, 4, 5, 6], [3, 3]⟩ : RA Nat) true :=
  ⟨by decide, by decide, fun _ => ⟨3, by decide⟩⟩

/-! ## Pre-fix variant `getItemV false` (the tree before the repair) — historical record only

Nothing below is about the current code. -/
namespace PreFix

/-- pre-fix `ofFlat` refused an empty flat array -/
theorem constructors_agree {α : Type} (rs : List (List α)) (hne : rs.flatten ≠ []) :
    ofFlat rs.flatten (rs.map List.length) = .ok (ofRows rs) := by
  simp only [ofFlat, if_neg hne, List.length_flatten, ne_eq, not_true_eq_false, if_false, ofRows]

/-- the row view `_array` is the list of rows, on the rectangular fast path (`reshape`) as well as via `partition_list` -/
theorem array_view_eq_rows {α : Type} (ra : RA α) (h : WF ra) (fast : Bool) (hf : FastOK ra fast) :
    arrayView ra fast = .ok (rows ra) := arrayView_eq_rows ra h fast hf

example : arrayView (⟨[1, 2, 3, 4, 5, 6], [2, 2, 2]⟩ : RA Nat) true = .ok [[1, 2], [3, 4], [5, 6]] := by decide +kernel

/-! ### one-dimensional index forms (numpy on the row view) -/

/-- `a[i]` -/
theorem get_row {α : Type} (ra : RA α) (h : WF ra) (fast : Bool) (hf : FastOK ra fast) (i : Int) :
    absE (getItem ra fast (.one (.int i))) = specGet (rows ra) (.one (.int i)) :=
  view_row ra (arrayView_eq_rows ra h fast hf) i

/-- `a[s]` for any slice (any bounds, any non-zero or zero step) -/
theorem get_row_slice {α : Type} (ra : RA α) (h : WF ra) (fast : Bool) (hf : FastOK ra fast) (s : PySlice) :
    absE (getItem ra fast (.one (.slice s))) = specGet (rows ra) (.one (.slice s)) :=
  view_select ra (arrayView_eq_rows ra h fast hf) fun v => npSlice v s

/-- `a[[i0, i1, …]]` (list or ndarray, also empty) -/
theorem get_row_list {α : Type} (ra : RA α) (h : WF ra) (fast : Bool) (hf : FastOK ra fast) (l : List Int) (b : Bool) :
    absE (getItem ra fast (.one (.list l b))) = specGet (rows ra) (.one (.list l b)) :=
  view_select ra (arrayView_eq_rows ra h fast hf) fun v => npTake v l

example : absE (getItem (⟨[1, 2, 3, 4, 5], [3, 2]⟩ : RA Nat) false (.one (.slice ⟨none, none, some (-1)⟩))) =
    .ok (.rows [[4, 5], [1, 2, 3]]) := by decide +kernel

/-- `a[i, s]` for any slice -/
theorem get_int_slice {α : Type} (ra : RA α) (h : WF ra) (fast : Bool) (hf : FastOK ra fast) (i : Int) (cs : PySlice) :
    absE (getItem ra fast (.two (.int i) (.slice cs))) = specGet (rows ra) (.two (.int i) (.slice cs)) :=
  view_int_slice ra (arrayView_eq_rows ra h fast hf) i cs

example : absE (getItem (⟨[1, 2, 3, 4, 5], [3, 2]⟩ : RA Nat) false (.two (.int 0) (.slice ⟨some (-1), none, some (-2)⟩))) =
    .ok (.arr [3, 1]) := by decide +kernel

/-! ### element access -/

/-- `a[i, j]` for all integers `i`, `j` (negative ones included): the flat offset `starts[i] + j` reads `rows[i][j]` and fails exactly when that read fails -/
theorem get_elem {α : Type} (ra : RA α) (h : WF ra) (fast : Bool) (i j : Int) :
    absE (getItem ra fast (.two (.int i) (.int j))) = specGet (rows ra) (.two (.int i) (.int j)) := by
  rw [getItem_two_eq_F ra fast _ _ (by simp [idxArr]) (by simp [idxArr])]
  exact C05.get_elem ra h fast i j

example : absE (getItem (⟨[1, 2, 3, 4, 5], [3, 2]⟩ : RA Nat) false (.two (.int (-1)) (.int (-2)))) =
    .ok (.arr [4]) := by decide +kernel

/-- a column outside the row (after the single negative wrap) or a row outside the array is an `IndexError`, never a neighbouring row's datum; needs no well-formedness -/
theorem get_elem_oob_errors {α : Type} (ra : RA α) (fast : Bool) (i j : Int) :
    (∀ len, npIndex ra.lengths i = .ok len → (j < -(len : Int) ∨ (len : Int) ≤ j) →
      getItem ra fast (.two (.int i) (.int j)) = .error .indexError) ∧
    ((i < -(ra.lengths.length : Int) ∨ (ra.lengths.length : Int) ≤ i) →
      getItem ra fast (.two (.int i) (.int j)) = .error .indexError) := by
  rw [getItem_two_eq_F ra fast _ _ (by simp [idxArr]) (by simp [idxArr])]
  exact C05.get_elem_oob_errors ra fast i j

-- row 0 has 3 cells: column 3 would be the first cell of row 1 in the flat data
example : getItem (⟨[1, 2, 3, 4, 5], [3, 2]⟩ : RA Nat) false (.two (.int 0) (.int 3)) = .error .indexError := by decide +kernel

/-! ### paired fancy indices -/

def C05_get_paired_full : Prop :=
  ∀ (ra : RA Nat) (fast : Bool) (r c : Part), WF ra →
    (∀ s, r ≠ .slice s) → (∀ s, c ≠ .slice s) → (idxArr r).1.length = (idxArr c).1.length ∨
      (idxArr r).1.length = 1 ∨ (idxArr c).1.length = 1 →
    absE (getItem ra fast (.two r c)) = specGet (rows ra) (.two r c)

/-- `a[0, []]` raises `IndexError` instead of returning an empty array (finding `getitem-2d-empty-index-list-or-all-false-mask`) -/
theorem get_paired_counterexample : ¬ C05_get_paired_full := by
  intro h
  have := h ⟨[1, 2, 3, 4, 5], [3, 2]⟩ false (.int 0) (.list [] false) (by decide)
    (by intro s hs; cases hs) (by intro s hs; cases hs) (by decide)
  revert this; decide +kernel

/-- `a[[i…], [j…]]` with index lists of equal non-zero length.  Missing w.r.t. the full statement: empty index lists. -/
theorem get_paired_partial {α : Type} (ra : RA α) (h : WF ra) (fast : Bool) (l l2 : List Int) (b b2 : Bool)
    (hl : l ≠ []) (hlen : l.length = l2.length) :
    absE (getItem ra fast (.two (.list l b) (.list l2 b2))) = specGet (rows ra) (.two (.list l b) (.list l2 b2)) := by
  rw [getItem_two_eq_F ra fast _ _ (by simpa [idxArr] using hl)
    (by intro h2; simp only [idxArr] at h2; rw [h2] at hlen; exact hl (List.length_eq_zero_iff.mp hlen))]
  exact C05.get_paired ra h fast l l2 b b2 hlen

example : absE (getItem (⟨[1, 2, 3, 4, 5], [3, 2]⟩ : RA Nat) false (.two (.list [1, -2, 0] false) (.list [-1, 1, 5] true))) =
    .error .indexError := by decide +kernel
example : absE (getItem (⟨[1, 2, 3, 4, 5], [3, 2]⟩ : RA Nat) false (.two (.list [1, -2, 0] false) (.list [-1, 1, 2] true))) =
    .ok (.arr [5, 2, 3]) := by decide +kernel

/-- `a[i, [j…]]` with a non-empty column list.  Missing: the empty list. -/
theorem get_int_list_partial {α : Type} (ra : RA α) (h : WF ra) (fast : Bool) (i : Int) (l : List Int) (b : Bool)
    (hl : l ≠ []) :
    absE (getItem ra fast (.two (.int i) (.list l b))) = specGet (rows ra) (.two (.int i) (.list l b)) := by
  rw [getItem_two_eq_F ra fast _ _ (by simp [idxArr]) (by simpa [idxArr] using hl)]
  exact C05.get_int_list ra h fast i l b

/-- `a[[i…], j]` with a non-empty row list.  Missing: the empty list. -/
theorem get_list_int_partial {α : Type} (ra : RA α) (h : WF ra) (fast : Bool) (l : List Int) (b : Bool) (j : Int)
    (hl : l ≠ []) :
    absE (getItem ra fast (.two (.list l b) (.int j))) = specGet (rows ra) (.two (.list l b) (.int j)) := by
  rw [getItem_two_eq_F ra fast _ _ (by simpa [idxArr] using hl) (by simp [idxArr])]
  exact C05.get_list_int ra h fast l b j

example : absE (getItem (⟨[1, 2, 3, 4, 5], [3, 2]⟩ : RA Nat) false (.two (.int (-2)) (.list [2, -3] true))) =
    .ok (.arr [3, 1]) := by decide +kernel
example : absE (getItem (⟨[1, 2, 3, 4, 5], [3, 2]⟩ : RA Nat) false (.two (.list [0, 1] false) (.int 2))) =
    .error .indexError := by decide +kernel
example : absE (getItem (⟨[1, 2, 3, 4, 5], [3, 2]⟩ : RA Nat) false (.two (.list [0, 1] false) (.int (-2)))) =
    .ok (.arr [2, 4]) := by decide +kernel

/-! ### two-dimensional reads with a row slice -/

def C05_get_slice_int_full : Prop :=
  ∀ (ra : RA Nat) (fast : Bool) (rs : PySlice) (j : Int), WF ra →
    absE (getItem ra fast (.two (.slice rs) (.int j))) = specGet (rows ra) (.two (.slice rs) (.int j))

/-- `a[::-1, 0]` raises `ValueError` (finding `getitem-2d-row-slice-negative-step`) -/
theorem get_slice_int_counterexample : ¬ C05_get_slice_int_full := by
  intro h
  have := h ⟨[1, 2, 3, 4, 5], [3, 2]⟩ false ⟨none, none, some (-1)⟩ 0 (by decide)
  revert this; decide +kernel

/-- `a[rs, j]` for a row slice with positive step, bounds within `[-n, n]` and a non-empty selection.  Missing: negative steps, bounds beyond the row count, empty selections. -/
theorem get_slice_int_partial {α : Type} (ra : RA α) (h : WF ra) (fast : Bool) (rs : PySlice) (j : Int)
    (hrs : RowSliceOK ra.lengths.length rs) (hsel : rs.indices ra.lengths.length ≠ some []) :
    absE (getItem ra fast (.two (.slice rs) (.int j))) = specGet (rows ra) (.two (.slice rs) (.int j)) := by
  rw [show getItem ra fast (.two (.slice rs) (.int j)) = getItemF ra fast (.two (.slice rs) (.int j)) from
    rowslice_list_eq_F ra hrs hsel (l := [j]) (by simp)]
  exact C05.get_slice_int ra h fast rs j

example : RowSliceOK 2 ⟨none, some (-1), some 1⟩ ∧ (⟨none, some (-1), some 1⟩ : PySlice).indices 2 ≠ some [] :=
  ⟨⟨by simp, by simp, by intro v hv; cases hv; omega⟩, by decide⟩
example : absE (getItem (⟨[1, 2, 3, 4, 5], [3, 2]⟩ : RA Nat) false (.two (.slice ⟨none, none, none⟩) (.int (-1)))) =
    .ok (.rows [[3], [5]]) := by decide +kernel

def C05_get_slice_list_full : Prop :=
  ∀ (ra : RA Nat) (fast : Bool) (rs : PySlice) (l : List Int) (b : Bool), WF ra →
    absE (getItem ra fast (.two (.slice rs) (.list l b))) = specGet (rows ra) (.two (.slice rs) (.list l b))

/-- `a[0:3, [0]]` on two rows raises `IndexError` instead of clipping the slice (finding `getitem-2d-row-slice-bound-out-of-range`) -/
theorem get_slice_list_counterexample : ¬ C05_get_slice_list_full := by
  intro h
  have := h ⟨[1, 2, 3, 4, 5], [3, 2]⟩ false ⟨some 0, some 3, none⟩ [0] false (by decide)
  revert this; decide +kernel

/-- `a[rs, [j…]]` under the same conditions on the row slice and a non-empty column list. -/
theorem get_slice_list_partial {α : Type} (ra : RA α) (h : WF ra) (fast : Bool) (rs : PySlice) (l : List Int) (b : Bool)
    (hrs : RowSliceOK ra.lengths.length rs) (hsel : rs.indices ra.lengths.length ≠ some []) (hl : l ≠ []) :
    absE (getItem ra fast (.two (.slice rs) (.list l b))) = specGet (rows ra) (.two (.slice rs) (.list l b)) := by
  rw [show getItem ra fast (.two (.slice rs) (.list l b)) = getItemF ra fast (.two (.slice rs) (.list l b)) from
    rowslice_list_eq_F ra hrs hsel hl]
  exact C05.get_slice_list ra h fast rs l b

example : absE (getItem (⟨[1, 2, 3, 4, 5], [3, 2]⟩ : RA Nat) false (.two (.slice ⟨some (-2), none, none⟩) (.list [1, 0] false))) =
    .ok (.rows [[2, 1], [5, 4]]) := by decide +kernel

def C05_get_slice_slice_full : Prop :=
  ∀ (ra : RA Nat) (fast : Bool) (rs cs : PySlice), WF ra →
    absE (getItem ra fast (.two (.slice rs) (.slice cs))) = specGet (rows ra) (.two (.slice rs) (.slice cs))

/-- `a[:, -1:]` returns every row rotated (`[3,1,2,3]`, `[5,4,5]`) instead of its last cell (finding `getitem-2d-col-slice-negative-start`) -/
theorem get_slice_slice_counterexample : ¬ C05_get_slice_slice_full := by
  intro h
  have := h ⟨[1, 2, 3, 4, 5], [3, 2]⟩ false ⟨none, none, none⟩ ⟨some (-1), none, none⟩ (by decide)
  revert this; decide +kernel

/-- `a[:, ::-1]` raises `TypeError` (finding `getitem-2d-col-slice-negative-step`) -/
theorem get_slice_slice_negstep_counterexample :
    absE (getItem (⟨[1, 2, 3, 4, 5], [3, 2]⟩ : RA Nat) false (.two (.slice ⟨none, none, none⟩) (.slice ⟨none, none, some (-1)⟩))) ≠
      specGet (rows ⟨[1, 2, 3, 4, 5], [3, 2]⟩) (.two (.slice ⟨none, none, none⟩) (.slice ⟨none, none, some (-1)⟩)) := by
  decide +kernel

/-- `a[0:0, :]` raises `ValueError` instead of returning an empty array (finding `getitem-2d-no-rows-selected`) -/
theorem get_slice_slice_norows_counterexample :
    absE (getItem (⟨[1, 2, 3, 4, 5], [3, 2]⟩ : RA Nat) false (.two (.slice ⟨some 0, some 0, none⟩) (.slice ⟨none, none, none⟩))) ≠
      specGet (rows ⟨[1, 2, 3, 4, 5], [3, 2]⟩) (.two (.slice ⟨some 0, some 0, none⟩) (.slice ⟨none, none, none⟩)) := by
  decide +kernel

/-- `a[:, 2:]` with a row of length 2 raises `TypeError` instead of returning `[[3], []]` (finding `getitem-2d-col-slice-empties-a-row`) -/
theorem get_slice_slice_emptyrow_counterexample :
    absE (getItem (⟨[1, 2, 3, 4, 5], [3, 2]⟩ : RA Nat) false (.two (.slice ⟨none, none, none⟩) (.slice ⟨some 2, none, none⟩))) ≠
      specGet (rows ⟨[1, 2, 3, 4, 5], [3, 2]⟩) (.two (.slice ⟨none, none, none⟩) (.slice ⟨some 2, none, none⟩)) := by
  decide +kernel

/-- `a[rs, cs]`: row slice as above; column slice with positive step and non-negative start; every selected row keeps at least one column.  Missing: the six finding classes listed in the header. -/
theorem get_slice_slice_partial {α : Type} (ra : RA α) (h : WF ra) (fast : Bool) (rs cs : PySlice)
    (hrs : RowSliceOK ra.lengths.length rs) (hsel : rs.indices ra.lengths.length ≠ some [])
    (hcs : ColSliceOK cs)
    (hrow : ∀ ix, rs.indices ra.lengths.length = some ix → ∀ k ∈ ix, ∀ len,
      ra.lengths[k]? = some len → cs.indices len ≠ some []) :
    absE (getItem ra fast (.two (.slice rs) (.slice cs))) = specGet (rows ra) (.two (.slice rs) (.slice cs)) := by
  rw [show getItem ra fast (.two (.slice rs) (.slice cs)) = getItemF ra fast (.two (.slice rs) (.slice cs)) from
    rowslice_slice_eq_F ra hrs hsel hcs hrow]
  exact C05.get_slice_slice ra h fast rs cs hcs.step_ne

example : ColSliceOK ⟨some 1, some (-1), some 2⟩ :=
  ⟨by intro v hv; cases hv; omega, by intro v hv; cases hv; omega⟩
example : absE (getItem (⟨[1, 2, 3, 4, 5, 6, 7], [4, 3]⟩ : RA Nat) false
    (.two (.slice ⟨none, none, none⟩) (.slice ⟨some 1, some (-1), some 2⟩))) = .ok (.rows [[2], [6]]) := by decide +kernel
example : absE (getItem (⟨[1, 2, 3, 4, 5, 6, 7], [4, 3]⟩ : RA Nat) false
    (.two (.slice ⟨some (-1), none, none⟩) (.slice ⟨none, some 9, none⟩))) = .ok (.rows [[5, 6, 7]]) := by decide +kernel

def C05_get_list_slice_full : Prop :=
  ∀ (ra : RA Nat) (fast : Bool) (l : List Int) (b : Bool) (cs : PySlice), WF ra →
    absE (getItem ra fast (.two (.list l b) (.slice cs))) = specGet (rows ra) (.two (.list l b) (.slice cs))

/-- `a[[1, 0], -2:]` returns rotated rows (finding `getitem-2d-col-slice-negative-start`) -/
theorem get_list_slice_counterexample : ¬ C05_get_list_slice_full := by
  intro h
  have := h ⟨[1, 2, 3, 4, 5], [3, 2]⟩ false [1, 0] false ⟨some (-2), none, none⟩ (by decide)
  revert this; decide +kernel

/-- `a[[i…], cs]`: non-empty row list (any integers: out-of-range ones give `IndexError` on both sides), column slice as above, every selected row keeps at least one column. -/
theorem get_list_slice_partial {α : Type} (ra : RA α) (h : WF ra) (fast : Bool) (l : List Int) (b : Bool) (cs : PySlice)
    (hl : l ≠ []) (hcs : ColSliceOK cs)
    (hrow : ∀ i ∈ l, ∀ len, npIndex ra.lengths i = .ok len → cs.indices len ≠ some []) :
    absE (getItem ra fast (.two (.list l b) (.slice cs))) = specGet (rows ra) (.two (.list l b) (.slice cs)) := by
  rw [show getItem ra fast (.two (.list l b) (.slice cs)) = getItemF ra fast (.two (.list l b) (.slice cs)) from
    finish_slices_eq_F ra hcs hl hrow]
  exact C05.get_list_slice ra h fast l b cs hcs.step_ne

example : absE (getItem (⟨[1, 2, 3, 4, 5, 6, 7], [4, 3]⟩ : RA Nat) false
    (.two (.list [-1, 0, -1] true) (.slice ⟨some 1, none, none⟩))) = .ok (.rows [[6, 7], [2, 3, 4], [6, 7]]) := by decide +kernel
example : absE (getItem (⟨[1, 2, 3, 4, 5, 6, 7], [4, 3]⟩ : RA Nat) false
    (.two (.list [0, 2] true) (.slice ⟨some 1, none, none⟩))) = .error .indexError := by decide +kernel

/-! ### boolean ragged mask -/

def C05_get_mask_full : Prop :=
  ∀ (ra : RA Nat) (fast : Bool) (m : RA Bool), WF ra → WF m → m.lengths = ra.lengths →
    absE (getItem ra fast (.mask m)) = specGet (rows ra) (.mask m)

/-- an all-false mask raises `IndexError` instead of selecting nothing (finding `getitem-2d-empty-index-list-or-all-false-mask`) -/
theorem get_mask_counterexample : ¬ C05_get_mask_full := by
  intro h
  have := h ⟨[1, 2, 3, 4, 5], [3, 2]⟩ false ⟨[false, false, false, false, false], [3, 2]⟩
    (by decide) (by decide) (by decide)
  revert this; decide +kernel

/-- `a[mask]` for a ragged boolean mask of the same row lengths with at least one `True`. -/
theorem get_mask_partial {α : Type} (ra : RA α) (h : WF ra) (fast : Bool) (m : RA Bool) (hm : WF m)
    (hl : m.lengths = ra.lengths) (hany : specWhere (rows m) ≠ []) :
    absE (getItem ra fast (.mask m)) = specGet (rows ra) (.mask m) := by
  rw [getItem_mask_eq_F ra fast m hm hany]
  exact C05.get_mask ra h fast m hm hl

example : absE (getItem (⟨[1, 2, 3, 4, 5], [3, 2]⟩ : RA Nat) false (.mask ⟨[true, false, true, false, true], [3, 2]⟩)) =
    .ok (.arr [1, 3, 5]) := by decide +kernel

/-! ### iteration, attributes -/

/-- iterating (Python's `__getitem__(0), (1), …` protocol until `IndexError`) yields the rows in order -/
theorem iter_spec {α : Type} (ra : RA α) (h : WF ra) (fast : Bool) (hf : FastOK ra fast) :
    iter ra fast = .ok (rows ra) :=
  view_iter (arrayView_eq_rows ra h fast hf)

example : iter (⟨[1, 2, 3, 4, 5, 6], [3, 3]⟩ : RA Nat) true = .ok [[1, 2, 3], [4, 5, 6]] ∧
    WF (⟨[1, 2, 3, 4, 5, 6], [3, 3]⟩ : RA Nat) ∧ FastOK (⟨[1, 2, 3, 4, 5, 6], [3, 3]⟩ : RA Nat) true :=
  ⟨by decide, by decide, fun _ => ⟨3, by decide, by decide, by decide⟩⟩

/-- `lengths`, `starts`, `size`, `len`, `shape` are those of the list of rows -/
theorem attrs_spec {α : Type} (ra : RA α) (h : WF ra) (fast : Bool) (hf : FastOK ra fast) :
    ra.lengths = (rows ra).map List.length ∧
    (∀ i, i < (rows ra).length → (starts ra.lengths)[i]? = some (((rows ra).map List.length).take i).sum) ∧
    size ra = ((rows ra).map List.length).sum ∧
    len ra fast = .ok (rows ra).length ∧
    shape ra = specShape (rows ra) := by
  exact ⟨lengths_eq ra h, starts_rows ra h, size_eq ra h,
    by simp only [len, arrayView_eq_rows ra h fast hf, bindE_ok], shape_eq ra h⟩

example : shape (⟨[1, 2, 3, 4, 5], [3, 2]⟩ : RA Nat) = .ok (2, none) ∧
    shape (⟨[1, 2, 3, 4], [2, 2]⟩ : RA Nat) = .ok (2, some 2) := by decide +kernel

end PreFix

end C05
