import Props.C01
/-!
C09 — k-medoids refinement never worsens the cost and keeps centers in the data.

`cost n dist` = mean squared frame-to-center distance (`_msq`).  `costsOf n tr` = the cost of the state after
every accept/reject decision of a trace, in order.  The first group of theorems needs no hypothesis at all on
the table or on the state the sweeps start from (monotone cost, k kept, centers are frames, rejected ⇒ nothing
kept); the last group adds what holds from a consistent start (C01's predicate).
Reproducibility ("with a fixed random seed, or with explicitly supplied proposals, the outcome is reproducible")
is CORRESPONDENCE-ONLY: the model is a function of (table, start state, proposals, oracle), so there is nothing
to prove about it; that the real code consumes its RNG reproducibly is checked in harness/props/c09.py (same
call twice, same objects reused, recorded random choices replayed through the oracle step by step).
-/
namespace C09
open Ens Ens.Cluster Ens.Cluster.Ex

/-! ### one step / one sweep, from any state -/

/-- accept iff the candidate's cost is strictly lower; the step then carries the whole candidate -/
theorem pamStep_accept_iff {D : Table} {n : Nat} {s : St} {cid p : Nat} {st : PamStep}
    (h : pamStep D n s cid p = .ok st) :
    (st.acc = true ↔ cost n (pamCandidate D n s cid p).arr.dist < cost n s.arr.dist) ∧
    (st.acc = true → st.after = pamCandidate D n s cid p) := by
  obtain ⟨_, _, _, _, hacc, hafter⟩ := pamStep_spec h
  exact ⟨hacc, fun ha => by rw [hafter, if_pos ha]⟩

/-- on rejection all four components (distances, labels, center coordinates, center indices) are exactly the
old ones: the candidate is discarded wholesale -/
theorem pam_reject_discards_all {D : Table} {n : Nat} {s : St} {cid p : Nat} {st : PamStep}
    (h : pamStep D n s cid p = .ok st) (hrej : st.acc = false) : st.after = s := by
  rcases pamStep_after_cases h with ⟨_, e⟩ | ⟨ha, _, _⟩
  · exact e
  · rw [ha] at hrej; cases hrej

example : (pamStep D6 6 s6 0 2).toOption.map (fun st => (st.acc, st.oldCost, st.newCost, st.after == s6)) =
    some (false, 22/3, 47/6, true) := step_0_2.2

/-- every consecutive pair of states in a sweep's history is either identical or strictly cheaper -/
theorem pam_history_steps {D : Table} {n : Nat} {s s' : St} {props : Option (List Nat)} {orc orc' : List Nat}
    {tr : List PamStep} (h : pamUpdate D n s props orc = .ok (s', orc', tr)) :
    (({ s with ctrFrames := s.ctrInds } : St) :: tr.map (·.after)).IsChain
      (fun a b => b = a ∨ cost n b.arr.dist < cost n a.arr.dist) :=
  pamLoop_trace_steps _ (pamUpdate_ok h).2.2.2.2.2

/-- one sweep never raises the cost -/
theorem pamUpdate_cost_le {D : Table} {n : Nat} {s s' : St} {props : Option (List Nat)} {orc orc' : List Nat}
    {tr : List PamStep} (h : pamUpdate D n s props orc = .ok (s', orc', tr)) :
    cost n s'.arr.dist ≤ cost n s.arr.dist :=
  (pamUpdate_costs h).le

/-- a sweep that leaves the cost unchanged leaves the whole state unchanged (centers re-read from the indices) -/
theorem pamUpdate_cost_eq_imp_same {D : Table} {n : Nat} {s s' : St} {props : Option (List Nat)}
    {orc orc' : List Nat} {tr : List PamStep} (h : pamUpdate D n s props orc = .ok (s', orc', tr))
    (he : cost n s'.arr.dist = cost n s.arr.dist) : s' = { s with ctrFrames := s.ctrInds } := by
  have key : ∀ (cids : List Nat) {a a' : St} {o o' : List Nat} {t : List PamStep},
      pamLoop D n props cids a o = .ok (a', o', t) → cost n a'.arr.dist = cost n a.arr.dist → a' = a := by
    intro cids
    induction cids with
    | nil => intro a a' o o' t h _; exact (pamLoop_nil_ok h).1
    | cons cid rest ih =>
      intro a a' o o' t h he
      obtain ⟨p, o1, st, t2, h1, h2, h3, _⟩ := pamLoop_cons_ok h
      -- the rest of the sweep never raises the cost, so a strict gain at this step would show at the end
      have hfin := (pamLoop_costs rest h3).le
      rcases pamStep_after_cases h2 with ⟨_, e⟩ | ⟨_, e, hlt⟩
      · rw [e] at h3
        exact ih h3 he
      · rw [e, he] at hfin
        exact absurd hlt (not_lt.mpr hfin)
  exact key _ (pamUpdate_ok h).2.2.2.2.2 he

/-- the number of clusters is kept by a sweep -/
theorem pam_keeps_k {D : Table} {n : Nat} {s s' : St} {props : Option (List Nat)} {orc orc' : List Nat}
    {tr : List PamStep} (h : pamUpdate D n s props orc = .ok (s', orc', tr)) :
    s'.ctrInds.length = s.ctrInds.length ∧ s'.ctrFrames.length = s.ctrInds.length := by
  have := pamUpdate_shape h
  exact ⟨this.len, by rw [this.frames]; exact this.len⟩

/-- after a sweep every center is a frame of the input, and the coordinates are the frames at the indices -/
theorem pam_centers_are_frames {D : Table} {n : Nat} {s s' : St} {props : Option (List Nat)}
    {orc orc' : List Nat} {tr : List PamStep} (h : pamUpdate D n s props orc = .ok (s', orc', tr)) :
    s'.ctrFrames = s'.ctrInds ∧ ∀ c ∈ s'.ctrInds, c < n :=
  ⟨(pamUpdate_shape h).frames, (pamUpdate_shape h).inds_lt⟩

/-- a random proposal is drawn from the members of the cluster being updated -/
theorem random_proposal_is_member {n : Nat} {s : St} {cid : Nat} {orc orc' : List Nat} {p : Nat}
    (h : propose n s cid none orc = .ok (p, orc')) : p < n ∧ s.arr.assign p = (cid : Nat) :=
  ⟨propose_lt h, (propose_ok h).2 rfl⟩

/-! ### any number of sweeps, from any state -/

/-- along the whole accept/reject history of all sweeps (explicit proposals or any oracle) the cost never
increases, and the result's cost is the minimum of the history -/
theorem kmedoids_cost_antitone {D : Table} {n nIters : Nat} {s : St} {props : Option (List Nat)}
    {orc : List Nat} {r : Run} (h : kmedoidsIterations D n nIters s props orc = .ok r) :
    (cost n s.arr.dist :: costsOf n r.trace).Pairwise (fun x y => y ≤ x) ∧
    (∀ x ∈ cost n s.arr.dist :: costsOf n r.trace, cost n r.final.arr.dist ≤ x) := by
  obtain ⟨k, _, hsw⟩ := kmedoidsIterations_ok h
  exact sweepsFrom_costs (k+1) hsw

example : (kmedoidsIterations D6 6 2 s6 (some [1, 4]) []).toOption.map
    (fun r => (cost 6 s6.arr.dist :: costsOf 6 r.trace, cost 6 r.final.arr.dist)) =
    some ([22/3, 13/2, 3, 3, 3], 3) := by decide +kernel

/-- k and "centers are frames" after any positive number of sweeps, for the result and after every sweep -/
theorem kmedoids_keeps_k_and_frames {D : Table} {n nIters : Nat} {s : St} {props : Option (List Nat)}
    {orc : List Nat} {r : Run} (h : kmedoidsIterations D n nIters s props orc = .ok r) :
    ∀ x ∈ r.final :: r.sweeps, x.ctrInds.length = s.ctrInds.length ∧ x.ctrFrames = x.ctrInds ∧
      ∀ c ∈ x.ctrInds, c < n := by
  obtain ⟨k, _, hsw⟩ := kmedoidsIterations_ok h
  obtain ⟨s', orc', tr, r', h1, h2, e1, _, _, e4⟩ := sweepsFrom_succ_ok hsw
  -- nothing is assumed of `s`: `Shape` holds from the first sweep on
  have hs' := pamUpdate_shape h1
  obtain ⟨i1, i2⟩ := sweepsFrom_shape k hs' h2
  intro x hx
  have hx' : Shape n s.ctrInds.length x := by
    rcases List.mem_cons.mp hx with rfl | hx
    · rw [e1]; exact i1
    · rw [e4] at hx
      rcases List.mem_cons.mp hx with rfl | hx
      · exact hs'
      · exact i2 x hx
  exact ⟨hx'.len, hx'.frames, hx'.inds_lt⟩

/-! ### k-hybrid -/

/-- k-hybrid is never worse (in mean squared distance) than the k-centers solution it starts from, and has
the same number of clusters -/
theorem hybrid_cost_le_kcenters {D : Table} {n : Nat} {nClusters : Option Nat} {cutoff : Rat}
    {init : Option (List Nat)} {fuel nIters : Nat} {orc : List Nat} {r : Run}
    (h : hybrid D n nClusters cutoff init fuel nIters orc = .ok r) :
    ∃ s, kcenters D n nClusters cutoff init fuel = .ok s ∧
      cost n r.final.arr.dist ≤ cost n s.arr.dist ∧ r.final.ctrInds.length = s.ctrInds.length := by
  obtain ⟨s, hkc, h | ⟨_, rfl⟩⟩ := hybrid_ok h
  · exact ⟨s, hkc, (kmedoids_cost_antitone h.2).2 _ List.mem_cons_self,
      (kmedoids_keeps_k_and_frames h.2 _ List.mem_cons_self).1⟩
  · exact ⟨s, hkc, le_refl _, rfl⟩

example : (hybrid D6 6 (some 2) 0 none 8 2 [1, 1, 0, 2]).toOption.map (fun r => cost 6 r.final.arr.dist) = some 3 ∧
    (kcenters D6 6 (some 2) 0 none 8).toOption.map (fun s => cost 6 s.arr.dist) = some (22/3) := hybrid_2.2

/-! ### from a supplied consistent state -/

/-- starting the sweeps from any consistent state (centers, labels, distances) preserves all guarantees:
the result and every intermediate state are consistent (so centers are distinct frames carrying their own
label), k is kept and the cost does not rise -/
theorem warm_start_preserves {D : Table} {n nIters : Nat} (T : TableOK D n) {s : St} (hs : Consistent D n s)
    {props : Option (List Nat)} {orc : List Nat} {r : Run}
    (h : kmedoidsIterations D n nIters s props orc = .ok r) :
    (∀ x ∈ r.final :: r.sweeps, Consistent D n x ∧ x.ctrInds.length = s.ctrInds.length) ∧
    cost n r.final.arr.dist ≤ cost n s.arr.dist := by
  obtain ⟨k, _, hsw⟩ := kmedoidsIterations_ok h
  obtain ⟨c1, c2⟩ := sweepsFrom_consistent T (k+1) hs hsw
  refine ⟨?_, (kmedoids_cost_antitone h).2 _ List.mem_cons_self⟩
  intro x hx
  refine ⟨?_, (kmedoids_keeps_k_and_frames h x hx).1⟩
  rcases List.mem_cons.mp hx with rfl | hx
  · exact c1
  · exact c2 x hx

/-- …and from a consistent state the sweeps always run through (no assert trips, no empty cluster, no index
error) given `k` valid explicit proposals or `nIters·k` recorded random draws: the hypotheses `= .ok r`
of this file are never vacuous -/
theorem kmedoids_sweeps_total {D : Table} {n nIters : Nat} (T : TableOK D n) (hn : 0 < n) (hi : 0 < nIters)
    {s : St} (hs : Consistent D n s) {props : Option (List Nat)} {orc : List Nat}
    (hp : PropsOK n s.ctrInds.length props orc (nIters * s.ctrInds.length)) :
    ∃ r, kmedoidsIterations D n nIters s props orc = .ok r := by
  unfold kmedoidsIterations
  simp only [Nat.pos_iff_ne_zero.mp hi, if_false]
  exact sweepsFrom_total T hn nIters hs hp

example : PropsOK 6 s6.ctrInds.length (some [1, 4]) [] (2 * s6.ctrInds.length) := by
  refine ⟨by decide, by decide⟩

/-- the same through `kmedoids` itself, for each of its warm-start forms (indices only / all three /
labels+distances only) -/
theorem kmedoids_warm_start_preserves {D : Table} {n nIters : Nat} (T : TableOK D n) {inds : Option (List Nat)}
    {ad : Option Arr} {props : Option (List Nat)} {orc : List Nat} {r : Run}
    (hw : WarmOK D n inds ad) (h : kmedoids D n nIters inds ad props orc = .ok r) :
    ∃ s, Consistent D n s ∧ kmedoidsIterations D n nIters s props orc = .ok r ∧
      (∀ x ∈ r.final :: r.sweeps, Consistent D n x ∧ x.ctrInds.length = s.ctrInds.length) ∧
      cost n r.final.arr.dist ≤ cost n s.arr.dist := by
  obtain ⟨s, hs, hit⟩ := kmedoids_start T hw h
  obtain ⟨a, b⟩ := warm_start_preserves T hs hit
  exact ⟨s, hs, hit, a, b⟩

/-- k-hybrid always runs through on distinct points: `fuel ≥ n` for the k-centers loop and `nIters·n` recorded
random draws (at most `n` centers, one draw per center and sweep) suffice -/
theorem hybrid_total {D : Table} {n : Nat} (T : TableOK D n) (hn : 0 < n) {nClusters : Option Nat} {cutoff : Rat}
    {init : Option (List Nat)} {fuel nIters : Nat} {orc : List Nat}
    (hk : nClusters ≠ some 0) (hc : 0 ≤ cutoff) (hfuel : n ≤ fuel)
    (hinit : ∀ cs, init = some cs → cs ≠ [] ∧ cs.Nodup ∧ ∀ c ∈ cs, c < n)
    (horc : nIters * n ≤ orc.length) :
    ∃ r, hybrid D n nClusters cutoff init fuel nIters orc = .ok r := by
  obtain ⟨s, hs⟩ := C01.kcenters_total T hn (nClusters := nClusters) hc hfuel hinit
  have hcons := C01.kcenters_consistent T hk hc hinit hs
  unfold hybrid
  simp only [bind, Except.bind, hs]
  by_cases hpos : nIters > 0
  · simp only [hpos, if_true]
    have hle : s.ctrInds.length ≤ n := length_le_of_Inj hcons.inj hcons.inds_lt
    exact kmedoids_sweeps_total T hn hpos hcons
      (show PropsOK n s.ctrInds.length none orc (nIters * s.ctrInds.length) from
        le_trans (Nat.mul_le_mul_left nIters hle) horc)
  · simp only [hpos, if_false]
    exact ⟨_, rfl⟩

end C09
