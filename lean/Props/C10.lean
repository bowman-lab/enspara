import Proofs.C10Assign
import Proofs.C10Partition
import Proofs.C10Centers
import Proofs.C10Batches
/-!
C10 — nearest-center assignment and per-trajectory bookkeeping are exact.

Model: `Model/Assign.lean` (mirrors `enspara/cluster/util.py` and `enspara/ra/ra.py`).
All statements are for every table of distances `D` (any values, ties, non-metrics), every
number of frames and centers, every vector of trajectory lengths.
-/
open Ens Ens.Assign

namespace C10

/-! ## `assign_to_nearest_center` -/

/-- Every frame gets the FIRST center at minimal distance and exactly that distance, in both
code branches (`hasXyz` and `k > n` select the per-frame branch).  With no centers the
arrays keep their initial values (label 0, distance inf). -/
theorem assign_is_min (D : Nat → Nat → Rat) (n k : Nat) (hasXyz : Bool) (f : Nat) :
    (k = 0 → (assignNearest D n k hasXyz).dist f = none ∧ (assignNearest D n k hasXyz).lab f = 0) ∧
    (0 < k →
      let c := (assignNearest D n k hasXyz).lab f
      c < k ∧ (assignNearest D n k hasXyz).dist f = some (D f c) ∧
      (∀ c', c' < k → D f c ≤ D f c') ∧ (∀ c', c' < c → D f c < D f c')) := by
  have he := assignNearest_eq_sweep D n k hasXyz f
  constructor
  · intro hk; subst hk; exact ⟨rfl, rfl⟩
  · intro hk
    obtain ⟨j, rfl⟩ : ∃ j, k = j + 1 := ⟨k - 1, (Nat.succ_pred_eq_of_pos hk).symm⟩
    have hs := sweep_spec D j f
    simp only [he.1, he.2]
    exact ⟨hs.1.1, hs.2, hs.1.2.1, hs.1.2.2⟩

/-- the two code branches return the same arrays on the same table -/
theorem assign_branches_agree (D : Nat → Nat → Rat) (n n' k : Nat) (f : Nat) :
    (assignNearest D n k true).lab f = (assignNearest D n' k false).lab f ∧
    (assignNearest D n k true).dist f = (assignNearest D n' k false).dist f := by
  have h1 := assignNearest_eq_sweep D n k true f
  have h2 := assignNearest_eq_sweep D n' k false f
  exact ⟨h1.1.trans h2.1.symm, h1.2.trans h2.2.symm⟩

-- non-vacuity: 2 frames, 3 centers, a tie on frame 0 (centers 1 and 2), per-frame branch taken
example : let D : Nat → Nat → Rat := fun f c => [[3, 1, 1], [2, 2, 5]][f]![c]!
    (tabulate 2 (assignNearest D 2 3 true).lab, tabulate 2 (assignNearest D 2 3 true).dist)
      = ([1, 0], [some 1, some 2]) ∧
    (tabulate 2 (assignNearest D 2 3 false).lab, tabulate 2 (assignNearest D 2 3 false).dist)
      = ([1, 0], [some 1, some 2]) := by decide +kernel

/-! ## `partition_list` -/

/-- `partition_list` succeeds exactly when the lengths sum to the list length (DataInvalid
otherwise); then concatenating the pieces restores the list and piece `t` has length `lens[t]`. -/
theorem partitionList_join {α : Type} (l : List α) (lens : List Nat) :
    (lens.sum ≠ l.length → partitionList l lens = .error .dataInvalid) ∧
    (lens.sum = l.length → ∃ ps, partitionList l lens = .ok ps ∧ ps.flatten = l ∧
      ps.map List.length = lens) := by
  constructor
  · exact partitionList_err l lens
  · intro h
    refine ⟨splitBy l lens, partitionList_ok l lens h, ?_, splitBy_lengths l lens (Nat.le_of_eq h)⟩
    rw [splitBy_flatten, h, List.take_length]

example : partitionList [10, 11, 12, 13, 14, 15] [1, 0, 3, 2] = .ok [[10], [], [11, 12, 13], [14, 15]] := by
  decide +kernel
example : partitionList [10, 11, 12] [1, 1] = (.error .dataInvalid : Except Err (List (List Nat))) := by
  decide +kernel

/-! ## `partition_indices` -/

/-- A flat index `0 ≤ i < sum lens` becomes `(t, f)` with `f < lens[t]` and
`starts t + f = i`; the output keeps order and multiplicity of the input indices. -/
theorem partitionIndices_correct (inds : List Int) (lens : List Nat)
    (h : ∀ i ∈ inds, 0 ≤ i ∧ i < lens.sum) :
    (partitionIndices inds lens).length = inds.length ∧
    (partitionIndices inds lens).map (flatOf lens) = inds ∧
    ∀ p ∈ partitionIndices inds lens, ∃ L, lens[p.1]? = some L ∧ 0 ≤ p.2 ∧ p.2 < L := by
  have hmap := partitionIndices_map_flat inds lens h
  refine ⟨?_, hmap, ?_⟩
  · have := congrArg List.length hmap
    simpa using this
  · intro p hp
    obtain ⟨i, hi, hl⟩ := List.mem_filterMap.mp hp
    obtain ⟨t, L, h1, h2, h3, _, h5⟩ := locate_some hl
    exact ⟨L, by rw [h1, Nat.zero_add]; exact h2, h5 (h i hi).1, h3⟩

/-- What the code does outside the range: an index `≥ sum lens` is silently dropped; a negative
index is returned as `(0, index)`; in general exactly the indices `< sum lens` survive, in
order, each pair addressing the index it came from. -/
theorem partitionIndices_out_of_range (inds : List Int) (lens : List Nat) :
    (∀ i : Int, (lens.sum : Int) ≤ i → partitionIndices [i] lens = []) ∧
    (∀ i : Int, i < 0 → lens ≠ [] → partitionIndices [i] lens = [(0, i)]) ∧
    (lens ≠ [] → (partitionIndices inds lens).map (flatOf lens)
      = inds.filter (fun i => decide (i < (lens.sum : Int)))) := by
  refine ⟨?_, ?_, partitionIndices_map_flat_general inds lens⟩
  · intro i hi
    rw [partitionIndices, List.filterMap_cons, locate_beyond lens i 0 hi]
    rfl
  · intro i hi hne
    cases lens with
    | nil => exact absurd rfl hne
    | cons a as =>
      rw [partitionIndices, List.filterMap_cons, locate_negative a as i 0 hi]
      rfl

-- the hypothesis is satisfiable: indices on first/last frames of trajectories, one repeated
example : ∀ i ∈ ([0, 2, 3, 5, 5] : List Int), 0 ≤ i ∧ i < (([3, 0, 3] : List Nat).sum : Int) := by decide +kernel
example : partitionIndices [0, 2, 3, 5, 5, 9, -1] [3, 0, 3] = [(0, 0), (0, 2), (2, 0), (2, 2), (2, 2), (0, -1)] := by
  decide +kernel

/-- The pair produced for a flat index addresses the same element in the partitioned list:
`partition_list(l, lens)[t][f] = l[i]`. -/
theorem partition_addresses_same_frame {α : Type} (l : List α) (lens : List Nat) (i : Nat)
    (hsum : lens.sum = l.length) (hi : i < l.length) :
    ∃ (t f : Nat) (ps : List (List α)) (row : List α), partitionIndices [(i : Int)] lens = [(t, (f : Int))] ∧
      partitionList l lens = .ok ps ∧ ps[t]? = some row ∧ row[f]? = l[i]? := by
  obtain ⟨t, f, L, hl, hL, hf, hs⟩ := locate_inrange lens i (hsum ▸ hi)
  -- row `t` is the slice of `l` that starts at `startOf lens t`
  refine ⟨t, f, splitBy l lens, (l.drop (startOf lens t)).take L, ?_, partitionList_ok l lens hsum, ?_, ?_⟩
  · rw [partitionIndices, List.filterMap_cons, hl]; rfl
  · rw [splitBy_getElem?, hL]; rfl
  · rw [List.getElem?_take_of_lt hf, List.getElem?_drop, hs]

-- flat index 3 is frame 0 of trajectory 2 (trajectory 1 is empty) and holds the same value
example : partitionIndices [3] [3, 0, 3] = [(2, 0)] ∧
    partitionList [10, 11, 12, 13, 14, 15] [3, 0, 3] = .ok [[10, 11, 12], [], [13, 14, 15]] := by decide +kernel

/-! ## `ClusterResult.partition` -/

/-- `partition` succeeds exactly on consistent input: non-empty `lens` summing to the length of
both flat arrays. -/
theorem partition_ok_iff {α β : Type} (a : List α) (d : List β) (ci : List Int) (lens : List Nat) :
    (∃ r, partition a d ci lens = .ok r) ↔
      (lens ≠ [] ∧ lens.sum = a.length ∧ lens.sum = d.length) := by
  constructor
  · intro ⟨r, hr⟩
    refine ⟨fun h => ?_, Decidable.byContradiction fun h => ?_, Decidable.byContradiction fun h => ?_⟩
    · rw [partition_err a d ci lens (.inl h)] at hr; cases hr
    · rw [partition_err a d ci lens (.inr (.inl h))] at hr; cases hr
    · rw [partition_err a d ci lens (.inr (.inr h))] at hr; cases hr
  · intro ⟨hne, ha, hd⟩
    exact ⟨_, partition_eq a d ci lens hne ha hd⟩

/-- the error raised on inconsistent input: IndexError for empty `lengths` (the `lengths[0]`
argument of the debug log), DataInvalid when the lengths do not sum to the length of both flat
arrays — also for empty flat arrays -/
theorem partition_error_kind {α β : Type} (a : List α) (d : List β) (ci : List Int) (lens : List Nat)
    (h : lens = [] ∨ lens.sum ≠ a.length ∨ lens.sum ≠ d.length) :
    partition a d ci lens = .error (if lens = [] then .indexError else .dataInvalid) :=
  partition_err a d ci lens h

example : partition ([] : List Int) ([] : List Rat) [] [1, 2] = .error .dataInvalid := by decide +kernel
example : partition [1, 2] [(1 : Rat), 2] [] [] = .error .indexError := by decide +kernel

/-- rectangular (ndarray) output iff all lengths are equal, ragged (RaggedArray) otherwise -/
theorem partition_square_iff {α β : Type} (a : List α) (d : List β) (ci : List Int)
    (lens : List Nat) (r : Partitioned α β) (h : partition a d ci lens = .ok r) :
    (r.assignments.isSquare = true ↔ ∀ x ∈ lens, ∀ y ∈ lens, x = y) ∧
    (r.distances.isSquare = true ↔ ∀ x ∈ lens, ∀ y ∈ lens, x = y) := by
  rw [← allEqual_iff]
  obtain ⟨hne, hsa, hsd⟩ := (partition_ok_iff a d ci lens).1 ⟨r, h⟩
  rw [partition_eq a d ci lens hne hsa hsd] at h
  cases h
  cases hsq : allEqual lens
  · rw [if_neg Bool.false_ne_true]
    exact ⟨⟨fun h => (nomatch h), fun h => (nomatch h)⟩, ⟨fun h => (nomatch h), fun h => (nomatch h)⟩⟩
  · rw [if_pos rfl]
    exact ⟨⟨fun _ => rfl, fun _ => rfl⟩, ⟨fun _ => rfl, fun _ => rfl⟩⟩

/-- concatenating the pieces restores the flat arrays, piece `t` has length `lens[t]`, the
ragged container stores the flat data and the lengths, and the center indices are exactly
`partition_indices(center_indices, lens)` -/
theorem partition_roundtrip {α β : Type} (a : List α) (d : List β) (ci : List Int)
    (lens : List Nat) (r : Partitioned α β) (h : partition a d ci lens = .ok r) :
    r.assignments.rows.flatten = a ∧ r.assignments.rows.map List.length = lens ∧
    r.distances.rows.flatten = d ∧ r.distances.rows.map List.length = lens ∧
    r.centerIndices = partitionIndices ci lens ∧
    (∀ da la ra, r.assignments = .ragged da la ra → da = a ∧ la = lens) ∧
    (∀ dd ld rd, r.distances = .ragged dd ld rd → dd = d ∧ ld = lens) := by
  obtain ⟨hne, hsa, hsd⟩ := (partition_ok_iff a d ci lens).1 ⟨r, h⟩
  rw [partition_eq a d ci lens hne hsa hsd] at h
  cases h
  have hfa : (splitBy a lens).flatten = a := by rw [splitBy_flatten, hsa, List.take_length]
  have hfd : (splitBy d lens).flatten = d := by rw [splitBy_flatten, hsd, List.take_length]
  have hla := splitBy_lengths a lens (Nat.le_of_eq hsa)
  have hld := splitBy_lengths d lens (Nat.le_of_eq hsd)
  cases hsq : allEqual lens
  · rw [if_neg Bool.false_ne_true]
    exact ⟨hfa, hla, hfd, hld, rfl, fun _ _ _ e => by cases e; exact ⟨rfl, rfl⟩,
      fun _ _ _ e => by cases e; exact ⟨rfl, rfl⟩⟩
  · rw [if_pos rfl]
    exact ⟨hfa, hla, hfd, hld, rfl, fun _ _ _ e => (nomatch e), fun _ _ _ e => (nomatch e)⟩

-- non-vacuity: unequal lengths incl. a length-1 trajectory, centers on first/last frames
example : partition [0, 1, 1, 0, 2, 2] [(1 : Rat), 0, 0, 3, 0, 2] [1, 0, 4] [1, 3, 2]
    = .ok ⟨.ragged [0, 1, 1, 0, 2, 2] [1, 3, 2] [[0], [1, 1, 0], [2, 2]],
           .ragged [1, 0, 0, 3, 0, 2] [1, 3, 2] [[1], [0, 0, 3], [0, 2]],
           [(1, 0), (0, 0), (2, 0)]⟩ := by decide +kernel
example : partition [0, 1, 1, 0] [(1 : Rat), 0, 0, 3] [1, 0] [2, 2]
    = .ok ⟨.square [[0, 1], [1, 0]], .square [[1, 0], [0, 3]], [(0, 1), (0, 0)]⟩ := by decide +kernel

/-! ## `find_cluster_centers` -/

/-- With arrays of equal length the center finder returns, for the labels present in
ascending order without repetition, one frame per label: a member of the label whose
distance is minimal among the members, the first such frame on ties.  Arrays of different
length are rejected with DataInvalid. -/
theorem findClusterCenters_min (n : Nat) (a : Nat → Int) (nd : Nat) (d : Nat → ERat) :
    (nd ≠ n → findClusterCenters n a nd d = .error .dataInvalid) ∧
    (nd = n →
      let labels := uniqueSorted (tabulate n a)
      labels.Pairwise (· < ·) ∧ (∀ x, x ∈ labels ↔ ∃ f, f < n ∧ a f = x) ∧
      ∃ cs, findClusterCenters n a nd d = .ok cs ∧ cs.length = labels.length ∧
        ∀ (i : Nat) (c : Int), labels[i]? = some c → ∃ m, cs[i]? = some m ∧
          m < n ∧ a m = c ∧
          (∀ f, f < n → a f = c → ERat.le (d m) (d f) = true) ∧
          (∀ f, f < m → a f = c → ERat.lt (d m) (d f) = true)) := by
  constructor
  · intro h; simp [findClusterCenters, h]
  · intro h
    have hmem : ∀ x, x ∈ uniqueSorted (tabulate n a) ↔ ∃ f, f < n ∧ a f = x := by
      intro x; rw [mem_uniqueSorted, mem_tabulate]
    refine ⟨pairwise_uniqueSorted _, hmem, ?_⟩
    obtain ⟨ms, hms, hlen, hspec⟩ := centersFor_spec n a d (uniqueSorted (tabulate n a))
      (fun c hc => (hmem c).1 hc)
    refine ⟨ms, by simp [findClusterCenters, h, hms], hlen, ?_⟩
    intro i c hi
    obtain ⟨m, hm, hlt, hp, hmin, hfirst⟩ := hspec i c hi
    refine ⟨m, hm, hlt, by simpa using hp, ?_, ?_⟩
    · intro f hf hfa; exact hmin f hf (by simp [hfa])
    · intro f hf hfa; exact hfirst f hf (by simp [hfa])

-- labels 0, 2, 5 present; label 2 has a tie (frames 0 and 2) -> frame 0; an `inf` distance
example : let a : Nat → Int := fun f => [2, 0, 2, 0, 5][f]!
    let d : Nat → ERat := fun f => [some 1, some 3, some 1, some 2, none][f]!
    findClusterCenters 5 a 5 d = .ok [3, 0, 4] := by decide +kernel

/-- `predict`: labels and distances are those of `assign_to_nearest_center` on the fitted
centers, and the reported center indices are those of `find_cluster_centers` on them;
it never fails. -/
theorem predict_correct (D : Nat → Nat → Rat) (n k : Nat) (hasXyz : Bool) :
    ∃ cs, predict D n k hasXyz =
        .ok (tabulate n (assignNearest D n k hasXyz).lab, tabulate n (assignNearest D n k hasXyz).dist, cs) ∧
      findClusterCenters n (fun f => ((assignNearest D n k hasXyz).lab f : Int)) n
        (assignNearest D n k hasXyz).dist = .ok cs := by
  obtain ⟨_, _, cs, hcs, _⟩ := (findClusterCenters_min n
    (fun f => ((assignNearest D n k hasXyz).lab f : Int)) n (assignNearest D n k hasXyz).dist).2 rfl
  exact ⟨cs, by simp [predict, hcs], hcs⟩

-- more centers than frames, labels 1 and 0 present -> center frames 1 and 0
example : predict (fun f c => [[3, 1, 1], [2, 2, 5]][f]![c]!) 2 3 false
    = .ok ([1, 0], [some 1, some 2], [1, 0]) := by decide +kernel

/-! ## `compute_batches`, `batch_reassign` -/

/-- The batches concatenate to `0 … m-1` in order (every trajectory in exactly one batch, order
kept), every batch after the first is non-empty, and every batch is a single trajectory or
has combined length `< batch_size`. -/
theorem computeBatches_cover (lens : List Nat) (batchSize : Nat) :
    (computeBatches lens batchSize).flatten = List.range lens.length ∧
    (∀ b ∈ (computeBatches lens batchSize).tail, b ≠ []) ∧
    (∀ b ∈ computeBatches lens batchSize,
      b.length ≤ 1 ∨ (b.map fun t => lens.getD t 0).sum < batchSize) :=
  ⟨computeBatches_flatten lens batchSize, computeBatches_tail lens batchSize,
   computeBatches_fits lens batchSize⟩

/-- no batch is empty when there is at least one trajectory -/
theorem computeBatches_nonempty (lens : List Nat) (batchSize : Nat) (h : lens ≠ []) :
    ∀ b ∈ computeBatches lens batchSize, b ≠ [] :=
  computeBatches_allne lens h batchSize

example : computeBatches [3, 4, 5, 1, 1, 9] 9 = [[0, 1], [2, 3, 4], [5]] := by decide +kernel
example : computeBatches [9, 1] 9 = [[0], [1]] := by decide +kernel

/-- Batch reassignment: for every valid input (at least one center, at least one trajectory, no
trajectory longer than the batch size — the guard of `batch_reassign`) each trajectory gets,
frame by frame, the label and distance of the whole-data sweep (hence by `assign_is_min` the
first nearest center and exactly its distance), whatever the batch size. -/
theorem batchReassign_correct (D : Nat → Nat → Rat) (lens : List Nat) (k : Nat)
    (hasXyz : Bool) (batchSize : Nat)
    (hk : 0 < k) (hne : lens ≠ []) (hle : ∀ l ∈ lens, l ≤ batchSize) :
    batchReassign D lens k hasXyz batchSize =
      .ok ((List.range lens.length).map (pieceOf D lens k)) := by
  have hk' : ¬ k = 0 := Nat.ne_of_gt hk
  simp only [batchReassign, hk', if_false]
  cases hm : listMax lens with
  | none => cases lens with
    | nil => exact absurd rfl hne
    | cons a as => simp [listMax] at hm
  | some m =>
    have hmem := listMax_mem _ _ hm
    have hmle := hle m hmem
    simp only [Nat.not_lt.mpr hmle, if_false]
    rw [reassignBatches_ok D lens k hasXyz _ (computeBatches_nonempty lens batchSize hne),
      computeBatches_flatten]

-- non-vacuity: two batches; first trajectory exactly as long as the batch size
example : batchReassign (fun f c => [[1, 2], [2, 1], [3, 3]][f]![c]!) [2, 1] 2 false 3
    = .ok [[(0, some 1), (1, some 1)], [(0, some 3)]] := by decide +kernel
example : batchReassign (fun f c => [[1, 2], [2, 1], [3, 3]][f]![c]!) [2, 1] 2 false 2
    = .ok [[(0, some 1), (1, some 1)], [(0, some 3)]] := by decide +kernel

end C10
