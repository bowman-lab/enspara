import Proofs.C16Fit
import Proofs.C16Spec
import Proofs.C16Uniq
import Proofs.C16Pairs
/-!
C16 — MSM estimator equals its function pipeline, round-trips, has a sound spectrum.

Parameters (other properties / trusted numerics): the trimming stage, the builder, LAPACK's
`eig`, the decimal and pickle serialisers, `log`.  Everything the estimator itself does —
which constructor arguments are stored and handed to which stage, the identity mapping, the
csv form of a mapping, what `load` rebuilds, the ordering/normalisation after `eig`, the
timescale formula, the propagation loop — is proved here for all inputs.
-/
namespace C16
open Ens Ens.Counts Ens.Msm

/-- For the configuration *the caller passed* (lag time, sliding-window flag, state count,
trimming choice, builder), constructing the estimator and fitting it is the hand-written
composition counting → (trimming) → builder, including every error outcome.

This theorem is weak by nature: `MSM.fit` and `pipeline` are transcriptions of the same few lines
written side by side, so the proof (`MSM.fit_eq_pipeline`, for any stored estimator) is a case split
closed by `rfl`.  What it pins down is the model
(`mkMSM` stores all five arguments, `fit` hands each stored field to the stage that needs it); the
risk the property is about — the *code* dropping a constructor argument — is carried by the
differential run of the real estimator against the real function pipeline and against this model
(harness section `fit`, `sweep`), and by the three-literal example below. -/
theorem fit_eq_pipeline {C T P : Type} (builders : String → Option (Builder C T P))
    (lag : Int) (f : Builder C T P) (trim sliding : Bool) (maxN : Option Nat)
    (trimF : Trimmer) (assigns : List (List Int)) :
    (mkMSM builders lag (.callable f) trim sliding maxN >>= fun m => m.fit trimF assigns)
      = pipeline lag sliding maxN trim trimF f assigns :=
  MSM.fit_eq_pipeline ⟨lag, trim, maxN, f, sliding⟩ trimF assigns

/-- the same when the builder is given by name; an unknown name is an `AttributeError` -/
theorem fit_eq_pipeline_by_name {C T P : Type} (builders : String → Option (Builder C T P))
    (lag : Int) (s : String) (trim sliding : Bool) (maxN : Option Nat)
    (trimF : Trimmer) (assigns : List (List Int)) :
    (∀ f, builders s = some f →
      (mkMSM builders lag (.name s) trim sliding maxN >>= fun m => m.fit trimF assigns)
        = pipeline lag sliding maxN trim trimF f assigns) ∧
    (builders s = none → mkMSM builders lag (.name s) trim sliding maxN = .error .attributeError) :=
  ⟨fun f hf => by
     rw [← fit_eq_pipeline builders lag f trim sliding maxN trimF assigns]
     simp only [mkMSM, hf],
   fun h => by simp only [mkMSM, h]; rfl⟩

/-- `sliding_window = false`, `max_n_states = 4` and `trim = true` are all forwarded: flipping any one
of the three literals changes the outcome (sliding: other counts; no state count: state 3 does not
exist, the trimming stage refuses; no trimming: identity mapping on 4 states).  The first two lines
differ only in `sliding_window` (F1 in DESIGN.md). -/
def runExample (trim sliding : Bool) (maxN : Option Nat) :
    Except Ens.Msm.Err (List (Int × Int) × List (List Rat)) := do
  let m ← mkMSM (fun _ => none) 2 (.callable countsOnly) trim sliding maxN
  let r ← m.fit (trimTo [0, 1, 3]) [[0,1,0,1,1,0,0,1,0,1,2]]
  pure (r.mapping.toOriginal, r.tcounts)

example :
    runExample true false (some 4) = .ok ([(0,0),(1,1),(2,3)], [[2,1,0],[1,0,0],[0,0,0]]) ∧
    runExample true true (some 4) = .ok ([(0,0),(1,1),(2,3)], [[2,2,0],[2,2,0],[0,0,0]]) ∧
    runExample true false none = .error .stage ∧
    runExample false false (some 4) = .ok ([(0,0),(1,1),(2,2),(3,3)],
                                           [[2,1,1,0],[1,0,0,0],[0,0,0,0],[0,0,0,0]]) :=
  ⟨by decide +kernel, by decide +kernel, by decide +kernel, by decide +kernel⟩

/-- the lag and an inferred state count reach the counting stage as well -/
example :
    (do let m ← mkMSM (fun _ => none) 2 (.callable countsOnly) false true none
        let r ← m.fit (trimTo []) [[0,1,0,1,1,0,0,1,0,1]]
        pure r.tcounts) = .ok [[2,2],[2,2]] ∧
    (do let m ← mkMSM (fun _ => none) 1 (.callable countsOnly) false true (some 3)
        let r ← m.fit (trimTo []) [[0,1,0,1,1,0,0,1,0,1]]
        pure r.tcounts) = .ok [[1,4,0],[3,1,0],[0,0,0]] := by decide +kernel

/-- trimming branch, by-name builder, non-trivial mapping -/
example :
    (do let m ← mkMSM (fun s => if s = "transpose" then some transposeQ else none) 1
                  (.name "transpose") true true (some 4)
        let r ← m.fit (trimTo [0, 2]) [[0,2,0,2,2,1]]
        pure (r.mapping.toOriginal, r.tprobs)) = .ok ([(0,0),(1,2)], [[0,1],[3/5,2/5]]) := by decide +kernel

/-- Without trimming the mapping is the identity on all `n` states of the count matrix
(`n` = the explicit state count, or one more than the largest state seen). -/
theorem mapping_identity_when_untrimmed {C T P : Type} (m : MSM (Builder C T P))
    (hm : m.trim = false) (trimF : Trimmer) (assigns : List (List Int)) (r : Fit C T P)
    (h : m.fit trimF assigns = .ok r) :
    ∃ c, liftC (assignsToCounts assigns m.lagTime m.maxNStates m.slidingWindow) = .ok c ∧
      r.mapping = TrimMapping.identity c.n ∧
      r.mapping.toOriginal.length = c.n ∧
      ∀ i : Nat, i < c.n → Dict.lookup r.mapping.toOriginal i = some (i : Int) := by
  obtain ⟨c, hc, hr⟩ := fit_untrimmed_mapping m hm trimF assigns r h
  refine ⟨c, hc, hr, ?_, ?_⟩
  · rw [hr]; exact identity_length c.n
  · intro i hi; rw [hr]; exact identity_lookup c.n i hi

example : (TrimMapping.identity 3).toOriginal = [(0,0),(1,1),(2,2)] := by decide +kernel

/-- The mappings `fit` produces satisfy the hypothesis of the round-trip theorems: the identity
mapping of the untrimmed branch, and `zip(keep_states, range(k))` for distinct kept states (what
`trim_disconnected` builds; `trimTo keep` is that form). -/
theorem fit_mappings_well_formed :
    (∀ n : Nat, (TrimMapping.identity n).WellFormed) ∧
    (∀ keep : List Nat, keep.Nodup →
      (TrimMapping.ofTransformations ((keep.zip (List.range keep.length)).map
        fun p => ((p.1 : Int), (p.2 : Int)))).WellFormed) :=
  ⟨identity_wf, keep_mapping_wf⟩

instance : DecidablePred TrimMapping.WellFormed := fun m => by
  unfold TrimMapping.WellFormed; infer_instance

/-- Writing a mapping (a dict with distinct post-trim ids and distinct original ids) and
reading it back gives a mapping that `TrimMapping.__eq__` calls equal and that has exactly the
same (post-trim id, original id) items; the integer printer/parser is a parameter. -/
theorem trimmapping_roundtrip (print : Int → String) (parse : String → Option Int)
    (hpp : ∀ i, parse (print i) = some i) (m : TrimMapping) (wf : m.WellFormed) :
    ∃ m', TrimMapping.read parse (m.write print) = .ok m' ∧ m'.beq m = true ∧
      m'.toOriginal.Perm m.toOriginal := by
  refine ⟨_, read_write print parse hpp m wf, ?_, read_write_perm m⟩
  have hp := read_write_perm m
  generalize hd : (stableSort (fun a b => decide (a.1 ≤ b.1)) (m.toOriginal.map swap)).map swap = d' at hp
  have wf' : TrimMapping.WellFormed ⟨d'⟩ :=
    ⟨((hp.map (·.1)).nodup_iff).mpr wf.1, ((hp.map (·.2)).nodup_iff).mpr wf.2⟩
  simp only [TrimMapping.beq, Bool.and_eq_true]
  refine ⟨Dict.beq_of_perm _ _ hp wf.1, ?_⟩
  rw [toMapped_wf m wf, toMapped_wf ⟨d'⟩ wf']
  apply Dict.beq_of_perm _ _ (hp.map swap)
  rw [map_fst_swap]; exact wf.2

/-- for mappings listed by ascending original id (what `fit` produces) the round trip is literal -/
theorem trimmapping_roundtrip_literal (print : Int → String) (parse : String → Option Int)
    (hpp : ∀ i, parse (print i) = some i) (m : TrimMapping) (wf : m.WellFormed)
    (hsorted : (m.toOriginal.map (·.2)).Pairwise (· ≤ ·)) :
    TrimMapping.read parse (m.write print) = .ok m := by
  rw [read_write print parse hpp m wf]
  have : stableSort (fun a b => decide (a.1 ≤ b.1)) (m.toOriginal.map swap) = m.toOriginal.map swap := by
    apply stableSort_of_pairwise
    rw [List.pairwise_map] at hsorted ⊢
    exact hsorted.imp (by intro a b h; simp only [swap]; exact decide_eq_true h)
  rw [this, map_swap_swap]

example : (TrimMapping.ofTransformations [(5,0),(2,1),(7,2)]).WellFormed := by decide +kernel
example : (TrimMapping.ofTransformations [(5,0),(2,1),(7,2)]).write (fun i => toString i) =
    [["original","mapped"], ["2","1"], ["5","0"], ["7","2"]] := by decide +kernel
/-- the hypotheses are needed: a non-injective "mapping" loses an item in `to_mapped` -/
theorem trimmapping_roundtrip_counterexample :
    ¬ (∀ m : TrimMapping, ∃ m', TrimMapping.read (fun s => if s = "0" then some 0 else if s = "1" then some 1
          else if s = "4" then some 4 else none)
        (m.write (fun i => if i = 0 then "0" else if i = 1 then "1" else "4")) = .ok m' ∧ m'.beq m = true) := by
  intro h
  obtain ⟨m', h1, h2⟩ := h ⟨[(0,4),(1,4)]⟩
  revert h1 h2
  generalize hr : TrimMapping.read _ _ = r
  have : r = .ok ⟨[(1,4)]⟩ := by rw [← hr]; decide +kernel
  subst this
  intro h1 h2
  cases h1
  revert h2
  decide +kernel

/-- binary64 numbers and `p`-significant-digit decimals, as sets of rationals -/
def IsBinary64 (x : ℚ) : Prop := ∃ (m e : Int), |m| < 2 ^ 53 ∧ -1074 ≤ e ∧ e ≤ 971 ∧ x = m * (2 : ℚ) ^ e
def IsDecimal (p : Nat) (d : ℚ) : Prop := ∃ (m e : Int), |m| < 10 ^ p ∧ d = m * (10 : ℚ) ^ e
def IsNearest (S : ℚ → Prop) (q y : ℚ) : Prop := S y ∧ ∀ z, S z → |q - y| ≤ |q - z|

/-- printing a binary64 number to the nearest `p`-digit decimal and reading back the nearest
binary64 number returns it -/
def DecimalRoundTrip (p : Nat) : Prop :=
  ∀ x, IsBinary64 x → ∀ d, IsNearest (IsDecimal p) x d → ∀ y, IsNearest IsBinary64 d y → y = x

/-- Full statement, NOT asserted: the serialisers `MSM.save` really uses are exact.  It needs the
decimal round-trip facts for `mmwrite(precision=20)` (20 significant digits, `tprobs_`, and
`tcounts_` when they are halves) and `np.savetxt` (`'%.18e'`, 19 significant digits, `eq_probs_`)
— the classical "17 digits suffice for binary64" theorem (its arithmetic core is
`2^53 < 10^(p-1)`, checked below) — plus correct rounding of the C library's `printf`/`strtod`,
and pickle/csv faithfulness for the config and the integer ids.  None of this is proved here. -/
def C16_load_save_full : Prop := DecimalRoundTrip 20 ∧ DecimalRoundTrip 19

example : (2 : Nat) ^ 53 < 10 ^ (17 - 1) ∧ (2 : Nat) ^ 53 < 10 ^ (19 - 1) ∧ (2 : Nat) ^ 53 < 10 ^ (20 - 1) := by
  decide +kernel

/-- Partial (parametric) form of the save/load round trip: IF the four serialisers return what was
written (`Codec.Exact` — this is where the property's numerical risk lives, see
`C16_load_save_full`; the correspondence check observes it bit-exactly on every case) and the
integer printer/parser do, then `load (save m)` succeeds and is an equal model in the library's
sense: same `config` (lag time, sliding window, trim, method), populations, counts, probabilities,
and an equal mapping.  `max_n_states` is not part of `config`; the loaded estimator has the
default.  What the theorem itself establishes is the bookkeeping: which fields are written, that
`load` rebuilds the estimator from exactly the saved config, and the csv round trip of the mapping. -/
theorem load_save_config_partial {F C T P σK σC σT σP : Type} (cd : Codecs F C T P σK σC σT σP)
    (hK : cd.config.Exact) (hC : cd.tcounts.Exact) (hT : cd.tprobs.Exact) (hP : cd.eqProbs.Exact)
    (hpp : ∀ i, cd.parse (cd.print i) = some i)
    (m : Fitted F C T P) (wf : m.fit.mapping.WellFormed)
    (s : Saved σK σC σT σP) (hs : save cd m = .ok s) :
    ∃ m', load cd s = .ok m' ∧ m'.Equal m ∧ m'.msm.maxNStates = none ∧
      m'.fit.mapping.toOriginal.Perm m.fit.mapping.toOriginal := by
  obtain ⟨c, h1, hs⟩ := bind_eq_ok.1 hs
  obtain ⟨t, h2, hs⟩ := bind_eq_ok.1 hs
  obtain ⟨p, h3, hs⟩ := bind_eq_ok.1 hs
  obtain ⟨k, h4, hs⟩ := bind_eq_ok.1 hs
  cases hs
  obtain ⟨m', hr, hbeq, hperm⟩ := trimmapping_roundtrip cd.print cd.parse hpp m.fit.mapping wf
  refine ⟨{ msm := { lagTime := m.msm.lagTime, trim := m.msm.trim, maxNStates := none,
                     method := m.msm.method, slidingWindow := m.msm.slidingWindow },
            fit := { mapping := m', tcounts := m.fit.tcounts, tprobs := m.fit.tprobs,
                     eqProbs := m.fit.eqProbs } }, ?_, ⟨rfl, rfl, hbeq, rfl, rfl⟩, rfl, hperm⟩
  simp only [load, bind, Except.bind, pure, Except.pure, hK _ _ h4, hC _ _ h1, hT _ _ h2,
      hP _ _ h3, hr, mkMSM, MSM.config]

/-- identity serialisers are exact (the hypotheses are satisfiable) -/
example : (⟨fun a => pure a, fun a => pure a⟩ : Codec Nat Nat).Exact := by
  intro a s h; cases h; rfl

/-- The returned eigenvalues are the real parts of LAPACK's values in descending order,
cut to the first `n_eigs`. -/
theorem eig_post_sorted (k : Nat) (vals : List Cx) (cols : List (List Cx))
    (v : List Rat) (c : List (List Rat)) (h : eigPost k vals cols = .ok (v, c)) :
    v.Pairwise (· ≥ ·) ∧
    ∃ full : List Rat, full.Perm (vals.map (·.re)) ∧ full.Pairwise (· ≥ ·) ∧ v = full.take k := by
  obtain ⟨_, _, _, _, hv, _⟩ := eigPost_ok k vals cols v c h
  rw [reordered_vals, List.map_take] at hv
  refine ⟨?_, sortedReals vals, sortedReals_perm vals, sortedReals_desc vals, hv⟩
  rw [hv]
  exact (sortedReals_desc vals).sublist (List.take_sublist k _)

/-- The first returned vector sums to one (whenever `eig` post-processing returns at all, i.e.
the leading column does not sum to zero). -/
theorem eig_post_first_sums_to_one (k : Nat) (hk : 1 ≤ k) (vals : List Cx) (cols : List (List Cx))
    (v : List Rat) (c : List (List Rat)) (h : eigPost k vals cols = .ok (v, c)) :
    ∃ w rest, c = w :: rest ∧ w.sum = 1 := by
  obtain ⟨c0, rest, _, hs, _, hc⟩ := eigPost_ok k vals cols v c h
  obtain ⟨k', rfl⟩ := Nat.exists_eq_add_one.mpr hk
  refine ⟨(c0.map fun z => z.div (cxSum c0)).map (·.re), (rest.take k').map (fun col => col.map (·.re)), ?_, ?_⟩
  · rw [hc, List.take_succ_cons, List.map_cons]
  · rw [List.map_map]
    exact first_sums_to_one c0 hs

example : eigPost 2 [⟨1/2,0⟩, ⟨1,0⟩] [[⟨1,0⟩,⟨-1,0⟩],[⟨1,0⟩,⟨3,0⟩]]
    = .ok ([1, 1/2], [[1/4,3/4],[1,-1]]) := by decide +kernel
/-- complex pair and a negative eigenvalue: order by real part, real parts returned -/
example : eigPost 4 [⟨-1/2,0⟩, ⟨1/4,1/3⟩, ⟨1/4,-1/3⟩, ⟨1,0⟩]
      [[⟨1,0⟩],[⟨0,1⟩],[⟨0,-1⟩],[⟨2,0⟩]]
    = .ok ([1, 1/4, 1/4, -1/2], [[1],[0],[0],[1]]) := by decide +kernel
/-- error branches: a leading column summing to zero (numpy: nan), no column at all -/
example : eigPost 2 [⟨1,0⟩] [[⟨1,0⟩,⟨-1,0⟩]] = .error .nan := by decide +kernel
example : eigPost 2 [] [] = .error .indexError := by decide +kernel
example : resolveNEigs 5 (some 1) = .error .valueError ∧ resolveNEigs 5 none = .ok 5 := by decide +kernel

/-- Dividing a left eigenvector by its sum keeps it a left eigenvector for the same eigenvalue
and makes it sum to one; for the real column `v` LAPACK returns for a real eigenvalue this is
exactly what the post-processing computes (`z.div (cxSum c0)`, then real parts).  With
eigenvalue 1 the result is therefore a stationary distribution of `T`. -/
theorem eig_post_still_left_eigvec {n : Nat} (T : Matrix (Fin n) (Fin n) ℚ) (v : Fin n → ℚ) (lam : ℚ)
    (h : Matrix.vecMul v T = lam • v) :
    let c0 : List Cx := List.ofFn fun i => (⟨v i, 0⟩ : Cx)
    let w : Fin n → ℚ := fun i => v i / ∑ i, v i
    (c0.map fun z => (z.div (cxSum c0)).re) = List.ofFn w ∧
      Matrix.vecMul w T = lam • w ∧ ((∑ i, v i) ≠ 0 → ∑ i, w i = 1) := by
  intro c0 w
  refine ⟨?_, vecMul_div_scale T v lam _ h, fun hs => sum_div_scale v hs⟩
  have hre : ∀ z ∈ c0, z.im = 0 := by
    intro z hz
    obtain ⟨i, hi⟩ := List.mem_ofFn.mp hz
    rw [← hi]
  rw [first_real c0 hre]
  have hsum : (c0.map (·.re)).sum = ∑ i, v i := by
    simp only [c0, List.map_ofFn, Function.comp_def, List.sum_ofFn]
  rw [hsum]
  simp only [c0, w, List.map_ofFn, Function.comp_def]

/-- the complex case: the model's `Cx.div` is complex division, and scaling a complex left
eigenvector by any complex number keeps it one -/
theorem eig_post_still_left_eigvec_complex {n : Nat} (T : Matrix (Fin n) (Fin n) ℂ)
    (c0 : Fin n → Cx) (lam : ℂ) (s : Cx)
    (h : Matrix.vecMul (fun i => toC (c0 i)) T = lam • fun i => toC (c0 i)) :
    Matrix.vecMul (fun i => toC ((c0 i).div s)) T = lam • fun i => toC ((c0 i).div s) := by
  simp only [toC_div]
  exact vecMul_div_scale T (fun i => toC (c0 i)) lam (toC s) h

/-- a 2-state chain: `(1,2)` is a left eigenvector of `[[1/2,1/2],[1/4,3/4]]` for eigenvalue 1 -/
example : Matrix.vecMul (![1, 2] : Fin 2 → ℚ) !![1/2, 1/2; 1/4, 3/4] = (1 : ℚ) • ![1, 2] := by
  decide +kernel

/-- Every real eigenvalue of a non-negative matrix with unit row sums that has a non-zero
eigenvector (left: 1-norm argument; right: max-norm argument) has `|λ| ≤ 1`, and `1` is an
eigenvalue with the all-ones right eigenvector. -/
theorem stochastic_eigenvalue_bound {n : Nat} (T : Matrix (Fin n) (Fin n) ℝ)
    (hnn : ∀ i j, 0 ≤ T i j) (hrow : ∀ i, ∑ j, T i j = 1) :
    (∀ (v : Fin n → ℝ) (lam : ℝ), v ≠ 0 → Matrix.vecMul v T = lam • v → |lam| ≤ 1) ∧
    (∀ (v : Fin n → ℝ) (lam : ℝ), v ≠ 0 → Matrix.mulVec T v = lam • v → |lam| ≤ 1) ∧
    Matrix.mulVec T (fun _ => (1 : ℝ)) = (1 : ℝ) • (fun _ => (1 : ℝ)) := by
  have hr := stochastic_row_norms T hnn hrow
  refine ⟨?_, ?_, ones_right_eigvec T hrow⟩
  · intro v lam hv h
    have := norm_le_one_of_left T hr v lam hv h
    rwa [Real.norm_eq_abs] at this
  · intro v lam hv h
    have := norm_le_one_of_right T hr v lam hv h
    rwa [Real.norm_eq_abs] at this

/-- the same for complex eigenvalues / eigenvectors: `‖λ‖ ≤ 1`, hence `Re λ ≤ 1` -/
theorem stochastic_eigenvalue_bound_complex {n : Nat} (T : Matrix (Fin n) (Fin n) ℝ)
    (hnn : ∀ i j, 0 ≤ T i j) (hrow : ∀ i, ∑ j, T i j = 1)
    (v : Fin n → ℂ) (lam : ℂ) (hv : v ≠ 0)
    (h : Matrix.vecMul v (T.map (fun x => (x : ℂ))) = lam • v) : ‖lam‖ ≤ 1 ∧ lam.re ≤ 1 := by
  have := norm_le_one_of_left _ (stochastic_row_norms_complex T hnn hrow) v lam hv h
  exact ⟨this, le_trans (Complex.re_le_norm lam) this⟩

/-- Consequently: if every value `eig` returned is an eigenvalue of the stochastic matrix (with
a non-zero complex left eigenvector) and the eigenvalue 1 is among them, the leading value
after the descending sort is exactly 1. -/
theorem eig_post_leading_is_one {n : Nat} (T : Matrix (Fin n) (Fin n) ℝ)
    (hnn : ∀ i j, 0 ≤ T i j) (hrow : ∀ i, ∑ j, T i j = 1) (k : Nat) (hk : 1 ≤ k)
    (vals : List Cx) (cols : List (List Cx)) (v : List Rat) (c : List (List Rat))
    (h : eigPost k vals cols = .ok (v, c))
    (heig : ∀ z ∈ vals, ∃ u : Fin n → ℂ, u ≠ 0 ∧
      Matrix.vecMul u (T.map (fun x => (x : ℂ))) = toC z • u)
    (hone : (⟨1, 0⟩ : Cx) ∈ vals) : v.head? = some 1 := by
  obtain ⟨hdesc, full, hperm, hfull, hv⟩ := eig_post_sorted k vals cols v c h
  have hle : ∀ x ∈ full, x ≤ 1 := by
    intro x hx
    obtain ⟨z, hz, rfl⟩ := List.mem_map.mp (hperm.mem_iff.mp hx)
    obtain ⟨u, hu, he⟩ := heig z hz
    have := (stochastic_eigenvalue_bound_complex T hnn hrow u (toC z) hu he).2
    exact (Rat.cast_le (K := ℝ)).mp (this.trans_eq Rat.cast_one.symm)
  have h1 : (1 : Rat) ∈ full := hperm.mem_iff.mpr (List.mem_map.mpr ⟨_, hone, rfl⟩)
  rw [hv, List.head?_take, if_neg (Nat.ne_of_gt hk)]
  exact head?_of_desc_of_mem_upperBound full 1 hfull hle h1

/-- "The" stationary distribution: full statement for irreducible chains (every state reaches
every state: some power of `T` has a positive `(i, j)` entry) — the uniqueness part of the
Perron–Frobenius theorem.  Proved below as `stationary_unique`. -/
def C16_stationary_unique_full : Prop :=
  ∀ (n : Nat) (T : Matrix (Fin n) (Fin n) ℝ), (∀ i j, 0 ≤ T i j) → (∀ i, ∑ j, T i j = 1) →
    (∀ i j, ∃ k : Nat, 0 < (T ^ k) i j) →
    ∀ v w : Fin n → ℝ, Matrix.vecMul v T = v → Matrix.vecMul w T = w →
      ∑ i, v i = 1 → ∑ i, w i = 1 → v = w

/-- The full statement holds: for an irreducible non-negative matrix with unit row sums the left
fixed vector with unit sum is unique (no sign assumption on the vectors, no aperiodicity), so
the normalised leading left eigenvector `eigenspectrum` returns is *the* stationary
distribution.  Elementary proof (`Proofs/C16Uniq.lean`): `|u|` of a fixed vector `u` is a fixed
vector; a non-negative fixed vector is zero or everywhere positive; so a fixed vector with zero
sum is zero. -/
theorem stationary_unique : C16_stationary_unique_full :=
  fun _ T hnn hrow hirr v w hv hw sv sw => stationary_unique_irred T hnn hrow hirr v w hv hw sv sw

/-- the same with irreducibility stated on the transition graph: every state reaches every
state along transitions of positive probability -/
theorem stationary_unique_paths {n : Nat} (T : Matrix (Fin n) (Fin n) ℝ) (hnn : ∀ i j, 0 ≤ T i j)
    (hrow : ∀ i, ∑ j, T i j = 1)
    (hirr : ∀ i j, Relation.ReflTransGen (fun a b => 0 < T a b) i j)
    (v w : Fin n → ℝ) (hv : Matrix.vecMul v T = v) (hw : Matrix.vecMul w T = w)
    (sv : ∑ i, v i = 1) (sw : ∑ i, w i = 1) : v = w :=
  stationary_unique_irred T hnn hrow (fun i j => pow_pos_of_path T hnn i j (hirr i j)) v w hv hw sv sw

/-- the two formulations of irreducibility are the same hypothesis -/
theorem irreducible_iff_paths {n : Nat} (T : Matrix (Fin n) (Fin n) ℝ) (hnn : ∀ i j, 0 ≤ T i j) :
    (∀ i j, ∃ k : Nat, 0 < (T ^ k) i j) ↔
      ∀ i j, Relation.ReflTransGen (fun a b => 0 < T a b) i j :=
  ⟨fun h i j => (h i j).elim fun k hk => path_of_pow_pos T hnn k i j hk,
   fun h i j => pow_pos_of_path T hnn i j (h i j)⟩

/-- and that unique unit-sum fixed vector is a probability distribution with full support:
every entry is strictly positive -/
theorem stationary_positive {n : Nat} (T : Matrix (Fin n) (Fin n) ℝ) (hnn : ∀ i j, 0 ≤ T i j)
    (hrow : ∀ i, ∑ j, T i j = 1) (hirr : ∀ i j, ∃ k : Nat, 0 < (T ^ k) i j)
    (v : Fin n → ℝ) (hv : Matrix.vecMul v T = v) (sv : ∑ i, v i = 1) : ∀ j, 0 < v j := by
  obtain ⟨i0, hi0⟩ : ∃ i, 0 < v i := by
    by_contra hc
    have : ∑ i, v i ≤ 0 := Finset.sum_nonpos fun i _ => not_lt.mp fun h => hc ⟨i, h⟩
    rw [sv] at this
    exact zero_lt_one.not_ge this
  exact fixed_pos_of_pos T hnn hrow hirr v hv i0 hi0

/-- non-vacuity: the 3-cycle `0 → 1 → 2 → 0` is row-stochastic and irreducible (both
formulations) but has zero entries (and is periodic), so `stationary_unique_partial` does not
apply to it; its unit-sum fixed vector is the uniform one -/
example :
    let T : Matrix (Fin 3) (Fin 3) ℝ := !![0, 1, 0; 0, 0, 1; 1, 0, 0]
    (∀ i j, 0 ≤ T i j) ∧ (∀ i, ∑ j, T i j = 1) ∧ (∀ i j, ∃ k : Nat, 0 < (T ^ k) i j) ∧
    (∀ i j, Relation.ReflTransGen (fun a b => 0 < T a b) i j) ∧ ¬ (∀ i j, 0 < T i j) ∧
    Matrix.vecMul (![1/3, 1/3, 1/3] : Fin 3 → ℝ) T = ![1/3, 1/3, 1/3] ∧
    ∑ i, (![1/3, 1/3, 1/3] : Fin 3 → ℝ) i = 1 := by
  intro T
  -- `T` is the shift `i ↦ i + 1`; each entry at numerals reduces to its literal
  have hT : ∀ i j, T i j = if j = i + 1 then 1 else 0 := by
    intro i j
    fin_cases i <;> fin_cases j <;> rfl
  have hv : ∀ i, (![1/3, 1/3, 1/3] : Fin 3 → ℝ) i = 1/3 := by
    intro i
    fin_cases i <;> rfl
  have hnn : ∀ i j, 0 ≤ T i j := by
    intro i j
    rw [hT]
    split
    · exact zero_le_one
    · exact le_rfl
  have hstep : ∀ i, 0 < T i (i + 1) := by
    intro i
    rw [hT, if_pos rfl]
    exact one_pos
  have hpaths : ∀ i j, Relation.ReflTransGen (fun a b => 0 < T a b) i j := by
    intro i j
    have hj : j = i ∨ j = i + 1 ∨ j = i + 1 + 1 := by revert i j; decide
    rcases hj with rfl | rfl | rfl
    · exact .refl
    · exact .single (hstep i)
    · exact .tail (.single (hstep i)) (hstep (i + 1))
  refine ⟨hnn, ?_, (irreducible_iff_paths T hnn).mpr hpaths, hpaths,
    fun h => lt_irrefl (0 : ℝ) (h 0 0), ?_, ?_⟩
  · intro i
    simp only [hT, Finset.sum_ite_eq', Finset.mem_univ, if_true]
  · funext j
    have hc : ∀ i : Fin 3, (j = i + 1) = (i = j - 1) := fun i =>
      propext ⟨fun h => by rw [h, add_sub_cancel_right], fun h => by rw [h, sub_add_cancel]⟩
    simp only [Matrix.vecMul, dotProduct, hT, hv, hc, mul_ite, mul_one, mul_zero,
      Finset.sum_ite_eq', Finset.mem_univ, if_true]
  · simp only [hv, Finset.sum_const, Finset.card_univ, Fintype.card_fin]
    norm_num

/-- The special case of entrywise positive matrices: the instance `k = 1` of the irreducibility
hypothesis. -/
theorem stationary_unique_partial {n : Nat} (T : Matrix (Fin n) (Fin n) ℝ) (hpos : ∀ i j, 0 < T i j)
    (hrow : ∀ i, ∑ j, T i j = 1) (v w : Fin n → ℝ) (hv : Matrix.vecMul v T = v)
    (hw : Matrix.vecMul w T = w) (sv : ∑ i, v i = 1) (sw : ∑ i, w i = 1) : v = w :=
  stationary_unique_irred T (fun i j => (hpos i j).le) hrow
    (fun i j => ⟨1, by rw [pow_one]; exact hpos i j⟩) v w hv hw sv sw

/-- a stochastic matrix satisfying the hypotheses -/
example : (∀ i j, 0 < (!![1/2, 1/2; 1/4, 3/4] : Matrix (Fin 2) (Fin 2) ℝ) i j) ∧
    ∀ i, ∑ j, (!![1/2, 1/2; 1/4, 3/4] : Matrix (Fin 2) (Fin 2) ℝ) i j = 1 := by
  simp only [Fin.forall_fin_two, Fin.sum_univ_two, Matrix.of_apply, Matrix.cons_val_zero,
    Matrix.cons_val_one, Matrix.cons_val', Matrix.cons_val_fin_one]
  norm_num

/-- Position by position, the returned value and the returned vector are (real parts of) ONE input
eigenpair `(vals[i], vecs[:, i])` with `i = order[j]`, `order = argsort(-real(vals))`; the vector in
position 0 is first divided by its non-zero sum.  (A model or code that sorted `vals` but left
`vecs` unpermuted would violate this.) -/
theorem eig_post_pairs (k : Nat) (vals : List Cx) (cols : List (List Cx))
    (hlen : cols.length = vals.length)
    (v : List Rat) (c : List (List Rat)) (h : eigPost k vals cols = .ok (v, c)) :
    v.length = min k vals.length ∧ c.length = v.length ∧
    ∀ j, j < v.length → ∃ i z col, (argsortDesc vals)[j]? = some i ∧ vals[i]? = some z ∧
      cols[i]? = some col ∧ v[j]? = some z.re ∧
      (j = 0 → cxSum col ≠ Cx.zero ∧ c[j]? = some (col.map fun w => (w.div (cxSum col)).re)) ∧
      (j ≠ 0 → c[j]? = some (col.map (·.re))) := by
  have hlt := argsortDesc_lt vals
  obtain ⟨c0, rest, hcols, hs, hv, hc⟩ := eigPost_ok k vals cols v c h
  -- all positions in the order are valid for both lists: nothing is dropped
  rw [filterMap_getElem?_eq_map vals ⟨0, 0⟩ _ hlt] at hv
  rw [filterMap_getElem?_eq_map cols [] _ (by rw [hlen]; exact hlt)] at hcols
  have hvl : v.length = min k vals.length := by
    rw [hv, List.length_map, List.length_take, List.length_map, argsortDesc_length]
  have hcl : c.length = v.length := by
    rw [hc, List.length_map, List.length_take, List.length_cons, ← List.length_cons (a := c0),
      ← hcols, List.length_map, argsortDesc_length, hvl]
  refine ⟨hvl, hcl, ?_⟩
  intro j hj
  rw [hvl] at hj
  have hjk : j < k := Nat.lt_of_lt_of_le hj (Nat.min_le_left _ _)
  have hjo : j < (argsortDesc vals).length := by
    rw [argsortDesc_length]; exact Nat.lt_of_lt_of_le hj (Nat.min_le_right _ _)
  have hoi : (argsortDesc vals)[j]? = some (argsortDesc vals)[j] := List.getElem?_eq_getElem hjo
  have hi : (argsortDesc vals)[j] < vals.length := hlt _ (List.getElem_mem hjo)
  have hcj : (c0 :: rest)[j]? = some (cols.getD (argsortDesc vals)[j] []) := by
    rw [← hcols, List.getElem?_map, hoi, Option.map_some]
  refine ⟨_, _, _, hoi, getElem?_eq_some_getD vals ⟨0, 0⟩ hi,
    getElem?_eq_some_getD cols [] (by rw [hlen]; exact hi), ?_, ?_, ?_⟩
  · rw [hv, List.getElem?_map, List.getElem?_take_of_lt hjk, List.getElem?_map, hoi]
    rfl
  · intro hj0
    subst hj0
    rw [List.getElem?_cons_zero, Option.some.injEq] at hcj
    subst hcj
    refine ⟨hs, ?_⟩
    rw [hc, List.getElem?_map, List.getElem?_take_of_lt hjk, List.getElem?_cons_zero,
      Option.map_some, List.map_map]
    rfl
  · intro hj0
    obtain ⟨j', rfl⟩ := Nat.exists_eq_add_one_of_ne_zero hj0
    rw [List.getElem?_cons_succ] at hcj
    rw [hc, List.getElem?_map, List.getElem?_take_of_lt hjk, List.getElem?_cons_succ, hcj,
      Option.map_some]

/-- Hence: if every input pair `(vals[i], cols[i])` is a left eigenpair of the row-stochastic `T`
(non-zero complex vector) and the eigenvalue 1 is among the values, the returned leading pair is
`(1, w)` with `w T = w` and `Σ w = 1` — a stationary vector of `T` (unique for irreducible `T` by
`stationary_unique`). -/
theorem eig_post_leading_pair {n : Nat} (T : Matrix (Fin n) (Fin n) ℝ)
    (hnn : ∀ i j, 0 ≤ T i j) (hrow : ∀ i, ∑ j, T i j = 1) (k : Nat) (hk : 1 ≤ k)
    (vals : List Cx) (cols : List (List Cx)) (hlen : cols.length = vals.length)
    (v : List Rat) (c : List (List Rat)) (h : eigPost k vals cols = .ok (v, c))
    (heig : ∀ (i : Nat) (z : Cx) (col : List Cx), vals[i]? = some z → cols[i]? = some col →
      ∃ hl : col.length = n, colVec col hl ≠ 0 ∧
        Matrix.vecMul (colVec col hl) (T.map (fun x => (x : ℂ))) = toC z • colVec col hl)
    (hone : (⟨1, 0⟩ : Cx) ∈ vals) :
    v[0]? = some 1 ∧ ∃ wl : List Rat, c[0]? = some wl ∧ ∃ hw : wl.length = n,
      Matrix.vecMul (ratVec wl hw) T = ratVec wl hw ∧ ∑ a, ratVec wl hw a = 1 := by
  have heig' : ∀ z ∈ vals, ∃ u : Fin n → ℂ, u ≠ 0 ∧
      Matrix.vecMul u (T.map (fun x => (x : ℂ))) = toC z • u := by
    intro z hz
    obtain ⟨i, hi, rfl⟩ := List.mem_iff_getElem.mp hz
    have hic : i < cols.length := by rw [hlen]; exact hi
    obtain ⟨hl, hne, hE⟩ := heig i vals[i] cols[i] (List.getElem?_eq_getElem hi)
      (List.getElem?_eq_getElem hic)
    exact ⟨_, hne, hE⟩
  have h1 := eig_post_leading_is_one T hnn hrow k hk vals cols v c h heig' hone
  obtain ⟨hvl, _, hp⟩ := eig_post_pairs k vals cols hlen v c h
  have hpos : 0 < v.length := by
    rw [hvl]; exact Nat.lt_min.mpr ⟨hk, List.length_pos_of_mem hone⟩
  obtain ⟨i, z, col, _, hz, hcol, hv0, hc0, _⟩ := hp 0 hpos
  obtain ⟨hs, hc0⟩ := hc0 rfl
  have hv1 : v[0]? = some 1 := by rw [← List.head?_eq_getElem?]; exact h1
  have hre : z.re = 1 := by rw [hv0] at hv1; exact Option.some.inj hv1
  obtain ⟨hl, hne, hE⟩ := heig i z col hz hcol
  obtain ⟨hw, hfix, hsum⟩ := leading_pair T hnn hrow z col hre hs hl hne hE
  exact ⟨hv1, _, hc0, hw, hfix, hsum⟩

/-- `n_eigs`: not given → all `n`; given and `< 2` → `ValueError`; otherwise that many -/
theorem resolve_n_eigs_guard (n : Nat) :
    resolveNEigs n none = .ok n ∧
    (∀ k : Int, k < 2 → resolveNEigs n (some k) = .error .valueError) ∧
    (∀ k : Int, 2 ≤ k → resolveNEigs n (some k) = .ok k.toNat) :=
  ⟨resolveNEigs_none n, resolveNEigs_lt_two n, resolveNEigs_ge_two n⟩

/-- `implied_timescales`: the default is `⌊n/10⌋ + 1` timescales, and never more than `n − 1` -/
theorem imp_n_times_clamp (n : Nat) :
    impNTimes n none = min (n / 10 + 1) (n - 1) ∧
    (∀ k, impNTimes n (some k) = min k (n - 1)) ∧ (∀ o, impNTimes n o ≤ n - 1) := by
  refine ⟨impNTimes_eq n none, fun k => impNTimes_eq n (some k), fun o => ?_⟩
  rw [impNTimes_eq]
  exact Nat.min_le_right _ _

/-- `left=True` decomposes the transpose, `left=False` the matrix itself; the `n_eigs` guard comes
first in both cases -/
theorem eigenspectrum_left_transposes {M : Type} (eig : M → List Cx × List (List Cx)) (tr : M → M)
    (size : M → Nat) (T : M) (nEigs : Option Int) :
    eigenspectrum eig tr size T nEigs true =
      (resolveNEigs (size T) nEigs >>= fun k => eigPost k (eig (tr T)).1 (eig (tr T)).2) ∧
    eigenspectrum eig tr size T nEigs false =
      (resolveNEigs (size T) nEigs >>= fun k => eigPost k (eig T).1 (eig T).2) :=
  ⟨eigenspectrum_eq eig tr size T nEigs true, eigenspectrum_eq eig tr size T nEigs false⟩

/-- `calc_imp_times` returns `−lag / log λ_k` for the eigenvalues after the first, in order;
on the domain `0 < λ < 1`, `lag > 0` that number is positive and is the `t` with
`λ = exp(−lag / t)`. -/
theorem imp_times_formula (lag : ℝ) (eVals : List ℝ) :
    impTimes Real.log lag eVals = (eVals.drop 1).map (fun l => -lag / Real.log l) ∧
    (impTimes Real.log lag eVals).length = eVals.length - 1 ∧
    (∀ k, (impTimes Real.log lag eVals)[k]? = (eVals[k + 1]?).map (fun l => -lag / Real.log l)) ∧
    (∀ l, 0 < lag → 0 < l → l < 1 →
      0 < -lag / Real.log l ∧ Real.exp (-lag / (-lag / Real.log l)) = l) := by
  refine ⟨rfl, (List.length_map _).trans List.length_drop, ?_, ?_⟩
  · intro k
    simp only [impTimes, List.getElem?_map, List.getElem?_drop]
    rw [Nat.add_comm]
  · intro l hlag h0 h1
    exact ⟨imp_time_pos lag l hlag h0 h1, imp_time_defining lag l hlag.ne' h0⟩

example : impNTimes 25 none = 3 ∧ impNTimes 5 none = 1 ∧ impNTimes 5 (some 9) = 4 ∧
    impNTimes 1 none = 0 := by decide +kernel

/-- `synthetic_ensemble(T, p0, k+1)` returns `p0 Tᵏ` and the observations `p0 T⁰ … p0 Tᵏ`
(`T^t` is Mathlib's matrix power); with `n_steps ≤ 1` nothing is multiplied. -/
theorem ensemble_pow {R : Type} [Semiring R] {n : Nat} (T : Matrix (Fin n) (Fin n) R)
    (p0 : Fin n → R) :
    (∀ k : Nat,
      let r := syntheticEnsemble n (extM T) (extV p0) ((k : Int) + 1)
      restrict n r.1 = Matrix.vecMul p0 (T ^ k) ∧ r.2.length = k + 1 ∧
      ∀ t, t ≤ k → (r.2[t]?).map (restrict n) = some (Matrix.vecMul p0 (T ^ t))) ∧
    (∀ s : Int, s ≤ 1 →
      let r := syntheticEnsemble n (extM T) (extV p0) s
      restrict n r.1 = p0 ∧ r.2.length = 1) := by
  constructor
  · intro k
    have hk : ((k : Int) + 1 - 1).toNat = k := by rw [Int.add_sub_cancel, Int.toNat_natCast]
    simp only [syntheticEnsemble_eq, hk]
    refine ⟨by rw [restrict_iterate, restrict_extV],
      by rw [List.length_map, List.length_range], fun t ht => ?_⟩
    rw [List.getElem?_map, List.getElem?_range (Nat.lt_succ_of_le ht), Option.map_some, Option.map_some,
      restrict_iterate, restrict_extV]
  · intro s hs
    have h0 : (s - 1).toNat = 0 := Int.toNat_eq_zero.mpr (Int.sub_nonpos_of_le hs)
    simp only [syntheticEnsemble_eq, h0]
    exact ⟨restrict_extV p0, rfl⟩

/-- two steps of the 2-state chain from state 0, computed by the model on rationals -/
example :
    let r := syntheticEnsemble (α := Rat) 2
      (fun i j => ([[1/2, 1/2], [1/4, 3/4]].getD i []).getD j 0) (fun i => [1, 0].getD i 0) 3
    tabulate 2 r.1 = [3/8, 5/8] ∧ r.2.map (tabulate 2) = [[1, 0], [1/2, 1/2], [3/8, 5/8]] := by
  decide +kernel

end C16
