import Proofs.C08
import Proofs.C07Examples
/-!
C08 — reactive flux obeys its definition and is conserved.

Statements are about `Model/Tpt.lean` (mirror of `enspara/tpt/tpt.py`), with the model's own sum
`sumTo`.  The committor vector `q` enters through the facts C07 proves about it (0 on sources,
1 on sinks, harmonic elsewhere, in `[0,1]`); `net_conserved_from_solver` chains the two
properties for the committors computed from ANY solver output `B`.

CORRESPONDENCE-ONLY clauses of the property (no theorem; containers, object identity and the eigen-solver are not in
the model — `harness/props/c08.py` checks them on every case): dense and sparse containers give the same fluxes /
populations; the inputs are not modified (also when the same objects go through committors → fluxes → net fluxes →
populations); populations GIVEN vs COMPUTED agree (the stationary vector is a parameter of the theorems; that the
library's `eq_probs` delivers it is checked numerically against the closed-form / exactly solved vector).

OPEN KNOWN FINDING `reactive-populations-zero-normaliser`: the last clause of the property ("reactive populations are a
probability vector …") is FALSE for ergodic reversible chains in which no intermediate state is reactive (every
intermediate committor is 0 or 1): the code divides 0 by 0.  Full statement `C08_reactive_pop_prob_full` (not
asserted), `reactive_pop_prob_partial` (with the positivity hypothesis), `reactive_pop_zero_normaliser_counterexample`.

"Reversible" is detailed balance `π i T i j = π j T j i`; "ergodic" enters only through C07.
-/
open Ens Ens.Tpt Ens.LinSolveT

namespace C08
open Ens.Tpt.Ex

/-- Reactive flux: `π_i q⁻_i T_ij q⁺_j` off the diagonal, 0 on it, with `q⁻ = 1 − q⁺`. -/
theorem flux_def (π q : Vec) (T : Mat) (i j : Nat) :
    (i ≠ j → reactiveFlux π q T i j = π i * reverseCommittors q i * T i j * q j) ∧
    reactiveFlux π q T i i = 0 ∧ reverseCommittors q i = 1 - q i :=
  ⟨fun h => flux_offdiag π q T h, flux_diag π q T i, rfl⟩

example : reactiveFlux π3 q3 T3 0 1 = 1/16 ∧ reactiveFlux π3 q3 T3 1 0 = 0 := by decide +kernel

/-- About the PRE-FIX reading only (the finding `reactive-fluxes-np-matrix` is closed: /repo now converts with
`np.asarray`, and np.matrix input is an ordinary dense container of the correspondence check): the matrix-product
reading `reactiveFluxNpMatrix` of the dense expression is NOT the defined flux — witness: the 3-state chain `T3`,
source 0, sink 2.  It documents why the conversion must stay. -/
theorem flux_def_npmatrix_prefix_counterexample :
    ¬ (∀ i, i < 3 → ∀ j, j < 3 → i ≠ j →
        reactiveFluxNpMatrix 3 π3 q3 T3 i j = π3 i * reverseCommittors q3 i * T3 i j * q3 j) := by
  decide +kernel

/-- Net flux is the positive part of `f − fᵀ`. -/
theorem net_def (f : Mat) (i j : Nat) :
    netFlux f i j = max (f i j - f j i) 0 ∧ 0 ≤ netFlux f i j :=
  ⟨net_eq_max f i j, net_eq_max f i j ▸ le_max_right _ _⟩

/-- At most one direction of any pair carries net flux. -/
theorem net_one_direction (f : Mat) (i j : Nat) : netFlux f i j = 0 ∨ netFlux f j i = 0 :=
  (le_total (f i j) (f j i)).imp net_zero_of_le net_zero_of_le

/-- Reversible chain: at every state where the committor is harmonic (every intermediate state),
net flux in equals net flux out. -/
theorem net_conserved (n : Nat) (T : Mat) (π q : Vec)
    (hdb : ∀ i, i < n → ∀ j, j < n → π i * T i j = π j * T j i)
    (hrow : ∀ i, i < n → sumTo n (fun j => T i j) = 1)
    (i : Nat) (hi : i < n) (hq : q i = sumTo n (fun j => T i j * q j)) :
    sumTo n (fun j => netFlux (reactiveFlux π q T) j i)
      = sumTo n (fun j => netFlux (reactiveFlux π q T) i j) := by
  simp only [sumTo_eq_sum] at hrow hq ⊢
  -- net inflow minus net outflow is gross inflow minus gross outflow, and these agree
  rw [← sub_eq_zero, ← Finset.sum_sub_distrib]
  simp only [net_sub]
  rw [Finset.sum_sub_distrib, flux_in_sum hdb hrow hi hq, flux_out_sum hi hq, sub_self]

example : (∀ i, i < 3 → ∀ j, j < 3 → π3 i * T3 i j = π3 j * T3 j i) ∧
    (∀ i, i < 3 → sumTo 3 (fun j => T3 i j) = 1) ∧ q3 1 = sumTo 3 (fun j => T3 1 j * q3 j) ∧
    sumTo 3 (fun j => netFlux (reactiveFlux π3 q3 T3) 1 j) = 1/16 := by decide +kernel

/-- The key step of conservation, as a statement of its own: total reactive flux out of a state
where `q` is harmonic is `π_i (1−q_i) q_i (1 − T_ii)` — and for a reversible chain so is the
total reactive flux into it. -/
theorem flux_out_eq_flux_in (n : Nat) (T : Mat) (π q : Vec)
    (hdb : ∀ i, i < n → ∀ j, j < n → π i * T i j = π j * T j i)
    (hrow : ∀ i, i < n → sumTo n (fun j => T i j) = 1)
    (i : Nat) (hi : i < n) (hq : q i = sumTo n (fun j => T i j * q j)) :
    sumTo n (fun j => reactiveFlux π q T i j) = π i * (1 - q i) * q i * (1 - T i i) ∧
    sumTo n (fun j => reactiveFlux π q T j i) = π i * (1 - q i) * q i * (1 - T i i) := by
  simp only [sumTo_eq_sum] at hrow hq ⊢
  exact ⟨flux_out_sum hi hq, flux_in_sum hdb hrow hi hq⟩

/-- Nothing flows into a state with `q = 0` (a source). -/
theorem no_flow_into_sources (T : Mat) (π q : Vec) (s j : Nat)
    (hs : q s = 0) (hπ : 0 ≤ π s) (hT : 0 ≤ T s j) (hqj : 0 ≤ q j) :
    netFlux (reactiveFlux π q T) j s = 0 := by
  apply net_zero_of_le
  have h0 : reactiveFlux π q T j s = 0 := by
    simp only [reactiveFlux, hs, mul_zero, ite_self]
  rw [h0]
  exact flux_nonneg hπ hT (by rw [hs]; decide) hqj

/-- Nothing flows out of a state with `q = 1` (a sink). -/
theorem no_flow_out_of_sinks (T : Mat) (π q : Vec) (s j : Nat)
    (hs : q s = 1) (hπ : 0 ≤ π j) (hT : 0 ≤ T j s) (hqj : q j ≤ 1) :
    netFlux (reactiveFlux π q T) s j = 0 := by
  apply net_zero_of_le
  have h0 : reactiveFlux π q T s j = 0 := by
    simp only [reactiveFlux, reverseCommittors, hs, sub_self, mul_zero, zero_mul, ite_self]
  rw [h0]
  exact flux_nonneg hπ hT hqj (by rw [hs]; decide)

/-- hypotheses shared by the global statements: a reversible non-negative row-stochastic chain,
`q` a committor (0 on sources, 1 on sinks, harmonic elsewhere, in `[0,1]`) -/
structure TptHyp (n : Nat) (T : Mat) (π q : Vec) (sources sinks : List Nat) : Prop where
  db : ∀ i, i < n → ∀ j, j < n → π i * T i j = π j * T j i
  row : ∀ i, i < n → sumTo n (fun j => T i j) = 1
  Tnn : ∀ i, i < n → ∀ j, j < n → 0 ≤ T i j
  πnn : ∀ i, i < n → 0 ≤ π i
  q0 : ∀ s ∈ sources, q s = 0
  q1 : ∀ s ∈ sinks, q s = 1
  qharm : ∀ i, i < n → i ∉ sources → i ∉ sinks → q i = sumTo n (fun j => T i j * q j)
  qlo : ∀ i, i < n → 0 ≤ q i
  qhi : ∀ i, i < n → q i ≤ 1
  disj : ∀ s ∈ sources, s ∉ sinks

/-- Total net outflow from the sources equals total net inflow to the sinks. -/
theorem total_out_eq_total_in (n : Nat) (T : Mat) (π q : Vec) (sources sinks : List Nat)
    (h : TptHyp n T π q sources sinks) :
    sumTo n (fun i => if i ∈ sources then sumTo n (fun j => netFlux (reactiveFlux π q T) i j) else 0)
      = sumTo n (fun i => if i ∈ sinks then sumTo n (fun j => netFlux (reactiveFlux π q T) j i) else 0) := by
  simp only [sumTo_eq_sum]
  exact total_balance h.disj
    (fun i hi h1 => Finset.sum_eq_zero fun j hj =>
      no_flow_into_sources T π q i j (h.q0 i h1) (h.πnn i hi) (h.Tnn i hi j (Finset.mem_range.1 hj))
        (h.qlo j (Finset.mem_range.1 hj)))
    (fun i hi h2 => Finset.sum_eq_zero fun j hj =>
      no_flow_out_of_sinks T π q i j (h.q1 i h2) (h.πnn j (Finset.mem_range.1 hj))
        (h.Tnn j (Finset.mem_range.1 hj) i hi) (h.qhi j (Finset.mem_range.1 hj)))
    fun i hi h1 h2 => by
      have := net_conserved n T π q h.db h.row i hi (h.qharm i hi h1 h2)
      rwa [sumTo_eq_sum, sumTo_eq_sum] at this

/-- The same with the sums running over the source / sink LISTS (no repetition, in range). -/
theorem total_out_eq_total_in_lists (n : Nat) (T : Mat) (π q : Vec) (sources sinks : List Nat)
    (h : TptHyp n T π q sources sinks)
    (hsrc : ∀ s ∈ sources, s < n) (hsnk : ∀ s ∈ sinks, s < n)
    (hnd1 : sources.Nodup) (hnd2 : sinks.Nodup) :
    sumTo sources.length (fun k => sumTo n (fun j => netFlux (reactiveFlux π q T) (sources.getD k 0) j))
      = sumTo sinks.length (fun k => sumTo n (fun j => netFlux (reactiveFlux π q T) j (sinks.getD k 0))) := by
  have := total_out_eq_total_in n T π q sources sinks h
  simp only [sumTo_eq_sum] at this ⊢
  rw [sum_pick n (fun s => ∑ j ∈ Finset.range n, netFlux (reactiveFlux π q T) s j) sources hnd1 hsrc,
    sum_pick n (fun s => ∑ j ∈ Finset.range n, netFlux (reactiveFlux π q T) j s) sinks hnd2 hsnk]
  exact this

example : TptHyp 3 T3 π3 q3 [0] [2] := by
  constructor <;> decide +kernel

/-- PARTIAL (see `C08_reactive_pop_prob_full` below for the full statement, which is false): reactive populations
`π q⁺ q⁻ / Σ π q⁺ q⁻` are non-negative, sum to 1 and vanish wherever `q` is 0 or 1 (sources and sinks) — PROVIDED some
state has positive `π q (1−q)`.  That hypothesis is NOT a guard of the code and is NOT implied by the property's
quantifier; what is missing without it is exactly the zero-normaliser case of the counterexample. -/
theorem reactive_pop_prob_partial (n : Nat) (π q : Vec)
    (hπ : ∀ i, i < n → 0 ≤ π i) (hlo : ∀ i, i < n → 0 ≤ q i) (hhi : ∀ i, i < n → q i ≤ 1)
    (hpos : ∃ i, i < n ∧ 0 < π i * q i * (1 - q i)) :
    sumTo n (density π q) ≠ 0 ∧
    (∀ i, i < n → 0 ≤ reactivePop n π q i) ∧
    sumTo n (reactivePop n π q) = 1 ∧
    (∀ s, q s = 0 → reactivePop n π q s = 0) ∧
    (∀ s, q s = 1 → reactivePop n π q s = 0) := by
  have hd : ∀ i ∈ Finset.range n, 0 ≤ density π q i := fun i hi =>
    have hi := Finset.mem_range.1 hi
    mul_nonneg (mul_nonneg (hπ i hi) (hlo i hi)) (sub_nonneg.2 (hhi i hi))
  have hN : 0 < sumTo n (density π q) := by
    obtain ⟨i, hi, hp⟩ := hpos
    rw [sumTo_eq_sum]
    exact Finset.sum_pos' hd ⟨i, Finset.mem_range.2 hi, hp⟩
  exact ⟨hN.ne', fun i hi => div_nonneg (hd i (Finset.mem_range.2 hi)) hN.le,
    sum_reactivePop hN.ne',
    fun s hs => by simp only [reactivePop, density, hs, mul_zero, zero_mul, zero_div],
    fun s hs => by simp only [reactivePop, density, reverseCommittors, hs, sub_self, mul_zero, zero_div]⟩

example : (∀ i, i < 3 → 0 ≤ π3 i) ∧ (∃ i, i < 3 ∧ 0 < π3 i * q3 i * (1 - q3 i)) ∧
    reactivePop 3 π3 q3 1 = 1 :=
  ⟨by decide +kernel, ⟨1, by decide +kernel⟩, by decide +kernel⟩

/-- FULL statement of the last clause of the property, as quantified ("all ergodic reversible transition matrices with
their stationary populations, all disjoint source/sink sets", at least one intermediate state): NOT asserted — it is
false, see the counterexample. -/
def C08_reactive_pop_prob_full : Prop :=
  ∀ (n : Nat) (T : Mat) (π q : Vec) (sources sinks : List Nat),
    sources ≠ [] → sinks ≠ [] → TptHyp n T π q sources sinks →
    (∀ i, i < n → 0 < π i) → sumTo n π = 1 →
    (∀ i, i < n → Reach n T (sources ++ sinks) i) →
    (∃ i, i < n ∧ i ∉ sources ∧ i ∉ sinks) →
    (∀ i, i < n → 0 ≤ reactivePop n π q i) ∧ sumTo n (reactivePop n π q) = 1 ∧
    (∀ s ∈ sources, reactivePop n π q s = 0) ∧ (∀ s ∈ sinks, reactivePop n π q s = 0)

/-- committors of the path chain `T3` (0 – 1 – 2) for source `1`, sink `2`: the intermediate state 0 can reach the
sink only through the source -/
def qPath : Vec := fun i => if i = 2 then 1 else 0

/-- Known finding `reactive-populations-zero-normaliser` (open): on the reversible ergodic path chain `0 – 1 – 2`
with source `1` and sink `2` the only intermediate state has `q = 0`, every density `π q (1−q)` is 0 and the
normaliser vanishes — the code computes 0/0 = nan (the executable reference reports `zeroDivision`; over `Rat` the
totalised quotient is 0, so the sum is 0, not 1). -/
theorem reactive_pop_zero_normaliser_counterexample : ¬ C08_reactive_pop_prob_full := by
  intro h
  have hyp : TptHyp 3 T3 π3 qPath [1] [2] := by constructor <;> decide +kernel
  have hreach : ∀ i, i < 3 → Reach 3 T3 ([1] ++ [2]) i := fun i hi =>
    (reach_T3 i hi).mono fun _ ha => List.mem_append_right _ ha
  have := (h 3 T3 π3 qPath [1] [2] (by decide) (by decide) hyp (by decide +kernel) (by decide +kernel) hreach
    ⟨0, by decide, by decide, by decide⟩).2.1
  revert this
  decide +kernel

example : okVal (committors 3 T3 [1] [2]) 0 = some 0 ∧
    okVal (reactivePopulations 3 T3 [1] [2] π3) 0 = none := by decide +kernel

/-- C07 ∘ C08: for the committors the code computes from ANY solver output `B` with
`(I−Q) B = R`, on a reversible row-stochastic chain, net flux is conserved at every intermediate
state. -/
theorem net_conserved_from_solver (n : Nat) (T : Mat) (π : Vec) (sources sinks : List Nat) (B : Mat)
    (hsrc : ∀ s ∈ sources, s < n) (hsnk : ∀ s ∈ sinks, s < n)
    (hdisj : ∀ s ∈ sources, s ∉ sinks) (hnd : sinks.Nodup)
    (hB : CommittorSolve n T sources sinks B)
    (hdb : ∀ i, i < n → ∀ j, j < n → π i * T i j = π j * T j i)
    (hrow : ∀ i, i < n → sumTo n (fun j => T i j) = 1)
    (i : Nat) (hi : i < n) (h1 : i ∉ sources) (h2 : i ∉ sinks) :
    sumTo n (fun j => netFlux (reactiveFlux π (committorsFrom B sinks) T) j i)
      = sumTo n (fun j => netFlux (reactiveFlux π (committorsFrom B sinks) T) i j) :=
  net_conserved n T π _ hdb hrow i hi
    ((committorsFrom_first_step hsrc hsnk hdisj hnd hB).2.2 i hi h1 h2)

/-- …and for the executable reference the driver runs: whenever `netFluxes` returns a table, it
is conserved at every intermediate state of a reversible row-stochastic chain. -/
theorem net_conserved_exec (n : Nat) (T : Mat) (π : Vec) (sources sinks : List Nat) (g : Mat)
    (hdisj : ∀ s ∈ sources, s ∉ sinks) (hnd : sinks.Nodup)
    (hg : netFluxes n T sources sinks π = .ok g)
    (hdb : ∀ i, i < n → ∀ j, j < n → π i * T i j = π j * T j i)
    (hrow : ∀ i, i < n → sumTo n (fun j => T i j) = 1)
    (i : Nat) (hi : i < n) (h1 : i ∉ sources) (h2 : i ∉ sinks) :
    sumTo n (fun j => g j i) = sumTo n (fun j => g i j) := by
  unfold netFluxes reactiveFluxes at hg
  cases hc : committors n T sources sinks with
  | error e => rw [hc] at hg; cases hg
  | ok q =>
    rw [hc] at hg
    cases hg
    exact net_conserved n T π q hdb hrow i hi ((committors_ok_first_step hdisj hnd hc).2.2 i hi h1 h2)

example : okEntry (netFluxes 3 T3 [0] [2] π3) 0 1 = some (1/16) ∧
    okEntry (netFluxes 3 T3 [0] [2] π3) 1 0 = some 0 ∧
    okVal (reactivePopulations 3 T3 [0] [2] π3) 1 = some 1 := by decide +kernel

end C08
