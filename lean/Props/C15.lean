import Proofs.C15Load
import Proofs.C15Concat
/-!
# C15 — stored and bulk-loaded data come back bit-identical

Property theorems about the model `Model/Store.lean` of `ra.save`, `ra.load`,
`load_as_concatenated`, `sound_trajectory`.  Values (`α`), frames (`β`) and dtypes (a tag) are
opaque: "bit-identical" is equality of the stored entries.

Outside the model, exercised only by the correspondence check `harness/props/c15.py` (which also
compares this model with the real code case by case):
* HDF5 / zlib and the **compression level** (cannot influence the stored values; 0/1/9 are run),
  mdtraj's readers, the process pool, `mp.Array`;
* the **HDF5 listing order**: `listNodes` (names sorted as strings) is a trusted description of
  PyTables' `list_nodes`, compared with the real listing in every case;
* **per-file atom-count mismatches** (frames of different shape in one call): frames are opaque;
* **float exactness of `math.ceil(n_frames / stride)`**: modelled as the exact `⌈n/s⌉`
  (equal for `n_frames < 2^53 / stride`);
* the legacy `keys=None` file format, negative strides.

Theorems carrying the PyTables guard `Storable` (no empty row, no zero inner dimension — the
unguarded statement is false, see `save_load_roundtrip_full_counterexample`) are named
`…_partial`: `save_load_roundtrip_partial`, `save_load_roundtrip_identity_partial`,
`load_subset_eq_rows_partial`, `save_load_roundtrip_ndarray_partial`.
-/
open Ens Ens.Store

namespace C15

/-- decidable equality of results (used by the `decide` examples only) -/
instance decEqExcept {ε α : Type} [DecidableEq ε] [DecidableEq α] : DecidableEq (Except ε α)
  | .ok a, .ok b => if h : a = b then isTrue (by rw [h]) else isFalse (fun e => h (Except.ok.inj e))
  | .error a, .error b => if h : a = b then isTrue (by rw [h]) else isFalse (fun e => h (Except.error.inj e))
  | .ok _, .error _ => isFalse (fun e => nomatch e)
  | .error _, .ok _ => isFalse (fun e => nomatch e)

/-! ## 1. zero-padded names sort in row order -/

/-- For rows `i, j` of an array with `nrows` rows, the node names
`tag + '_' + str(i).zfill(len(str(nrows)) + 1)` compare (code-point lexicographic order, as Python
strings do) exactly as the row numbers. -/
theorem zfill_order (tag : Name) (i j nrows : Nat) (hi : i < nrows) (hj : j < nrows) :
    keyName tag i nrows < keyName tag j nrows ↔ i < j :=
  keyName_lt_iff tag hi hj

/-- the same statement on Lean `String`s -/
theorem zfill_order_string (tag : Name) (i j nrows : Nat) (hi : i < nrows) (hj : j < nrows) :
    String.ofList (keyName tag i nrows) < String.ofList (keyName tag j nrows) ↔ i < j := by
  rw [String.lt_iff, String.toList_ofList, String.toList_ofList]
  exact keyName_lt_iff tag hi hj

example : keyName "arr".toList 9 11 = "arr_009".toList := by decide +kernel
example : keyName "arr".toList 9 11 < keyName "arr".toList 10 11 := by decide +kernel
example : keyName "arr".toList 99 250 < keyName "arr".toList 100 250 := by decide +kernel
/-- why the padding matters: unpadded decimal names do *not* sort numerically -/
theorem unpadded_order_counterexample :
    ¬ ("arr_".toList ++ pyStr 9 < "arr_".toList ++ pyStr 10) := by decide +kernel

/-- distinct rows get distinct names (so `create_carray` never meets an existing node) -/
theorem key_names_distinct (tag : Name) (nrows : Nat) : (rowNames tag nrows).Nodup :=
  rowNames_nodup tag nrows

/-- **Listed order is row order, for every row count**: in whatever order the nodes are kept,
`list_nodes` (names sorted as strings) returns `key 0, key 1, …, key (nrows-1)`. -/
theorem listed_order_is_row_order (tag : Name) (nrows : Nat) (stored : List Name)
    (h : stored.Perm (rowNames tag nrows)) : listNodes stored = rowNames tag nrows :=
  listNodes_rowNames tag nrows stored h

example : (rowNames "arr".toList 12).reverse.Perm (rowNames "arr".toList 12) := List.reverse_perm _

/-! ## 2. strides -/

/-- `len(l[::s]) = (len(l) + s - 1) // s` (the lengths `ra.load` computes without loading, and
`sound_trajectory`'s `ceil(n/stride)`) -/
theorem stride_len {α} (s : Nat) (hs : 0 < s) (l : List α) :
    (strideSel s l).length = (l.length + s - 1) / s :=
  length_strideSel s hs l

/-- element `i` of `l[::s]` is `l[i*s]` -/
theorem stride_elements {α} (s : Nat) (hs : 0 < s) (l : List α) (i : Nat) :
    (strideSel s l)[i]? = l[i * s]? :=
  getElem?_strideSel s hs l i

/-- `strideSel` is the shared CPython slice model's `l[::s]` -/
theorem stride_is_pyslice {α} [Inhabited α] (l : List α) (s : Nat) (hs : 0 < s) :
    (PySlice.mk none none (some (s : Int))).apply l = some (strideSel s l) :=
  pySlice_apply_stride l s hs

example : strideSel 3 [0, 1, 2, 3, 4, 5, 6] = [0, 3, 6] := by decide +kernel
example : (7 + 3 - 1) / 3 = 3 := by decide

/-- `sound_trajectory(trj, stride)` returns the number of frames a strided load yields -/
theorem sound_matches_strided_load {γ} (raw : List γ) (s : Nat) (hs : 0 < s) :
    soundTrajectory raw.length s = .ok (strideSel s raw).length := by
  rw [soundTrajectory, if_neg (Nat.ne_of_gt hs), length_strideSel s hs]

/-- **Load with a stride = `[:, ::stride]` of the full load**, for every file, every key
selection, every stride `≥ 1` (rows and lengths; an error of the full load is the same error
of the strided load). -/
theorem load_stride_eq_slice {α} [Inhabited α] (f : H5File α) (keys : Keys) (s : Nat) (hs : 0 < s) :
    (load f keys s).map Loaded.rows = (load f keys 1).map (fun r => r.rows.map (strideSel s))
    ∧ (load f keys s).map Loaded.lengths = (load f keys 1).map (fun r => r.lengths.map fun n => (n + s - 1) / s) :=
  ⟨load_stride_rows f keys s hs, load_stride_lengths f keys s hs⟩

/-- stride 0 is rejected (numpy: "slice step cannot be zero"), never silently mis-loaded -/
theorem load_stride_zero_rejected {α} [Inhabited α] (f : H5File α) (keys : Keys) :
    ∃ e, load f keys 0 = .error e := by
  by_cases h1 : (resolveKeys f keys).length = 1
  · obtain ⟨k, hk⟩ := List.length_eq_one_iff.mp h1
    rw [load_single hk]
    cases getNode f k with
    | none => exact ⟨_, rfl⟩
    | some nd => exact ⟨_, rfl⟩
  · rw [load_many h1]
    cases lookupAll f (resolveKeys f keys) with
    | error e => exact ⟨e, rfl⟩
    | ok nodes => exact loadMany_zero nodes

/-! ## 3. save → load -/

/-- what PyTables accepts: no empty row, no zero in the inner shape -/
def Storable {α} (inner : List Nat) (rows : List (List α)) : Prop :=
  (∀ r ∈ rows, r ≠ []) ∧ 0 ∉ inner

theorem save_ok_of_storable {α} (tag : Name) (dt : String) (inner : List Nat) (rows : List (List α))
    (h : Storable inner rows) :
    save tag (.ragged dt inner rows) = .ok (savedFile tag dt inner rows) :=
  if_pos (List.all_eq_true.mpr fun r hr => (shapeOk_iff inner r).mpr ⟨h.1 r hr, h.2⟩)

/-- **Subset / stride load of a saved array** (partial: same `Storable` guard as
`save_load_roundtrip_partial`): loading any non-empty list of rows `idx` (any
order, repetitions allowed) with stride `s ≥ 1` returns exactly the rows `rows[i][::s]`, `i ∈ idx`,
in the order asked for, with their `⌈len/s⌉` lengths, element type and inner shape; a plain
array comes back iff one key was asked for. -/
theorem load_subset_eq_rows_partial {α} [Inhabited α] (tag : Name) (dt : String) (inner : List Nat)
    (rows : List (List α)) (hst : Storable inner rows)
    (idx : List (Fin rows.length)) (hne : idx ≠ []) (s : Nat) (hs : 0 < s) :
    ∃ f r, save tag (.ragged dt inner rows) = .ok f
      ∧ load f (.list (idx.map fun i => keyName tag i.val rows.length)) s = .ok r
      ∧ r.rows = idx.map (fun i => strideSel s rows[i])
      ∧ r.lengths = idx.map (fun i => (rows[i].length + s - 1) / s)
      ∧ r.dtype = dt ∧ r.inner = inner
      ∧ (r.isPlain = true ↔ idx.length = 1) := by
  obtain ⟨r, h⟩ := load_list_of_getNode (getNode_savedFile tag dt inner rows) idx hne s hs
  exact ⟨savedFile tag dt inner rows, r, save_ok_of_storable tag dt inner rows hst, h⟩

/-- **Round trip** (partial: guard `Storable` = what PyTables accepts; the unguarded statement
`C15_save_load_roundtrip_full` below is false, see the counterexample): saving a ragged array with
`nrows ≥ 1` rows and loading the file back (all keys, any stride `s ≥ 1`) returns the same values
in the same row order with the same row lengths (`s = 1`), element type and inner shape — for
every number of rows. -/
theorem save_load_roundtrip_partial {α} [Inhabited α] (tag : Name) (dt : String) (inner : List Nat)
    (rows : List (List α)) (hst : Storable inner rows) (hne : rows ≠ []) (s : Nat) (hs : 0 < s) :
    ∃ f r, save tag (.ragged dt inner rows) = .ok f
      ∧ names f = rowNames tag rows.length
      ∧ load f .all s = .ok r
      ∧ r.rows = rows.map (strideSel s)
      ∧ r.lengths = rows.map (fun row => (row.length + s - 1) / s)
      ∧ r.dtype = dt ∧ r.inner = inner
      ∧ (r.isPlain = true ↔ rows.length = 1) := by
  have hne' : List.finRange rows.length ≠ [] := fun h =>
    hne (List.length_eq_zero_iff.mp (List.length_finRange.symm.trans (congrArg List.length h)))
  obtain ⟨r, h1, h2, h3, h4, h5, h6⟩ := load_list_of_getNode (getNode_savedFile tag dt inner rows)
    (List.finRange rows.length) hne' s hs
  refine ⟨savedFile tag dt inner rows, r, save_ok_of_storable tag dt inner rows hst,
    names_savedFile tag dt inner rows, ?_, ?_, ?_, h4, h5, ?_⟩
  · rw [load_congr_keys (k₂ := .list _) (resolveKeys_all_savedFile tag dt inner rows)]; exact h1
  · rw [h2]; exact map_finRange_getElem rows (strideSel s)
  · rw [h3]; exact map_finRange_getElem rows fun row => ceilDiv row.length s
  · rw [h6, List.length_finRange]

/-- with stride 1 the rows come back unchanged -/
theorem save_load_roundtrip_identity_partial {α} [Inhabited α] (tag : Name) (dt : String) (inner : List Nat)
    (rows : List (List α)) (hst : Storable inner rows) (hne : rows ≠ []) :
    ∃ f r, save tag (.ragged dt inner rows) = .ok f ∧ load f .all 1 = .ok r
      ∧ r.rows = rows ∧ r.lengths = rows.map List.length ∧ r.dtype = dt ∧ r.inner = inner := by
  obtain ⟨f, r, h1, _, h3, h4, h5, h6, h7, _⟩ := save_load_roundtrip_partial tag dt inner rows hst hne 1 Nat.one_pos
  refine ⟨f, r, h1, h3, ?_, ?_, h6, h7⟩
  · rw [h4]; exact (List.map_congr_left fun l _ => strideSel_one l).trans (List.map_id' rows)
  · rw [h5]; exact List.map_congr_left fun l _ => Nat.div_one _

example : Storable ([] : List Nat) [[1, 2, 3], [4, 5], [6]] := by
  refine ⟨?_, by simp⟩
  intro r hr
  simp only [List.mem_cons, List.not_mem_nil, or_false] at hr
  rcases hr with rfl | rfl | rfl <;> simp

/-- a rectangular `ndarray` is stored as the single node `tag_0` and comes back as the array
(strided along its first axis).  Partial: the guard `data ≠ []`, `0 ∉ inner` is the `Storable`
condition for the single node (PyTables refuses a zero dimension). -/
theorem save_load_roundtrip_ndarray_partial {α} [Inhabited α] (tag : Name) (dt : String) (inner : List Nat)
    (data : List α) (hd : data ≠ []) (hi : 0 ∉ inner) (s : Nat) (hs : 0 < s) :
    ∃ f, save tag (.ndarray dt inner data) = .ok f
      ∧ names f = [tag ++ "_0".toList]
      ∧ load f .all s = .ok (.plain dt inner (strideSel s data)) := by
  have hk : resolveKeys (mkNodes tag 1 dt inner [data]) .all = [keyNameW tag 1 0] :=
    List.mergeSort_singleton _
  have hg : getNode (mkNodes tag 1 dt inner [data]) (keyNameW tag 1 0)
      = some { dtype := dt, inner := inner, data := data } :=
    getNode_of_mem _ _ _ (List.pairwise_singleton _ (keyNameW tag 1 0)) List.mem_cons_self
  refine ⟨mkNodes tag 1 dt inner [data], if_pos ((shapeOk_iff inner data).mpr ⟨hd, hi⟩), rfl, ?_⟩
  rw [load_single hk, hg]
  exact if_neg (Nat.ne_of_gt hs)

/-- The round trip *without* the `Storable` guard (every ragged array with at least one row). -/
def C15_save_load_roundtrip_full : Prop :=
  ∀ (tag : Name) (dt : String) (inner : List Nat) (rows : List (List Nat)), rows ≠ [] →
    ∃ f r, save tag (.ragged dt inner rows) = .ok f ∧ load f .all 1 = .ok r ∧ r.rows = rows

/-- It fails: `ra.save` raises `ValueError` for an array with an empty row (PyTables cannot
create a CArray with a zero dimension) — known finding `save-empty-row`.
`save_load_roundtrip_partial` is the partial statement (guard `Storable`). -/
theorem save_load_roundtrip_full_counterexample : ¬ C15_save_load_roundtrip_full := by
  intro h
  obtain ⟨f, r, h1, _, _⟩ := h [] "int64" [] [[1, 2], []] (by simp)
  simp [save, shapeOk] at h1

/-- an array with an empty row (or a zero inner dimension) is rejected loudly, never stored wrongly -/
theorem save_rejects_unstorable {α} (tag : Name) (dt : String) (inner : List Nat) (rows : List (List α))
    (h : ∃ r ∈ rows, r = [] ∨ 0 ∈ inner) : save tag (.ragged dt inner rows) = .error .valueError := by
  obtain ⟨r, hr, hbad⟩ := h
  refine if_neg fun hall => ?_
  have := (shapeOk_iff inner r).mp (List.all_eq_true.mp hall r hr)
  exact hbad.elim this.1 this.2

/-! ## 4. parallel loading -/

/-- the lengths of the individually loaded trajectories -/
abbrev trueLengths {β} (specs : List (FileSpec β)) : List Nat := (specs.map (·.loaded)).map List.length

/-- `load_as_concatenated([])` raises `IndexError` (`args[0]` is evaluated first), with or
without a hint, for every schedule -/
theorem parallel_load_no_files_rejected {β} (hint : Option (List Nat)) (order : List Nat) (init : Nat → β) :
    loadAsConcatenated ([] : List (FileSpec β)) hint order init = .error .indexError := rfl

/-- **Windows are disjoint and tile the buffer**: with offsets `sum(lengths[0:i])` the positions
written by all workers together are `0, 1, …, total-1`, each exactly once. -/
theorem windows_disjoint {β} (specs : List (FileSpec β)) :
    (issuedCells (trueLengths specs) specs).map (·.1) = List.range (trueLengths specs).sum
    ∧ ((issuedCells (trueLengths specs) specs).map (·.1)).Nodup := by
  refine ⟨?_, issuedCells_nodup specs⟩
  rw [issuedCells_eq, blockCells_positions, List.range_eq_range', List.length_flatten]

/-- **Order independence (completion order)**: lengths sounded (`hint = none`, mdtraj's stride
contract assumed) or given correctly; for *every* order in which the workers perform their
window writes and every initial buffer content, the result is the true lengths and the
concatenation, in file order, of the individually loaded trajectories.  At least one file
(`specs ≠ []`): the empty call raises `IndexError`, see `parallel_load_no_files_rejected`. -/
theorem parallel_load_order_independent {β} (specs : List (FileSpec β)) (hint : Option (List Nat))
    (hne : specs ≠ [])
    (hh : (hint = none ∧ ∀ sp ∈ specs, MdLoadContract sp) ∨ hint = some (trueLengths specs))
    (order : List Nat) (hp : order.Perm (List.range specs.length)) (init : Nat → β) :
    loadAsConcatenated specs hint order init = .ok (trueLengths specs, (specs.map (·.loaded)).flatten) := by
  apply loadAsConcatenated_of_lengths specs hint hne ?_ order hp init
  rcases hh with ⟨rfl, hc⟩ | rfl
  · exact (soundAll_of_contract specs hc).trans (congrArg Except.ok List.map_map.symm)
  · exact if_neg fun h => h (by rw [List.length_map, List.length_map])

/-- **Order independence (arbitrary interleaving)**: the individual cell writes of all workers,
performed in *any* order (any interleaving of the workers, any number of processes), leave the
first `total` cells of the buffer equal to the concatenation. -/
theorem parallel_load_interleaving_independent {β} (specs : List (FileSpec β))
    (sched : List (Nat × β)) (hp : sched.Perm (issuedCells (trueLengths specs) specs)) (init : Nat → β) :
    (List.range (trueLengths specs).sum).map (runCells sched init) = (specs.map (·.loaded)).flatten := by
  rw [← List.length_flatten]
  exact tabulate_runCells _ _ (issuedCells_eq specs ▸ hp) init

/-- two schedules give the same buffer -/
theorem parallel_load_schedules_agree {β} (specs : List (FileSpec β))
    (s1 s2 : List (Nat × β)) (h1 : s1.Perm (issuedCells (trueLengths specs) specs))
    (h2 : s2.Perm (issuedCells (trueLengths specs) specs)) (init : Nat → β) :
    runCells s1 init = runCells s2 init :=
  runCells_perm (h1.trans h2.symm) ((h1.map _).nodup_iff.mpr (issuedCells_nodup specs)) init

/-- sounded lengths (with the `frame=` files re-inserted as 1) are the loaded lengths -/
theorem sounded_lengths_eq_loaded {β} (specs : List (FileSpec β)) (h : ∀ sp ∈ specs, MdLoadContract sp) :
    soundAll specs = .ok (specs.map (·.loaded.length)) :=
  soundAll_of_contract specs h

/-- a loader returning `raw[::stride]` (then any atom selection) satisfies the contract -/
theorem strided_loader_meets_contract {β γ : Type} (raw : List γ) (sel : γ → β) (s : Nat) (hs : 0 < s) :
    MdLoadContract { nFrames := raw.length, stride := s, hasFrame := false, loaded := (strideSel s raw).map sel } :=
  contract_of_strided raw sel s hs

def exSpecs : List (FileSpec Nat) :=
  [ { nFrames := 3, stride := 1, hasFrame := false, loaded := [10, 11, 12] },
    { nFrames := 5, stride := 2, hasFrame := false, loaded := [20, 22, 24] },
    { nFrames := 5, stride := 2, hasFrame := true,  loaded := [23] } ]

example : ∀ sp ∈ exSpecs, MdLoadContract sp := by
  intro sp h
  simp only [exSpecs, List.mem_cons, List.not_mem_nil, or_false] at h
  rcases h with rfl | rfl | rfl <;> exact ⟨by decide, by decide⟩
example : loadAsConcatenated exSpecs none [2, 0, 1] (fun _ => 0) = .ok ([3, 3, 1], [10, 11, 12, 20, 22, 24, 23]) := by
  decide +kernel
example : loadAsConcatenated exSpecs none [0, 1, 2] (fun k => k + 100) = .ok ([3, 3, 1], [10, 11, 12, 20, 22, 24, 23]) := by
  decide +kernel

/-! ## 5. wrong length hints -/

/-- **Detected**: a hint of the wrong length is refused up front; a hint whose *total* differs
from the true total is always refused (worker broadcast error or the final check), whatever the
completion order. -/
theorem lengths_mismatch_detected_partial {β} (specs : List (FileSpec β)) (hint : List Nat)
    (hbad : hint.length ≠ specs.length ∨ hint.sum ≠ (trueLengths specs).sum)
    (order : List Nat) (hp : order.Perm (List.range specs.length)) (init : Nat → β) :
    ∃ e, loadAsConcatenated specs (some hint) order init = .error e := by
  by_cases hne : specs = []
  · subst hne; exact ⟨.indexError, rfl⟩
  · obtain ⟨e, he, _⟩ := hint_mismatch_rejected specs hint hne hbad order hp init
    exact ⟨e, he⟩

/-- Full strength would be: *every* wrong hint is refused. -/
def C15_lengths_mismatch_detected_full : Prop :=
  ∀ (specs : List (FileSpec Nat)) (hint : List Nat), hint ≠ trueLengths specs →
    ∀ (order : List Nat), order.Perm (List.range specs.length) → ∀ (init : Nat → Nat),
      ∃ e, loadAsConcatenated specs (some hint) order init = .error e

def swapSpecs : List (FileSpec Nat) :=
  [ { nFrames := 2, stride := 1, hasFrame := false, loaded := [1, 2] },
    { nFrames := 1, stride := 1, hasFrame := false, loaded := [4] } ]

/-- It does not hold: the code only compares totals.  With the two lengths swapped the call
succeeds and returns overlapping windows (and the content depends on which worker finishes
last).  The `lengths` argument is documented as "a speed benefit only"; a correct hint is the
caller's obligation, so this is not counted as a violation of the property. -/
theorem lengths_mismatch_detected_counterexample : ¬ C15_lengths_mismatch_detected_full := by
  intro h
  obtain ⟨e, he⟩ := h swapSpecs [1, 2] (by decide) [0, 1] (by decide) (fun _ => 0)
  have : loadAsConcatenated swapSpecs (some [1, 2]) [0, 1] (fun _ => 0) = .ok ([1, 2], [1, 4, 0]) := by decide +kernel
  rw [this] at he
  cases he

/-- under a wrong (total-preserving) hint the result even depends on the schedule -/
theorem wrong_hint_schedule_dependent_counterexample :
    loadAsConcatenated swapSpecs (some [1, 2]) [0, 1] (fun _ => 0)
      ≠ loadAsConcatenated swapSpecs (some [1, 2]) [1, 0] (fun _ => 0) := by decide +kernel

end C15
