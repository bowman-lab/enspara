import Model.Builders
import Proofs.C04
import Proofs.C04Mle
import Model.Generated.BuildersSite
import Mathlib.Tactic.NormNum
import Mathlib.Tactic.IntervalCases
import Mathlib.Data.Rat.Floor

/-!
# C04 — every builder returns a valid, stationary and (where promised) reversible model

Theorems about `Model.Builders` over an arbitrary linear ordered field `K` (so in particular
over `Rat`, the instance the driver runs; the `example`s at `Rat` check that the model's core
instances and Mathlib's agree).  Sums are the model's `sumTo n` (indices `< n`).

What is *not* proved here and why:
* `normalize`: stationarity of the populations that `normalize` returns needs the eigen-solver.
  LAPACK's `eig` is a **parameter** of the model (`normalizeBuilder … eig`); the full clause is
  `def C04_normalize_stationary_full` (not asserted), what is proved is the contract form
  `normalize_stationary_partial`: *if* the solver's vector is a left eigenvector for eigenvalue
  1 with non-zero sum, the code's normalisation makes it a stationary probability vector.  The
  correspondence check compares the real output with the exact stationary vector.
* floats: all statements are exact-arithmetic statements.

Correspondence-only clauses (no theorem, because the model has one value per call and no
notion of aliasing; established by the differential run in `harness/props/c04.py` on every
case): "the numbers are the same for dense input and every supported sparse format" (each
container's output is compared with the model and with the ndarray result, incl. sparse inputs
with un-summed repeated entries), and "the caller's matrix is left unchanged" (snapshots
before/after every call).  scipy's result containers (`A + A.T`, `A + prior`, `A / 2.0`) are a
measured table, re-measured on every run.

Size-gated code path, correspondence-only: for sparse input with ≥ 1000 states
`eigenspectrum`/`eq_probs` switch from LAPACK (`scipy.linalg.eig` on the densified matrix) to
ARPACK (`eigs(…, which="LR")`, random start vector).  Nothing in the model depends on the size
(the solver is the parameter of `C04_solver_contract`), so that path is covered only by the
`large-sparse` family of `harness/props/c04.py`: 999/1000/1001/1024/1500/2048 states, periodic
(period 2, 3, 4, 6), near-periodic, metastable-block and aperiodic chains in csr/csc/coo/lil/
dok/bsr, `normalize` called repeatedly on the same matrix, populations compared with a direct
sparse solve that certifies its own residual.

Theorems marked "by construction of the model" are `rfl`-level: they state what the model
does (which the correspondence check ties to the code), not a consequence of it.

`mle`: the Prinz iteration is C12; `mle_end_to_end` composes C12's run theorems with the
output-stage theorems here into one statement about what the `mle` builder returns.
-/

set_option linter.unusedSectionVars false

namespace C04
open Ens Ens.Builders Ens.C04P

section field
variable {K : Type} [Field K] [LinearOrder K] [IsStrictOrderedRing K]

/-- `_row_normalize`: a row with positive total becomes `C[i,j] / rowsum[i]` and sums to one;
a row whose total is not positive becomes zero; non-negative rows stay non-negative. -/
theorem rowNormalize_stochastic (n : Nat) (C : Mat K) (i : Nat) :
    (0 < rowSum n C i →
        (∀ j, rowNormalize n C i j = C i j / rowSum n C i) ∧
        sumTo n (fun j => rowNormalize n C i j) = 1) ∧
    (¬ 0 < rowSum n C i → ∀ j, rowNormalize n C i j = 0) ∧
    ((∀ j, 0 ≤ C i j) → ∀ j, 0 ≤ rowNormalize n C i j) := by
  refine ⟨fun h => ⟨fun j => rowNormalize_entry h j, rowNormalize_row_sum h⟩, ?_, ?_⟩
  · intro h j
    simp [rowNormalize, invWeight_nonpos h]
  · intro h j
    exact mul_nonneg (h j) (invWeight_nonneg _)

-- non-vacuity: a 2×2 count matrix with a positive and a zero row
example : (0 : Rat) < rowSum 2 (fun i j => if i = 0 then (j : Rat) + 1 else 0) 0 := by
  decide +kernel
example : ¬ (0 : Rat) < rowSum 2 (fun i j => if i = 0 then (j : Rat) + 1 else 0) 1 := by
  decide +kernel
example : rowNormalize 2 (fun i j => if i = 0 then (j : Rat) + 1 else 0) 0 1 = 2 / 3 := by
  decide +kernel
-- the theorem applies to the `Rat` instance the driver runs
example (n : Nat) (C : Mat Rat) (i : Nat) (h : 0 < rowSum n C i) :
    sumTo n (fun j => rowNormalize n C i j) = 1 := ((rowNormalize_stochastic n C i).1 h).2

/-- (by construction of the model) the `normalize` builder returns `rownorm (C + prior)` and
`C + prior` -/
theorem normalize_probs (n : Nat) (C : Mat K) (prior : Prior K) (eig : Option (Nat → K)) :
    (normalizeBuilder n C prior eig).probs = rowNormalize n (applyPrior C prior) ∧
    (normalizeBuilder n C prior eig).counts = applyPrior C prior := ⟨rfl, rfl⟩

/-- (by construction of the model: `applyPrior` is the first step of each builder, as
`_apply_prior_counts` is the first statement of each function)
`builder(C, prior) = builder(C + prior, None)` for all three builders (for `mle`: around
any estimator `est`) -/
theorem prior_added_first (n : Nat) (C : Mat K) (prior : Prior K) :
    (∀ eig, (normalizeBuilder n C prior eig).probs = (normalizeBuilder n (applyPrior C prior) .none eig).probs
          ∧ (normalizeBuilder n C prior eig).counts = (normalizeBuilder n (applyPrior C prior) .none eig).counts
          ∧ (normalizeBuilder n C prior eig).eq = (normalizeBuilder n (applyPrior C prior) .none eig).eq) ∧
    (∀ calcEq, (transposeBuilder n C prior calcEq).probs = (transposeBuilder n (applyPrior C prior) .none calcEq).probs
          ∧ (transposeBuilder n C prior calcEq).counts = (transposeBuilder n (applyPrior C prior) .none calcEq).counts
          ∧ (transposeBuilder n C prior calcEq).eq = (transposeBuilder n (applyPrior C prior) .none calcEq).eq) ∧
    (∀ {ε : Type} (est : Mat K → Except ε (Mat K × (Nat → K))) calcEq,
        mleBuilder est C prior calcEq = mleBuilder est (applyPrior C prior) .none calcEq) :=
  ⟨fun _ => ⟨rfl, rfl, rfl⟩, fun _ => ⟨rfl, rfl, rfl⟩, fun _ _ => rfl⟩

/-- (by construction of the model) scalar and matrix priors add entrywise -/
theorem applyPrior_entry (C : Mat K) (a : K) (P : Mat K) (i j : Nat) :
    applyPrior C .none i j = C i j ∧
    applyPrior C (.scalar a) i j = C i j + a ∧
    applyPrior C (.matrix P) i j = C i j + P i j := ⟨rfl, rfl, rfl⟩

/-- the symmetrised matrix of the transpose builder -/
abbrev symOf (C : Mat K) (prior : Prior K) : Mat K := symmetrize (applyPrior C prior)

theorem symOf_symm (C : Mat K) (prior : Prior K) (i j : Nat) :
    symOf C prior i j = symOf C prior j i :=
  add_comm _ _

/-- the rows of the returned matrix are probability distributions for every state whose
symmetrised row has positive total; entries are `S[i,j] / rowsum S[i]` -/
theorem transpose_stochastic (n : Nat) (C : Mat K) (prior : Prior K) (calcEq : Bool) (i : Nat)
    (hi : 0 < rowSum n (symOf C prior) i) :
    sumTo n (fun j => (transposeBuilder n C prior calcEq).probs i j) = 1 ∧
    ∀ j, (transposeBuilder n C prior calcEq).probs i j
          = symOf C prior i j / rowSum n (symOf C prior) i :=
  ⟨rowNormalize_row_sum hi, fun j => rowNormalize_entry hi j⟩

/-- detailed balance `π_i T_ij = π_j T_ji` with the returned populations -/
theorem transpose_detailed_balance (n : Nat) (C : Mat K) (prior : Prior K)
    (hpos : ∀ i, i < n → 0 < rowSum n (symOf C prior) i)
    (π : Nat → K) (hπ : (transposeBuilder n C prior true).eq = some π)
    (i j : Nat) (hi : i < n) (hj : j < n) :
    π i * (transposeBuilder n C prior true).probs i j
      = π j * (transposeBuilder n C prior true).probs j i := by
  rw [transposeBuilder_eq hπ]
  show rowSum n (symOf C prior) i / _ * rowNormalize n (symOf C prior) i j
     = rowSum n (symOf C prior) j / _ * rowNormalize n (symOf C prior) j i
  rw [pi_mul_T (hpos i hi), pi_mul_T (hpos j hj), symOf_symm]

/-- stationarity `Σ_i π_i T_ij = π_j` -/
theorem transpose_stationary (n : Nat) (C : Mat K) (prior : Prior K)
    (hpos : ∀ i, i < n → 0 < rowSum n (symOf C prior) i)
    (π : Nat → K) (hπ : (transposeBuilder n C prior true).eq = some π)
    (j : Nat) (_hj : j < n) :
    sumTo n (fun i => π i * (transposeBuilder n C prior true).probs i j) = π j := by
  rw [transposeBuilder_eq hπ]
  show sumTo n (fun i => rowSum n (symOf C prior) i / _ * rowNormalize n (symOf C prior) i j) = _
  rw [sumTo_congr (fun i hi => pi_mul_T (hpos i hi) _ j)]
  exact sumTo_col_div (fun i j _ _ => symOf_symm C prior i j) _ _hj

/-- the returned populations are a probability vector -/
theorem transpose_pi_prob (n : Nat) (hn : 0 < n) (C : Mat K) (prior : Prior K)
    (hpos : ∀ i, i < n → 0 < rowSum n (symOf C prior) i)
    (π : Nat → K) (hπ : (transposeBuilder n C prior true).eq = some π) :
    sumTo n π = 1 ∧ ∀ i, i < n → 0 < π i := by
  rw [transposeBuilder_eq hπ]
  exact div_sum_prob hn hpos

/-- (by construction of the model) `calculate_eq_probs=False` returns no populations; the
returned counts are `S/2` -/
theorem transpose_flags (n : Nat) (C : Mat K) (prior : Prior K) :
    (transposeBuilder n C prior false).eq = none ∧
    (∃ π, (transposeBuilder n C prior true).eq = some π) ∧
    ∀ b i j, (transposeBuilder n C prior b).counts i j = symOf C prior i j / 2 :=
  ⟨rfl, ⟨_, rfl⟩, fun _ _ _ => rfl⟩

-- non-vacuity: C = [[1,2],[0,3]] has positive symmetrised rows
example : ∀ i, i < 2 → (0 : Rat) < rowSum 2 (symOf (fun i j => if i = 0 then (j : Rat) + 1 else if j = 0 then 0 else 3) .none) i := by
  decide +kernel

/-- rows are probability distributions -/
theorem mle_output_stochastic (n : Nat) (X : Mat K) (Xrs : Nat → K)
    (hpos : ∀ i, i < n → 0 < rowSum n X i) (i : Nat) (hi : i < n) :
    sumTo n (fun j => (mleOutput n X Xrs).1 i j) = 1 ∧
    ((∀ j, 0 ≤ X i j) → ∀ j, 0 ≤ (mleOutput n X Xrs).1 i j) := by
  constructor
  · exact sumTo_div_self (v := fun j => X i j) (hpos i hi).ne'
  · intro h j
    exact div_nonneg (h j) (le_of_lt (hpos i hi))

/-- detailed balance of the returned `(T, π)` for every symmetric `X` whose running row sums
are its row sums -/
theorem mle_output_detailed_balance (n : Nat) (X : Mat K) (Xrs : Nat → K)
    (hsym : ∀ i j, i < n → j < n → X i j = X j i)
    (hrs : ∀ i, i < n → Xrs i = rowSum n X i)
    (hpos : ∀ i, i < n → 0 < rowSum n X i)
    (i j : Nat) (hi : i < n) (hj : j < n) :
    (mleOutput n X Xrs).2 i * (mleOutput n X Xrs).1 i j
      = (mleOutput n X Xrs).2 j * (mleOutput n X Xrs).1 j i := by
  show Xrs i / sumTo n Xrs * (X i j / rowSum n X i) = Xrs j / sumTo n Xrs * (X j i / rowSum n X j)
  rw [hrs i hi, hrs j hj, div_mul_div_cancel₀' (ne_of_gt (hpos i hi)), div_mul_div_cancel₀' (ne_of_gt (hpos j hj)),
    hsym i j hi hj]

/-- stationarity of the returned `π` under the returned `T` -/
theorem mle_output_stationary (n : Nat) (X : Mat K) (Xrs : Nat → K)
    (hsym : ∀ i j, i < n → j < n → X i j = X j i)
    (hrs : ∀ i, i < n → Xrs i = rowSum n X i)
    (hpos : ∀ i, i < n → 0 < rowSum n X i)
    (j : Nat) (hj : j < n) :
    sumTo n (fun i => (mleOutput n X Xrs).2 i * (mleOutput n X Xrs).1 i j)
      = (mleOutput n X Xrs).2 j := by
  show sumTo n (fun i => Xrs i / sumTo n Xrs * (X i j / rowSum n X i)) = Xrs j / sumTo n Xrs
  rw [sumTo_congr (fun i hi => by rw [hrs i hi, div_mul_div_cancel₀' (hpos i hi).ne']), hrs j hj]
  exact sumTo_col_div hsym _ hj

/-- the returned populations are a probability vector -/
theorem mle_output_pi_prob (n : Nat) (hn : 0 < n) (X : Mat K) (Xrs : Nat → K)
    (hrs : ∀ i, i < n → Xrs i = rowSum n X i)
    (hpos : ∀ i, i < n → 0 < rowSum n X i) :
    sumTo n (mleOutput n X Xrs).2 = 1 ∧ ∀ i, i < n → 0 < (mleOutput n X Xrs).2 i :=
  div_sum_prob hn fun i hi => by rw [hrs i hi]; exact hpos i hi

-- non-vacuity: X = [[2,1],[1,0]] is symmetric with positive row sums
example : (∀ i j, i < 2 → j < 2 →
      (fun i j => if i = 0 ∧ j = 0 then (2 : Rat) else if i = 1 ∧ j = 1 then 0 else 1) i j
    = (fun i j => if i = 0 ∧ j = 0 then (2 : Rat) else if i = 1 ∧ j = 1 then 0 else 1) j i) ∧
    (∀ i, i < 2 → (0 : Rat) < rowSum 2
      (fun i j => if i = 0 ∧ j = 0 then (2 : Rat) else if i = 1 ∧ j = 1 then 0 else 1) i) := by
  refine ⟨fun i j hi hj => ?_, by decide +kernel⟩
  interval_cases i <;> interval_cases j <;> rfl

section mle_e2e
open Ens.Mle Ens.C12P
variable {n : Nat}

/-- **`builders.mle` end to end** (model: `mleBuilder` around `prinzEst`, i.e. prior counts,
then the Prinz iteration `Mle.run` of C12 on the dense counts, then `T = X/rowsum`,
`π = X_rs/ΣX_rs`).  On non-negative counts (after the prior) in which every state has an
outgoing and an incoming off-diagonal count (implied by strong connectivity with ≥ 2 states,
`C12.conn_of_strongly_connected`), in exact arithmetic:
* the call never ends in an assertion failure, and returns whenever the `warnings.warn` call
  site is in its repaired form;
* whatever it returns has a row-stochastic non-negative `T`, a positive probability vector `π`
  that satisfies detailed balance and is stationary under `T`, and the counts `C + prior`.
This composes C12's `run_spec`/`valid_props` (loop invariants, positivity of the running row
sums, exact final assertions) with the representation bridge `matFn`/`matOfFn`. -/
theorem mle_end_to_end {P : Params K} (hs : SqrtSpec P.sqrt) (hP : ParamsOK P) (hn : 0 < n)
    (hmax : 0 < P.maxIter) (C : Mat K) (prior : Prior K)
    (hC : ∀ i j, i < n → j < n → 0 ≤ applyPrior C prior i j)
    (hc : Conn (matOfFn n (applyPrior C prior))) :
    mleBuilder (prinzEst P n) C prior true ≠ .error .assertion ∧
    (P.warnSwapped = false → ∃ o, mleBuilder (prinzEst P n) C prior true = .ok o) ∧
    ∀ o, mleBuilder (prinzEst P n) C prior true = .ok o →
      o.counts = applyPrior C prior ∧
      (∀ i, i < n → sumTo n (fun j => o.probs i j) = 1) ∧
      (∀ i j, i < n → j < n → 0 ≤ o.probs i j) ∧
      ∃ π, o.eq = some π ∧ sumTo n π = 1 ∧ (∀ i, i < n → 0 < π i) ∧
        (∀ i j, i < n → j < n → π i * o.probs i j = π j * o.probs j i) ∧
        (∀ j, j < n → sumTo n (fun i => π i * o.probs i j) = π j) := by
  have hC' : ∀ i j : Fin n, 0 ≤ mget (matOfFn n (applyPrior C prior)) i j := fun i j => by
    rw [mget_matOfFn]; exact hC _ _ i.isLt j.isLt
  obtain ⟨Crs, st, k, hD, hinv, hpos, _, hcase⟩ := run_spec hs hP hn hmax hC' hc
  have hb : mleBuilder (prinzEst P n) C prior true
      = match Mle.run P (matOfFn n (applyPrior C prior)) with
        | .error e => .error e
        | .ok r => .ok { counts := applyPrior C prior, probs := matFn r.T, eq := some (vecFn r.pi) } := by
    unfold mleBuilder prinzEst
    dsimp only
    cases Mle.run P (matOfFn n (applyPrior C prior)) <;> rfl
  rcases hcase with ⟨_, hw, herr⟩ | ⟨hne, r, hr, hv⟩
  · rw [hb, herr]
    refine ⟨?_, ?_, ?_⟩
    · simp
    · intro hf; rw [hw] at hf; cases hf
    · intro o ho; cases ho
  · rw [hb, hr]
    refine ⟨?_, fun _ => ⟨_, rfl⟩, ?_⟩
    · simp
    intro o ho
    injection ho with ho
    subst ho
    have hrs := fun i => hpos.rs_pos hD hc hinv i
    obtain ⟨a, b, c, d, e, f⟩ := valid_props hn hinv hrs hv
    refine ⟨rfl, ?_, ?_, vecFn r.pi, rfl, ?_, ?_, ?_, ?_⟩
    · intro i hi
      exact (sumTo_eq_fin_sum fun j => matFn_lt r.T hi j.isLt).trans (a ⟨i, hi⟩)
    · intro i j hi hj
      show 0 ≤ matFn r.T i j
      rw [matFn_lt r.T hi hj]; exact b _ _
    · exact (sumTo_eq_fin_sum fun i => vecFn_lt r.pi i.isLt).trans c
    · intro i hi
      rw [vecFn_lt r.pi hi]; exact d _
    · intro i j hi hj
      show vecFn r.pi i * matFn r.T i j = vecFn r.pi j * matFn r.T j i
      rw [vecFn_lt r.pi hi, vecFn_lt r.pi hj, matFn_lt r.T hi hj, matFn_lt r.T hj hi]
      exact e _ _
    · intro j hj
      rw [vecFn_lt r.pi hj]
      refine (sumTo_eq_fin_sum fun i => ?_).trans (f ⟨j, hj⟩)
      show vecFn r.pi i.val * matFn r.T i.val j = _
      rw [vecFn_lt r.pi i.isLt, matFn_lt r.T i.isLt hj]

-- non-vacuity: the all-ones 2×2 counts satisfy the hypotheses (over `Rat`)
example : (∀ i j, i < 2 → j < 2 → (0 : Rat) ≤ applyPrior (fun _ _ => (1 : Rat)) .none i j) ∧
    Conn (matOfFn 2 (applyPrior (fun _ _ => (1 : Rat)) .none)) := by
  exact ⟨fun i j _ _ => zero_le_one, Conn.of_offdiag_pos fin2_other fun i j _ => by
    rw [mget_matOfFn]; exact zero_lt_one⟩

end mle_e2e

/-- **Full clause (NOT proved, never asserted)**: for an eigen-solver `eig` (LAPACK's `eig`
followed by the selection of the eigenvalue with the largest real part — a *parameter* of the
model, not modelled), on every count matrix with positive row sums whose row-normalised matrix
has a unique stationary distribution, the populations `normalize` returns are a probability
vector that is stationary under the returned matrix.  Proving it needs a specification of the
solver (`C04_solver_contract`); given that contract it follows from
`normalize_stationary_partial`. -/
def C04_normalize_stationary_full (eig : Nat → Mat K → Nat → K) : Prop :=
  ∀ (n : Nat) (C : Mat K) (prior : Prior K), 0 < n →
    (∀ i j, i < n → j < n → 0 ≤ applyPrior C prior i j) →
    (∀ i, i < n → 0 < rowSum n (applyPrior C prior) i) →
    ∃ π, (normalizeBuilder n C prior
            (some (eig n (rowNormalize n (applyPrior C prior))))).eq = some π ∧
      sumTo n π = 1 ∧ (∀ i, i < n → 0 ≤ π i) ∧
      ∀ j, j < n → sumTo n (fun i => π i * rowNormalize n (applyPrior C prior) i j) = π j

/-- what LAPACK is trusted for: the vector it returns for a row-stochastic matrix is a left
eigenvector for eigenvalue 1 with components of one sign and non-zero sum -/
def C04_solver_contract (eig : Nat → Mat K → Nat → K) : Prop :=
  ∀ (n : Nat) (T : Mat K), (∀ i, i < n → sumTo n (fun j => T i j) = 1) →
    (∀ j, j < n → sumTo n (fun i => eig n T i * T i j) = eig n T j) ∧ sumTo n (eig n T) ≠ 0 ∧
    ((∀ i, i < n → 0 ≤ eig n T i) ∨ (∀ i, i < n → eig n T i ≤ 0))

/-- **Contract (`_partial`) form.**  If the eigen-solver's vector `v` is a left eigenvector of the returned matrix for
eigenvalue 1 with non-zero component sum (the solver's contract), then what the code returns
after `vecs[:,0] /= vecs[:,0].sum()` is stationary and sums to one; if moreover the components
of `v` all have the same sign (Perron vector up to the solver's arbitrary scaling), it is
non-negative. -/
theorem normalize_stationary_partial (n : Nat) (C : Mat K) (prior : Prior K) (v : Nat → K)
    (heig : ∀ j, j < n →
      sumTo n (fun i => v i * (normalizeBuilder n C prior (some v)).probs i j) = v j)
    (hsum : sumTo n v ≠ 0)
    (π : Nat → K) (hπ : (normalizeBuilder n C prior (some v)).eq = some π) :
    (∀ j, j < n → sumTo n (fun i => π i * (normalizeBuilder n C prior (some v)).probs i j) = π j) ∧
    sumTo n π = 1 ∧
    (((∀ i, i < n → 0 ≤ v i) ∨ (∀ i, i < n → v i ≤ 0)) → ∀ i, i < n → 0 ≤ π i) := by
  obtain rfl : normalizeEig n v = π := Option.some.inj hπ
  refine ⟨?_, ?_, ?_⟩
  · intro j hj
    show sumTo n (fun i => v i / sumTo n v * _) = v j / sumTo n v
    rw [← heig j hj, sumTo_congr (fun i _ => div_mul_eq_mul_div _ _ _), sumTo_div]
  · exact sumTo_div_self hsum
  · intro hsign i hi
    show 0 ≤ v i / sumTo n v
    rcases hsign with h | h
    · apply div_nonneg (h i hi)
      rw [sumTo_eq_sum]
      exact Finset.sum_nonneg (fun k hk => h k (Finset.mem_range.mp hk))
    · apply div_nonneg_of_nonpos (h i hi)
      rw [sumTo_eq_sum]
      exact Finset.sum_nonpos (fun k hk => h k (Finset.mem_range.mp hk))

/-- given the solver contract, the full clause follows (so the only thing between the proved
part and the full clause is LAPACK) -/
theorem normalize_stationary_of_solver_contract (eig : Nat → Mat K → Nat → K)
    (hsolver : C04_solver_contract eig) : C04_normalize_stationary_full eig := by
  intro n C prior _ _ hpos
  have hrows : ∀ i, i < n → sumTo n (fun j => rowNormalize n (applyPrior C prior) i j) = 1 :=
    fun i hi => rowNormalize_row_sum (hpos i hi)
  obtain ⟨h1, h2, h3⟩ := hsolver n _ hrows
  obtain ⟨a, b, c⟩ := normalize_stationary_partial n C prior
    (eig n (rowNormalize n (applyPrior C prior))) h1 h2 _ rfl
  exact ⟨_, rfl, b, c h3, a⟩

-- non-vacuity: T = rownorm [[1,1],[2,0]] = [[1/2,1/2],[1,0]] has the left eigenvector (-4,-2)
example : ∀ j, j < 2 → sumTo 2 (fun i => (if i = 0 then (-4 : Rat) else -2) *
      (normalizeBuilder 2 (fun i j => if i = 0 then (1 : Rat) else if j = 0 then 2 else 0) .none
        (some fun i => if i = 0 then (-4 : Rat) else -2)).probs i j)
      = (if j = 0 then (-4 : Rat) else -2) := by
  decide +kernel

end field

/-- the site facts of the source the check is running against -/
def theSite : Site :=
  { priorMatrixToArray := Ens.Generated.BuildersSite.priorMatrixToArray
    transposeHalfIntLiteral := Ens.Generated.BuildersSite.transposeHalfIntLiteral
    transposeTotalSum := Ens.Generated.BuildersSite.transposeTotalSum }

/-- after `_apply_prior_counts` the container is unchanged, or a sparse input with a prior
became dense -/
theorem prior_cases (toArr : Bool) (c : Container) (p : PriorKind) (hc : c.inScope = true) :
    priorContainer toArr c p = c ∨
    (c.isSparse = true ∧ p ≠ .none ∧
      (priorContainer toArr c p = .ndarray ∨ priorContainer toArr c p = .npmatrix)) := by
  cases c with
  | ndarray => cases p <;> exact Or.inl rfl
  | npmatrix => cases hc
  | spmatrix f =>
    cases p with
    | none => exact Or.inl rfl
    | scalar =>
      cases f <;> first
        | exact Or.inl rfl
        | exact Or.inr ⟨rfl, PriorKind.noConfusion, Or.inl rfl⟩
    | dense =>
      cases toArr
      · exact Or.inr ⟨rfl, PriorKind.noConfusion, Or.inr rfl⟩
      · exact Or.inr ⟨rfl, PriorKind.noConfusion, Or.inl rfl⟩

/-- the recast in `transpose` always restores the container of `C + prior` -/
theorem transposePair_eq (c' : Container) : transposePair c' = (c', c') :=
  C04P.transposePair_eq c'

/-- Output container = input container; the only exception is a sparse input with prior
counts, whose outputs may be dense (ndarray or numpy.matrix).  Holds for every state of the
source-site facts and every call. -/
theorem container_out (site : Site) (ci : CallInfo) (b : BuilderId) (c : Container)
    (p : PriorKind) (cC cT : Container)
    (hc : c.inScope = true) (h : builderContainers site ci b c p = .ok (cC, cT)) :
    (cC = c ∧ cT = c) ∨
    (c.isSparse = true ∧ p ≠ .none ∧ cC.isDense = true ∧ cT.isDense = true) := by
  have hout := builderContainers_out h
  rcases prior_cases site.priorMatrixToArray c p hc with hsame | ⟨hsp, hp, hd⟩
  · rw [hsame] at hout
    -- the only dense container in scope is the `ndarray`
    have key : ∀ x, (x = c ∨ (c.isSparse = false ∧ x = .ndarray)) → x = c := by
      rintro x (hx | ⟨hs, rfl⟩)
      · exact hx
      · cases c with
        | ndarray => rfl
        | npmatrix => cases hc
        | spmatrix f => cases hs
    exact Or.inl ⟨key _ (hout cC (Or.inl rfl)), key _ (hout cT (Or.inr rfl))⟩
  · have key : ∀ x, (x = priorContainer site.priorMatrixToArray c p ∨
        ((priorContainer site.priorMatrixToArray c p).isSparse = false ∧ x = .ndarray)) →
        x.isDense = true := by
      rintro x (hx | ⟨_, rfl⟩)
      · rcases hd with hd | hd <;> rw [hx, hd] <;> rfl
      · rfl
    exact Or.inr ⟨hsp, hp, key _ (hout cC (Or.inl rfl)), key _ (hout cT (Or.inr rfl))⟩

/-- full statement: every builder returns for every in-scope container, prior kind and call
(with the source-site facts read by the translator) -/
def C04_container_total_full : Prop :=
  ∀ (ci : CallInfo) (b : BuilderId) (c : Container) (p : PriorKind), c.inScope = true →
    ∃ r, builderContainers theSite ci b c p = .ok r

/-- for an arbitrary source: every call returns except
* `mle` on a sparse matrix with a dense (ndarray) prior and ≥ 2 states when
  `_apply_prior_counts` leaves the `numpy.matrix` that scipy produces;
* `transpose` with populations on a `bsr_matrix` stored as several blocks larger than 1×k when
  the source calls `C_sym.sum()` without an axis. -/
theorem container_total_partial (site : Site) (ci : CallInfo) (b : BuilderId) (c : Container)
    (p : PriorKind) (hc : c.inScope = true)
    (hex1 : ¬ (b = .mle ∧ c.isSparse = true ∧ p = .dense ∧ site.priorMatrixToArray = false
              ∧ ci.multi = true))
    (hex2 : ¬ (b = .transpose ∧ c = .spmatrix .bsr ∧ p = .none ∧ ci.calcEq = true
              ∧ ci.bsrBlocky = true ∧ site.transposeTotalSum = true)) :
    ∃ r, builderContainers site ci b c p = .ok r := by
  unfold builderContainers
  cases b with
  | normalize => exact ⟨_, rfl⟩
  | transpose =>
    simp only [transposePair_eq]
    split
    · rename_i hcond
      simp only [Bool.and_eq_true, beq_iff_eq] at hcond
      obtain ⟨⟨⟨h1, h2⟩, h3⟩, h4⟩ := hcond
      -- the container after the prior is bsr only when the input is bsr and there is no prior
      obtain ⟨rfl, hp | ⟨_, hf⟩⟩ := priorContainer_sparse h4
      · exact absurd ⟨rfl, rfl, hp, h1, h3, h2⟩ hex2
      · cases hf
    · exact ⟨_, rfl⟩
  | mle =>
    cases hc' : priorContainer site.priorMatrixToArray c p with
    | ndarray => exact ⟨_, rfl⟩
    | spmatrix f => exact ⟨_, rfl⟩
    | npmatrix =>
      cases hm : ci.multi with
      | false => exact ⟨(.ndarray, .ndarray), rfl⟩
      | true =>
        obtain ⟨h1, h2, h3⟩ := priorContainer_npmatrix hc hc'
        exact absurd ⟨rfl, h1, h2, h3, hm⟩ hex1

/-- with both call sites in their repaired form every combination returns -/
theorem container_total_of_fix (site : Site) (h1 : site.priorMatrixToArray = true)
    (h2 : site.transposeTotalSum = false) (ci : CallInfo) (b : BuilderId) (c : Container)
    (p : PriorKind) (hc : c.inScope = true) : ∃ r, builderContainers site ci b c p = .ok r :=
  container_total_partial site ci b c p hc (by simp [h1]) (by simp [h2])

/-- the source the translator read has the repaired call sites: `_apply_prior_counts`
converts `numpy.matrix` to `ndarray`, `transpose` divides by a float and totals the row sums.
(If the source regresses, the regenerated `Model.Generated.BuildersSite` makes this fail.) -/
theorem site_is_fixed :
    theSite = { priorMatrixToArray := true, transposeHalfIntLiteral := false,
                transposeTotalSum := false } := by
  rfl

/-- **Full statement, for the code as it is**: every builder returns for every in-scope
container, prior kind and call. -/
theorem container_total : C04_container_total_full := by
  intro ci b c p hc
  exact container_total_of_fix theSite (by rw [site_is_fixed]) (by rw [site_is_fixed]) ci b c p hc

/-- about the *old* source (flags `priorMatrixToArray = false`, `transposeTotalSum = true`,
before the `fix:` commits) only: there the statement failed, with two independent witnesses -/
theorem container_total_old_source_counterexample :
    (¬ ∀ (ci : CallInfo) (b : BuilderId) (c : Container) (p : PriorKind), c.inScope = true →
        ∃ r, builderContainers ⟨false, false, false⟩ ci b c p = .ok r) ∧
    (¬ ∀ (ci : CallInfo) (b : BuilderId) (c : Container) (p : PriorKind), c.inScope = true →
        ∃ r, builderContainers ⟨true, false, true⟩ ci b c p = .ok r) := by
  constructor
  · intro h
    obtain ⟨r, hr⟩ := h ⟨true, true, false⟩ .mle (.spmatrix .csr) .dense rfl
    simp [builderContainers, priorContainer] at hr
  · intro h
    obtain ⟨r, hr⟩ := h ⟨true, true, true⟩ .transpose (.spmatrix .bsr) .none rfl
    simp [builderContainers, priorContainer, transposePair_eq] at hr

/-- full statement: the returned counts are exactly half the symmetrised counts, in every
container and for every dtype (with the divisor literal of the source as read by the
translator) -/
def C04_transpose_counts_full : Prop :=
  ∀ (c : Container) (intDtype : Bool) (x : Rat), c.inScope = true →
    halfEntry (halfTruncates Ens.Generated.BuildersSite.transposeHalfIntLiteral c intDtype) x = x / 2

/-- for an arbitrary source: exact halves except for `lil_matrix`/`dok_matrix` of integer
dtype when the divisor is the integer literal `2` (scipy then keeps the integer dtype and
truncates) -/
theorem transpose_counts_partial (intLiteral : Bool) (c : Container) (intDtype : Bool) (x : Rat)
    (hex : ¬ (intLiteral = true ∧ intDtype = true ∧ (c = .spmatrix .lil ∨ c = .spmatrix .dok))) :
    halfEntry (halfTruncates intLiteral c intDtype) x = x / 2 := by
  have : halfTruncates intLiteral c intDtype = false := by
    unfold halfTruncates
    cases intLiteral <;> cases intDtype <;> simp_all
  simp [halfEntry, this]

/-- with a float divisor (`C_sym / 2.0`) the counts are exact in every container -/
theorem transpose_counts_of_fix (c : Container) (intDtype : Bool) (x : Rat) :
    halfEntry (halfTruncates false c intDtype) x = x / 2 :=
  transpose_counts_partial false c intDtype x (by simp)

/-- **Full statement, for the code as it is** (the source divides by `2.0`) -/
theorem transpose_counts : C04_transpose_counts_full := by
  intro c intDtype x _
  have h : Ens.Generated.BuildersSite.transposeHalfIntLiteral = false := by decide
  rw [h]
  exact transpose_counts_of_fix c intDtype x

/-- about the *old* source (integer literal divisor) only: lil, 23 ↦ 11 ≠ 23/2 -/
theorem transpose_counts_old_source_counterexample :
    ¬ ∀ (c : Container) (intDtype : Bool) (x : Rat), c.inScope = true →
        halfEntry (halfTruncates true c intDtype) x = x / 2 := by
  intro h
  have h1 := h (.spmatrix .lil) true 23 rfl
  have hf : ((23 : Rat) / 2).floor = 11 := by
    show ⌊((23 : Rat) / 2)⌋ = 11
    norm_num [Int.floor_eq_iff]
  simp only [halfTruncates, halfEntry, Bool.and_self, beq_self_eq_true, Bool.true_or,
    if_true, hf] at h1
  norm_num at h1

end C04
