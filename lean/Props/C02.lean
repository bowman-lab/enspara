import Proofs.C02Witness

/-!
# C02 — k-centers is farthest-first, never widens the radius, 2-approximate, stops on cue

All theorems are about `Ens.KC.kcenters` (`Model/KCenters.lean`), the executable model of
`enspara.cluster.kcenters.kcenters` that the correspondence run compares with the real function.
`D f c` is the metric table, `n` the number of frames, `cfg` the keyword arguments
(`n_clusters`, `dist_cutoff`, `init_centers`, `random_first_center`, `use_triangle_inequality`);
`res.trace` lists, per executed loop iteration, (chosen frame, covering radius before it);
`res.radius` is the final covering radius; `none : ERat` is `inf`.
-/
namespace C02
open Ens.KC

/-- frames appended by the loop, in order -/
def chosen (res : Result) : List Nat := res.trace.map Prod.fst

/-- covering radius before each iteration, then the final one -/
def radii (res : Result) : List ERat := res.trace.map Prod.snd ++ [res.radius]

/-! Non-vacuity witnesses use `line5` (`Proofs/C02Witness.lean`): five frames on a line at positions
0, 4, 1, 3, 2 with `D f c = |pos f - pos c|`; `view` is the observable part of a result. -/

/-! ## the None / inf / 0 normalisation of the stopping criteria (kcenters.py L177-189) -/

theorem criteria_normalisation :
    (∀ k q, normalise (.fin k) (.val q) = .ok (some k, some q)) ∧
    (∀ k, normalise (.fin k) .none = .ok (some k, some 0)) ∧
    (∀ k, normalise (.fin k) .inf = .ok (some k, none)) ∧
    (∀ q, normalise .none (.val q) = .ok (none, some q)) ∧
    (∀ q, q ≠ 0 → normalise .npInf (.val q) = .ok (none, some q)) ∧
    normalise .npInf .none = .ok (none, some 0) ∧
    (∀ q, normalise .floatInf (.val q) = .ok (none, some q)) ∧
    normalise .none .none = .error .improperlyConfigured ∧
    normalise .npInf (.val 0) = .error .improperlyConfigured := by
  refine ⟨fun _ _ => rfl, fun _ => rfl, fun _ => rfl, fun _ => rfl, ?_, rfl, fun _ => rfl, rfl, rfl⟩
  intro q hq
  unfold normalise
  rw [if_neg (fun h => hq (Cut.val.inj h.2))]
  rfl

/-- Cold start: the centers are exactly the frames chosen by the loop and the first one is frame 0.
Warm start: the supplied centers stay, in order, at the front of `centers`; `center_indices` starts
with what `find_cluster_centers` returned for them, which is the supplied frames themselves when
these are distinct frames of the data and distinct frames are at positive distance. -/
theorem kcenters_first_center (D : Table) (n : Nat) (cfg : Cfg) (res : Result)
    (h : kcenters D n cfg = .ok res) :
    (cfg.init = none →
      res.st.ctrInds = chosen res ∧ res.st.centers = chosen res ∧
      (∀ c, res.st.ctrInds.head? = some c → c = 0)) ∧
    (∀ cs, cfg.init = some cs →
      res.st.centers = cs ++ chosen res ∧
      res.st.ctrInds = (initState D n (some cs)).ctrInds ++ chosen res ∧
      (GoodInit D n cs → res.st.ctrInds = cs ++ chosen res)) := by
  obtain ⟨nc, cut, _, hn, hrun, _⟩ := kcenters_run h
  obtain ⟨l1, l2⟩ := hrun.lists
  constructor
  · intro hcold
    rw [hcold] at l1 l2 hrun
    refine ⟨l1.trans (List.nil_append _), l2.trans (List.nil_append _), ?_⟩
    intro c hc
    rw [l1] at hc
    -- the first chosen frame is the arg-max of the all-`inf` array
    exact (hrun.head hc).trans (argmaxE_none n)
  · intro cs hwarm
    rw [hwarm] at l1 l2
    exact ⟨l2, l1, fun g => by rw [l1, GoodInit_ctrInds g]; rfl⟩

example : view 5 (kcenters line5 5 { nClusters := .fin 3 }) =
    some ⟨[0, 1, 4], [0, 1, 4], [0, 1, 0, 1, 2], [some 0, some 0, some 1, some 1, some 0],
      [(0, none), (1, some 4), (4, some 2)], some 1⟩ := by decide +kernel
example : GoodInit line5 5 [2, 1] := goodInit_line5 (by decide) (by decide) (by decide)
example : view 5 (kcenters line5 5 { nClusters := .fin 3, init := some [2, 1] }) =
    some ⟨[2, 1, 0], [2, 1, 0], [2, 1, 0, 1, 0], [some 0, some 0, some 0, some 1, some 1],
      [(0, some 1)], some 1⟩ := by decide +kernel

/-- Before the `j`-th executed iteration the state is `sj` (reached by `j` unguarded iterations from
the initial state); the frame chosen then becomes entry number `|initial center_indices| + j` of
`center_indices` (fewer than `|init_centers|` entries come before it when supplied centers repeat), it is a
frame, the recorded radius is its distance, every frame's distance is `≤` it and every earlier
frame's distance is strictly smaller (first index attaining the maximum); without the shortcut
`sj.dist` is the running minimum of the distances to `sj.centers`. -/
theorem kcenters_greedy (D : Table) (n : Nat) (cfg : Cfg) (res : Result)
    (h : kcenters D n cfg = .ok res) (j : Nat) (hj : j < res.trace.length) :
    ∃ sj : St, iterN D n cfg.tri j (initState D n cfg.init) = .ok sj ∧
      sj.ctrInds.length = (initState D n cfg.init).ctrInds.length + j ∧
      res.st.ctrInds[sj.ctrInds.length]? = some (res.trace[j]).1 ∧
      (res.trace[j]).1 < n ∧
      (res.trace[j]).2 = sj.dist (res.trace[j]).1 ∧
      (∀ f, f < n → leE (sj.dist f) (sj.dist (res.trace[j]).1) = true) ∧
      (∀ f, f < (res.trace[j]).1 → ltE (sj.dist f) (sj.dist (res.trace[j]).1) = true) ∧
      (cfg.tri = false → RMin D sj.dist sj.centers) := by
  obtain ⟨nc, cut, _, hn, hrun, _⟩ := kcenters_run h
  obtain ⟨sj, hs, _, he, hci, _⟩ := hrun.before j hj
  have hlen : sj.ctrInds.length = (initState D n cfg.init).ctrInds.length + j := by
    rw [hci, List.length_append, List.length_take, List.length_map, Nat.min_eq_left (Nat.le_of_lt hj)]
  obtain ⟨a1, a2, a3⟩ := argmaxE_spec hn sj.dist
  refine ⟨sj, hs, hlen, ?_, ?_⟩
  · rw [hrun.lists.1, hlen, List.getElem?_append_right (Nat.le_add_right _ _), Nat.add_sub_cancel_left,
      List.getElem?_map, List.getElem?_eq_getElem hj]
    rfl
  · rw [he]
    exact ⟨a1, rfl, a2, a3, fun hp => RMin_iterN _ _ _ (hp ▸ hs)⟩

/-- The greedy rule for `use_triangle_inequality=True`, stated against the **true** running minimum:
for a symmetric table with the triangle inequality on the frames and a cold start or `GoodInit`, the
`j`-th frame chosen by the shortcut run is the first index attaining the maximum of `pj.dist`, where
`pj` is the state of the *plain* algorithm after `j` iterations, whose `dist` is the running minimum
of the distances to the centers chosen so far (the same centers in both runs). -/
theorem kcenters_greedy_shortcut (D : Table) (n : Nat) (cfg : Cfg) (res : Result)
    (symm : ∀ x y, x < n → y < n → D x y = D y x)
    (tri : ∀ x y z, x < n → y < n → z < n → D x z ≤ D x y + D y z)
    (hinit : cfg.init = none ∨ ∃ cs, cfg.init = some cs ∧ GoodInit D n cs)
    (htri : cfg.tri = true) (h : kcenters D n cfg = .ok res) (j : Nat) (hj : j < res.trace.length) :
    ∃ pj : St, iterN D n false j (initState D n cfg.init) = .ok pj ∧
      RMin D pj.dist pj.centers ∧
      pj.centers = (initState D n cfg.init).centers ++ (chosen res).take j ∧
      (res.trace[j]).1 < n ∧
      (res.trace[j]).2 = pj.dist (res.trace[j]).1 ∧
      (∀ f, f < n → leE (pj.dist f) (pj.dist (res.trace[j]).1) = true) ∧
      (∀ f, f < (res.trace[j]).1 → ltE (pj.dist f) (pj.dist (res.trace[j]).1) = true) := by
  obtain ⟨nc, cut, sf, hn, hrun, _⟩ := plain_run symm tri (Or.inr hinit) h
  obtain ⟨pj, hs, _, he, _, hce⟩ := hrun.before j hj
  obtain ⟨a1, a2, a3⟩ := argmaxE_spec hn pj.dist
  rw [he]
  exact ⟨pj, hs, RMin_iterN _ _ _ hs, hce, a1, rfl, a2, a3⟩

theorem radius_antitone (D : Table) (n : Nat) (cfg : Cfg) (res : Result)
    (h : kcenters D n cfg = .ok res) :
    (radii res).Pairwise (fun earlier later => leE later earlier = true) := by
  obtain ⟨nc, cut, _, hn, hrun, hr⟩ := kcenters_run h
  unfold radii
  rw [hr]
  exact (hrun.radii hn).2.imp (fun {a b} hab => (leE_iff b a).mpr hab)

example : radii { st := St.cold, trace := [(0, none), (1, some 4), (4, some 2)], radius := some 1 } =
    [none, some 4, some 2, some 1] := rfl

/-- `S` covers all frames within `R` -/
def Covers (D : Table) (n : Nat) (S : List Nat) (R : Rat) : Prop :=
  ∀ f, f < n → ∃ x ∈ S, D f x ≤ R

/-- The true statement for every start: for a symmetric table with the triangle inequality on the
frames, any stopping criteria, cold or warm start (with the shortcut: cold start or `GoodInit`): if
the loop added `t ≥ 1` centers then the final covering radius is finite and at most twice the
covering radius of **every** set `S` of at most `t` frames (`R` ranges over all radii within which
`S` covers, so in particular the least one).  The `t` added centers and the farthest remaining
frame are `t+1` frames pairwise at least the final radius apart; two of them share a center of `S`. -/
theorem gonzalez_two_approx_added (D : Table) (n : Nat) (cfg : Cfg) (res : Result)
    (symm : ∀ x y, x < n → y < n → D x y = D y x)
    (tri : ∀ x y z, x < n → y < n → z < n → D x z ≤ D x y + D y z)
    (hmode : cfg.tri = false ∨ cfg.init = none ∨ ∃ cs, cfg.init = some cs ∧ GoodInit D n cs)
    (h : kcenters D n cfg = .ok res)
    (S : List Nat) (hSne : S ≠ []) (hS : ∀ x ∈ S, x < n) (hcard : S.length ≤ res.trace.length)
    (R : Rat) (hR : Covers D n S R) :
    ∃ r : Rat, res.radius = some r ∧ r ≤ 2 * R := by
  obtain ⟨nc, cut, sf, hn, hrun, hr⟩ := plain_run symm tri hmode h
  have hlen : sf.centers.length = (initState D n cfg.init).centers.length + res.trace.length := by
    rw [hrun.lists.2, List.length_append, List.length_map]
  have hpos : 0 < S.length := List.length_pos_of_ne_nil hSne
  rw [hr]
  exact FarApart_two_approx hn (FarApart_iterN hn _ _ _ hrun.iterN_final) symm tri S hS
    (by rw [hlen, Nat.add_sub_cancel_left]; exact hcard) R hR
    (by rw [hlen]; exact Nat.lt_add_of_pos_right (Nat.lt_of_lt_of_le hpos hcard))

/-- The property's sentence read for every start: "the final radius is at most twice the optimal
radius for that many centers" with `that many` = all returned centers, supplied ones included.
**False** for warm starts (`gonzalez_two_approx_counterexample`) — and false for every
farthest-first continuation, not a defect of this code: badly placed supplied centers are kept, so
with `n_clusters = |init_centers|` no center is added at all.  What does hold for warm starts is
`gonzalez_two_approx_added` (optimal radius for as many centers as were *added*). -/
def C02_gonzalez_two_approx_full : Prop :=
  ∀ (D : Table) (n : Nat) (cfg : Cfg) (res : Result),
    (∀ x y, x < n → y < n → D x y = D y x) →
    (∀ x y z, x < n → y < n → z < n → D x z ≤ D x y + D y z) →
    (∀ cs, cfg.init = some cs → GoodInit D n cs) →
    kcenters D n cfg = .ok res →
    ∀ (S : List Nat), S ≠ [] → (∀ x ∈ S, x < n) → S.length ≤ res.st.ctrInds.length →
    ∀ (R : Rat), Covers D n S R → ∃ r : Rat, res.radius = some r ∧ r ≤ 2 * R

/-- Cold start (the case Gonzalez' theorem is about): all `m ≥ 1` returned centers count.
Missing w.r.t. `C02_gonzalez_two_approx_full`: warm starts, where the statement is false. -/
theorem gonzalez_two_approx_partial (D : Table) (n : Nat) (cfg : Cfg) (res : Result)
    (symm : ∀ x y, x < n → y < n → D x y = D y x)
    (tri : ∀ x y z, x < n → y < n → z < n → D x z ≤ D x y + D y z)
    (hcold : cfg.init = none) (h : kcenters D n cfg = .ok res)
    (S : List Nat) (hSne : S ≠ []) (hS : ∀ x ∈ S, x < n) (hcard : S.length ≤ res.st.ctrInds.length)
    (R : Rat) (hR : Covers D n S R) :
    ∃ r : Rat, res.radius = some r ∧ r ≤ 2 * R := by
  have hlen : res.st.ctrInds.length = res.trace.length := by
    rw [((kcenters_first_center D n cfg res h).1 hcold).1, chosen, List.length_map]
  exact gonzalez_two_approx_added D n cfg res symm tri (Or.inr (Or.inl hcold)) h S hSne hS
    (hlen ▸ hcard) R hR

/-- Witness: `line5`, supplied centers = frames 0 and 2 (positions 0 and 1), `n_clusters = 2`: no
center is added, the radius stays 3, but frames 2 and 3 (positions 1 and 3) cover within 1. -/
theorem gonzalez_two_approx_counterexample : ¬ C02_gonzalez_two_approx_full := by
  intro hfull
  have hv : view 5 (kcenters line5 5 { nClusters := .fin 2, init := some [0, 2] }) =
      some ⟨[0, 2], [0, 2], [0, 1, 1, 1, 1], [some 0, some 3, some 0, some 2, some 1], [],
        some 3⟩ := by decide +kernel
  obtain ⟨res, hk, hci, hrad⟩ := view_eq_some hv
  obtain ⟨r, hr, hle⟩ := hfull line5 5 { nClusters := .fin 2, init := some [0, 2] } res
    (fun x y _ _ => lineTable_symm _ x y) (fun x y z _ _ _ => lineTable_tri _ x y z)
    (fun cs hcs => Option.some.inj hcs ▸ goodInit_line5 (by decide) (by decide) (by decide))
    hk [2, 3] (by decide) (by decide) (by rw [hci]; decide) 1 (by unfold Covers; decide +kernel)
  rw [hrad] at hr
  injection hr with hr
  rw [← hr] at hle
  exact absurd hle (by decide +kernel)

/-- warm start where `gonzalez_two_approx_added` applies: from frames 0 and 2 two centers are added -/
example : view 5 (kcenters line5 5 { nClusters := .fin 4, init := some [0, 2] }) =
    some ⟨[0, 2, 1, 3], [0, 2, 1, 3], [0, 2, 1, 3, 1], [some 0, some 0, some 0, some 0, some 1],
      [(1, some 3), (3, some 1)], some 1⟩ := by decide +kernel

example : (∀ x y, x < 5 → y < 5 → line5 x y = line5 y x) ∧
    (∀ x y z, x < 5 → y < 5 → z < 5 → line5 x z ≤ line5 x y + line5 y z) ∧
    Covers line5 5 [4, 0] 2 := by
  refine ⟨fun x y _ _ => lineTable_symm _ x y, fun x y z _ _ _ => lineTable_tri _ x y z, ?_⟩
  unfold Covers; decide +kernel

/-- With `(nc, cut)` the normalised criteria (`none` = no bound / `inf`): the number of centers is
the initial number plus the number of iterations; before every executed iteration the count was
still below `n_clusters` **and** the radius still above the cutoff (not late); at the end the count
has reached `n_clusters` or the radius is `≤` the cutoff (not early); the count is never overshot
once an iteration ran; and no iteration runs exactly when the guard already fails on the initial
state, in which case that state is returned unchanged (the zero-iteration case). -/
theorem kcenters_stops_exactly (D : Table) (n : Nat) (cfg : Cfg) (res : Result)
    (h : kcenters D n cfg = .ok res) :
    ∃ (nc : Option Int) (cut : ERat), normalise cfg.nClusters cfg.cutoff = .ok (nc, cut) ∧
      res.st.ctrInds.length = (initState D n cfg.init).ctrInds.length + res.trace.length ∧
      (∀ j (hj : j < res.trace.length),
        (∀ k, nc = some k → (((initState D n cfg.init).ctrInds.length + j : Nat) : Int) < k) ∧
        ltE cut (res.trace[j]).2 = true) ∧
      ((∃ k, nc = some k ∧ k ≤ (res.st.ctrInds.length : Int)) ∨ leE res.radius cut = true) ∧
      (∀ k, nc = some k → res.trace ≠ [] → (res.st.ctrInds.length : Int) ≤ k) ∧
      (res.trace = [] ↔ guard nc cut n (initState D n cfg.init) = false) ∧
      (res.trace = [] → res.st = initState D n cfg.init) := by
  obtain ⟨nc, cut, hnorm, hn, hrun, hr⟩ := kcenters_run h
  have hlen : res.st.ctrInds.length = (initState D n cfg.init).ctrInds.length + res.trace.length := by
    rw [hrun.lists.1, List.length_append, List.length_map]
  have hlate : ∀ j (hj : j < res.trace.length),
      (∀ k, nc = some k → (((initState D n cfg.init).ctrInds.length + j : Nat) : Int) < k) ∧
      ltE cut (res.trace[j]).2 = true := by
    intro j hj
    obtain ⟨sj, _, hg, he, hci, _⟩ := hrun.before j hj
    rw [guard_iff, hci, List.length_append, List.length_take, List.length_map,
      Nat.min_eq_left (Nat.le_of_lt hj)] at hg
    exact ⟨hg.1, by rw [he, ltE_iff]; exact hg.2⟩
  refine ⟨nc, cut, hnorm, hlen, hlate, ?_, ?_, hrun.nil.1, hrun.nil.2⟩
  · rcases (guard_false_iff _ _ _ _).mp hrun.guard_final with hgf | hgf
    · exact Or.inl hgf
    · exact Or.inr (by rw [hr, leE_iff]; exact hgf)
  · intro k hk hne
    have hpos : 0 < res.trace.length := List.length_pos_of_ne_nil hne
    have := (hlate (res.trace.length - 1) (Nat.sub_lt hpos Nat.one_pos)).1 k hk
    rw [hlen, ← Nat.sub_add_cancel hpos, ← Nat.add_assoc, Nat.cast_succ]
    exact Int.add_one_le_of_lt this

example : view 5 (kcenters line5 5 { nClusters := .fin 4, cutoff := .val 1 }) =
    some ⟨[0, 1, 4], [0, 1, 4], [0, 1, 0, 1, 2], [some 0, some 0, some 1, some 1, some 0],
      [(0, none), (1, some 4), (4, some 2)], some 1⟩ := by decide +kernel
/-- zero iterations: `n_clusters = 0` returns the untouched cold state -/
example : view 3 (kcenters line5 3 { nClusters := .fin 0 }) =
    some ⟨[], [], [-1, -1, -1], [none, none, none], [], none⟩ := by decide +kernel

/-- The usual reading "`kcenters` with `n_clusters = k` is within twice the best `k` centers", for a cold
start: if the normalised criteria are `(k, q)` then for every set `S` of at most `k` frames the final radius is
at most `max (2·R) q` (with `n_clusters` only, `q = 0`): the run either reached `k` centers or
stopped because the radius was already `≤ q`. -/
theorem gonzalez_two_approx_n_clusters_partial (D : Table) (n : Nat) (cfg : Cfg) (res : Result)
    (symm : ∀ x y, x < n → y < n → D x y = D y x)
    (tri : ∀ x y z, x < n → y < n → z < n → D x z ≤ D x y + D y z)
    (hcold : cfg.init = none) (h : kcenters D n cfg = .ok res)
    (k : Int) (q : Rat) (hnorm : normalise cfg.nClusters cfg.cutoff = .ok (some k, some q))
    (S : List Nat) (hSne : S ≠ []) (hS : ∀ x ∈ S, x < n) (hcard : (S.length : Int) ≤ k)
    (R : Rat) (hR : Covers D n S R) :
    ∃ r : Rat, res.radius = some r ∧ r ≤ max (2 * R) q := by
  obtain ⟨nc, cut, hnorm', _, hrun, hr⟩ := kcenters_run h
  cases hnorm.symm.trans hnorm'
  -- the loop ended because `k` centers were reached, or because the radius was within `q`
  rcases (guard_false_iff _ _ _ _).mp hrun.guard_final with ⟨k', hk', hle⟩ | hle
  · cases hk'
    obtain ⟨r, hr', hle'⟩ := gonzalez_two_approx_partial D n cfg res symm tri hcold h S hSne hS
      (Int.ofNat_le.mp (le_trans hcard hle)) R hR
    exact ⟨r, hr', le_trans hle' (le_max_left _ _)⟩
  · rw [← hr] at hle
    cases hrad : res.radius with
    | none => rw [hrad] at hle; exact absurd hle (WithTop.not_top_le_coe q)
    | some r =>
      rw [hrad] at hle
      exact ⟨r, rfl, le_trans (WithTop.coe_le_coe.mp hle) (le_max_right _ _)⟩

/-- When `n_clusters` is finite, or (plain algorithm, or the shortcut under the hypotheses of
`triangle_shortcut_same_partial`) the cutoff is finite and every frame is
within the cutoff of itself (`D c c ≤ cutoff`, e.g. `D c c = 0 ≤ cutoff`), the model's default fuel
is never exhausted and any larger fuel gives the same answer: the `while` loop terminates, after at
most `n_clusters - |initial center_indices|` resp. `n` iterations. -/
theorem kcenters_terminates (D : Table) (n : Nat) (cfg : Cfg) (nc : Option Int) (cut : ERat)
    (hnorm : normalise cfg.nClusters cfg.cutoff = .ok (nc, cut))
    (hyp : (∃ k, nc = some k) ∨
      ((cfg.tri = false ∨
          ((∀ x y, x < n → y < n → D x y = D y x) ∧
           (∀ x y z, x < n → y < n → z < n → D x z ≤ D x y + D y z) ∧
           (cfg.init = none ∨ ∃ cs, cfg.init = some cs ∧ GoodInit D n cs))) ∧
        ∃ q, cut = some q ∧ ∀ c, c < n → D c c ≤ q)) :
    kcenters D n cfg ≠ .error .outOfFuel ∧
    ∀ extra, kcentersFuel D n cfg (some (fuelFor n nc (initState D n cfg.init) + extra)) =
      kcenters D n cfg := by
  rw [kcenters]
  rcases kcentersFuel_cases D n cfg with ⟨e, hne, he⟩ | ⟨nc', cut', hnorm', hn, hl⟩
  · have h1 : ∀ fuel, kcentersFuel D n cfg fuel = .error e := he cfg.tri
    exact ⟨by rw [h1]; exact fun hc => hne (Except.error.inj hc), fun _ => by rw [h1, h1]⟩
  · have h1 := hl cfg.tri
    injection hnorm.symm.trans hnorm' with hp
    injection hp with e1 e2
    subst e1 e2
    have hno := fuelFor_enough hn cfg nc cut hyp
    refine ⟨?_, fun extra => ?_⟩
    · rw [show kcentersFuel D n cfg none = _ from h1 none]
      intro hc
      cases hloop : loop D n cfg.tri nc cut (fuelFor n nc (initState D n cfg.init))
          (initState D n cfg.init) with
      | error e => rw [Option.getD_none, hloop] at hc; injection hc with hc; exact hno (hc ▸ hloop)
      | ok r => rw [Option.getD_none, hloop] at hc; cases hc
    · rw [show kcentersFuel D n cfg none = _ from h1 none,
        show kcentersFuel D n cfg (some _) = _ from h1 (some _)]
      exact congrArg _ (loop_fuel_add extra _ _ hno)

example : normalise .npInf (.val 1) = .ok (none, some 1) ∧ (∀ c, c < 5 → line5 c c ≤ 1) :=
  ⟨by decide, by decide⟩
example : view 5 (kcenters line5 5 { cutoff := .val 1 }) =
    some ⟨[0, 1, 4], [0, 1, 4], [0, 1, 0, 1, 2], [some 0, some 0, some 1, some 1, some 0],
      [(0, none), (1, some 4), (4, some 2)], some 1⟩ := by decide +kernel

/-- The property as stated: for every table that is symmetric with the triangle inequality on all
ids `< m` in play (the `n ≤ m` frames and the supplied initial centers), whatever the initial
centers, both settings of `use_triangle_inequality` give the same result.  **False** for the code
as it is (`triangle_shortcut_same_counterexample`): `kcenters.py` L288 measures the new center
against `traj[center_inds]`, the frames *nearest to* the supplied centers, not against the supplied
centers themselves, so a supplied center that is not a frame of the data breaks the pruning. -/
def C02_triangle_shortcut_same_full : Prop :=
  ∀ (D : Table) (n m : Nat) (cfg : Cfg), n ≤ m →
    (∀ x y, x < m → y < m → D x y = D y x) →
    (∀ x y z, x < m → y < m → z < m → D x z ≤ D x y + D y z) →
    (∀ cs, cfg.init = some cs → ∀ c ∈ cs, c < m) →
    ResAgree n (kcenters D n { cfg with tri := false }) (kcenters D n { cfg with tri := true })

/-- What holds: for a symmetric table with the triangle inequality on the frames, a cold start or a
warm start from distinct data frames at positive mutual distance (`GoodInit`):
`use_triangle_inequality=True` and `False` return the same center indices, centers, trace and
radius, and the same label and distance for every frame (or raise the same error).
Missing w.r.t. the full statement: initial centers that are not frames of the data (false, see the
counterexample) and initial centers that coincide (`D = 0`) or repeat. -/
theorem triangle_shortcut_same_partial (D : Table) (n : Nat) (cfg : Cfg)
    (symm : ∀ x y, x < n → y < n → D x y = D y x)
    (tri : ∀ x y z, x < n → y < n → z < n → D x z ≤ D x y + D y z)
    (hinit : cfg.init = none ∨ ∃ cs, cfg.init = some cs ∧ GoodInit D n cs) :
    ResAgree n (kcenters D n { cfg with tri := false }) (kcenters D n { cfg with tri := true }) :=
  kcenters_tri_agree D n cfg symm tri hinit

section
-- kept from unfolding: the elaborator would normalise `ResAgree n a b` for concrete calls, running both
attribute [local irreducible] ResAgree

example : view 5 (kcenters line5 5 { nClusters := .fin 4, tri := true }) =
    view 5 (kcenters line5 5 { nClusters := .fin 4, tri := false }) :=
  (ResAgree_view (triangle_shortcut_same_partial line5 5 { nClusters := .fin 4 }
    (fun x y _ _ => lineTable_symm _ x y) (fun x y z _ _ _ => lineTable_tri _ x y z) (Or.inl rfl))).symm
example : ResAgree 5 (kcenters line5 5 { nClusters := .fin 4, tri := false })
    (kcenters line5 5 { nClusters := .fin 4, tri := true }) :=
  triangle_shortcut_same_partial line5 5 { nClusters := .fin 4 }
    (fun x y _ _ => lineTable_symm _ x y) (fun x y z _ _ _ => lineTable_tri _ x y z) (Or.inl rfl)

/-- Witness: points on a line at 0, 1, 3, 2; the data are frames 0, 1, 2 and the supplied initial
center is point 3 (at 2, not in the data); `n_clusters = 4`.  Plain: every frame ends at distance 0.
Shortcut: frame 2 becomes a center but keeps distance 1 to the supplied center. -/
theorem triangle_shortcut_same_counterexample : ¬ C02_triangle_shortcut_same_full := by
  intro h
  have h1 := h lineOff 3 4 { nClusters := .fin 4, init := some [3] } (by decide)
    (fun x y _ _ => lineTable_symm _ x y) (fun x y z _ _ _ => lineTable_tri _ x y z)
    (by intro cs hcs c hc; injection hcs with hcs; subst hcs; simp at hc; omega)
  have h2 := ResAgree_view h1
  revert h2
  decide +kernel

end

example : view 3 (kcenters lineOff 3 { nClusters := .fin 4, init := some [3], tri := true }) =
    some ⟨[1, 0, 1, 2], [3, 0, 1, 2], [1, 2, 0], [some 0, some 0, some 1],
      [(0, some 2), (1, some 1), (2, some 1)], some 1⟩ := by decide +kernel

end C02
