import Model.Masked
import Model.Generated.UfuncSites
import Proofs.C19
import Proofs.C13Spec
import Proofs.C18Jc
/-!
C19 — results depend on arguments only, not on history, threads or heap contents.

THE PROPERTY (`C19_arguments_only_full`, NOT asserted): for every numerical routine of the library,
under its real execution semantics, the value is a function of the arguments alone — whatever the
heap held, however the OpenMP iterations interleave, however many threads / worker processes run,
whatever was computed before — and no argument is modified unless documented in place.  There is no
Lean semantics of CPython, numpy, the C runtime or the OS scheduler, so this is not a theorem.

WHAT IS PROVED (each an instance of one clause for executable models of the code):
* heap clause       — `heap_clause_modelled_partial` : the models of the masked-ufunc routines, of the
                      libdist wrappers and of `matrix_bincount2d` satisfy the property when the world is
                      the heap (every allocation receives arbitrary previous content);
                      supporting statements: `masked_ufunc_garbage_independent` (both directions),
                      `shannon_entropy_eq_spec`, `*_out_independent_of_initial`, `bincount_*`.
* thread clause     — `thread_clause_libdist_partial`, `thread_clause_libdist_initial_partial`,
                      `thread_clause_joint_counts_partial`: word for word the statements of
                      `C13.interleaving_independent`, `C13.out_independent_of_initial` and
                      `C18.jc_interleaving` (other models of the same kernels, with schedules), proved from
                      the same lemmas of Proofs/C13*, Proofs/C18Jc.  They are imported at the Proofs level,
                      not through Props/C13, Props/C18, so that those properties' own source obligations
                      (`decide`s over their generated tables) do not gate this file.
* source obligations — `all_sites_initialised`, `all_alloc_sites_initialised`,
                      `all_accumulators_initialised`, `all_accumulators_single_writer`: `decide`d over tables
                      regenerated from the source on every run; they tie the heap clause to what the code
                      contains today.
CORRESPONDENCE-ONLY (no model, sampled by harness/props/c19.py): "no routine modifies an array passed to
it" (argument byte snapshots; the models are pure functions, so the second conjunct of `ArgumentsOnly`
holds for them by construction and says nothing about the code), worker-process-count independence,
call-history independence (memo / module state), every routine without a model here, and that the
interpreter and C runtime read no uninitialised memory elsewhere.
-/
namespace C19
open Ens.Masked Ens.Generated.UfuncSites

/-- The property, for a library given as routines under an execution semantics with world `W`
(heap × schedule × worker count × call history for the real library).  Unasserted. -/
def C19_arguments_only_full {W : Type} (lib : List (Routine W)) : Prop :=
  ∀ r ∈ lib, ArgumentsOnly r

/-- what every allocation of one execution may find in its block, per element type -/
structure Heap where
  rat : Nat → Rat
  fv : Nat → FV
  nat : Nat → Nat

/-- `np.<ufunc>(args, where=mask, out=np.zeros(shape))` as the six call sites in the source are written -/
def maskedRoutine (f : Rat → Rat) : Routine Heap where
  Args := List Bool × List Rat
  Val := Except Err (List Rat)
  run := fun w a => (maskedApply f a.1 a.2 (some (npFull 0 a.2.length w.rat)) (npEmpty a.2.length w.rat), a)
  inPlace := false

def shannonRoutine (lg : Rat → FV) : Routine Heap where
  Args := List Rat
  Val := Except Err FV
  run := fun w p => (shannonEntropy lg p w.fv, p)
  inPlace := false

/-- libdist wrappers; `out` is documented as the place the distances are written to -/
def manhattanRoutine : Routine Heap where
  Args := List (List Rat) × Nat × List Rat × Option (List Rat)
  Val := Except Err (List Rat)
  run := fun w a => (manhattan a.1 a.2.1 a.2.2.1 a.2.2.2 w.rat, a)
  inPlace := true

def bincountRoutine : Routine Heap where
  Args := List (List Int) × Nat × List (List Int) × Nat × Nat × Nat
  Val := Except Err (List (List (List (List Nat))))
  run := fun w a => (matrixBincount2d a.1 a.2.1 a.2.2.1 a.2.2.2.1 a.2.2.2.2.1 a.2.2.2.2.2 w.nat, a)
  inPlace := false

def modelledRoutines (f : Rat → Rat) (lg : Rat → FV) : List (Routine Heap) :=
  [maskedRoutine f, shannonRoutine lg, manhattanRoutine, bincountRoutine]

def heap0 : Heap := ⟨fun _ => 0, fun _ => some 0, fun _ => 0⟩

/-- HEAP CLAUSE, PARTIAL: the modelled routines are functions of their arguments whatever every
allocation finds in its block.  (Missing for the full property: schedules, worker counts, call history,
the remaining routines, and the correspondence between these models and the code.) -/
theorem heap_clause_modelled_partial (f : Rat → Rat) (lg : Rat → FV) : C19_arguments_only_full (modelledRoutines f lg) := by
  intro r hr
  simp only [modelledRoutines, List.mem_cons, List.mem_nil_iff, or_false] at hr
  rcases hr with rfl | rfl | rfl | rfl
  · exact argumentsOnly_of_world_independent _ heap0
      (fun w (a : List Bool × List Rat) =>
        maskedApply_npFull_independent f a.1 a.2 0 w.rat heap0.rat
          (npEmpty a.2.length w.rat) (npEmpty a.2.length heap0.rat))
      (fun _ _ => rfl)
  · exact argumentsOnly_of_world_independent _ heap0
      (fun w (p : List Rat) =>
        (shannonEntropy_eq_spec lg p w.fv).trans (shannonEntropy_eq_spec lg p heap0.fv).symm)
      (fun _ _ => rfl)
  · exact argumentsOnly_of_world_independent _ heap0
      (fun w (a : List (List Rat) × Nat × List Rat × Option (List Rat)) =>
        wrapper_heap_independent _ (manhattanKernel_congr a.1 a.2.1 a.2.2.1)
          a.1 a.2.1 a.2.2.1 a.2.2.2 w.rat heap0.rat)
      (fun _ _ => rfl)
  · exact argumentsOnly_of_world_independent _ heap0
      (fun w (a : List (List Int) × Nat × List (List Int) × Nat × Nat × Nat) =>
        matrixBincount2d_heap_independent _ _ _ _ _ _ w.nat heap0.nat)
      (fun _ _ => rfl)

/-- THREAD CLAUSE for libdist (C13's model of the same kernels, with schedules): every interleaving of
the rows' step sequences — any thread count, any assignment of iterations to threads, any preemption —
leaves the buffer the sequential loop leaves. -/
theorem thread_clause_libdist_partial {ε} (k : Ens.Dist.Kernel) (term : ε → ε → Rat) (rows : List (List ε)) (ys : List ε) (offset stride : Int) (buf : Nat → Ens.Dist.Cell) (hpos : ∀ i, i < rows.length → 0 ≤ Ens.Dist.idx1 offset stride i) (hs : stride ≠ 0 ∨ rows.length ≤ 1) (e : Ens.Sched.Exec Ens.Dist.Cell) (he : Ens.Sched.IsInterleaving (Ens.Dist.progsOf k term rows ys) e) : Ens.Dist.runMem offset stride e buf = Ens.Dist.runMem offset stride (Ens.Sched.seqExec (Ens.Dist.progsOf k term rows ys)) buf :=
  Ens.Dist.runMem_progsOf_eq_seq k term rows ys offset stride buf hpos hs e he

/-- THREAD + HEAP CLAUSE for libdist with a caller-supplied `out`: two runs under two arbitrary
schedules, started from two arbitrary buffer contents, agree on every cell of the result. -/
theorem thread_clause_libdist_initial_partial {ε} (k : Ens.Dist.Kernel) (term : ε → ε → Rat) (X y : Ens.Dist.Arr ε) (out1 out2 : Ens.Dist.Arr Ens.Dist.Cell) (choices1 choices2 : List Nat) (r1 r2 : Ens.Dist.Result) (hoff : out1.offset = out2.offset) (hsh : out1.shape = out2.shape) (hst : out1.strides = out2.strides) (h1 : Ens.Dist.kernelRun k term X y out1 choices1 = .ok r1) (h2 : Ens.Dist.kernelRun k term X y out2 choices2 = .ok r2) : ∃ n so, out1.shape = [n] ∧ out1.strides = [so] ∧ ∀ i, i < n → r1.buf[Ens.Dist.outPos out1.offset so i]? = r2.buf[Ens.Dist.outPos out1.offset so i]? ∧ (r1.buf[Ens.Dist.outPos out1.offset so i]?).isSome :=
  Ens.Dist.kernelRun_init_independent k term X y out1 out2 choices1 choices2 r1 r2 hoff hsh hst h1 h2

/-- THREAD CLAUSE for `libinfo.matrix_bincount2d` (C18's model): every interleaving of the `prange`
iterations computes the table of the sequential triple loop. -/
theorem thread_clause_joint_counts_partial (a b : Ens.Info.Arr) (e : Ens.Sched.Exec Ens.Info.Slab) (h : Ens.Sched.IsInterleaving (Ens.Info.progs a b) e) : Ens.Sched.run e (fun _ => Ens.Info.zeroSlab) = Ens.Sched.run (Ens.Info.seqExec a b) (fun _ => Ens.Info.zeroSlab) :=
  Ens.Info.jc_interleaving_core a b e h

/-- Both directions, each a statement about what the allocator handed out (`g`, `h` : content of the
blocks).  (a) `out=np.full(z)` (np.zeros): the same result for all heap contents.  (b) no `out`, or
`out=np.empty(..)`: for a mask of the operands' length and two distinct values, the result is the same for
all heap contents iff no cell is masked out. -/
theorem masked_ufunc_garbage_independent {α β} (f : α → β) (mask : List Bool) (args : List α) (z : β) : (∀ (g1 g2 : Nat → β) (h1 h2 : List β), maskedApply f mask args (some (npFull z args.length g1)) h1 = maskedApply f mask args (some (npFull z args.length g2)) h2) ∧ (mask.length = args.length → ∀ b1 b2 : β, b1 ≠ b2 → ((∀ g1 g2 : List β, g1.length = args.length → g2.length = args.length → maskedApply f mask args none g1 = maskedApply f mask args none g2) ↔ ∀ m ∈ mask, m = true)) :=
  ⟨maskedApply_npFull_independent f mask args z, fun hm b1 b2 hb => maskedApply_none_independent_iff f mask args hm b1 b2 hb⟩

/-- the explicit witness of direction (b): a masked-out cell and two constant heaps give two results,
both for the call without `out` and for `out=np.empty(..)` -/
theorem masked_ufunc_without_out_two_results {α β} (f : α → β) (mask : List Bool) (args : List α) (hm : mask.length = args.length) (hf : false ∈ mask) (b1 b2 : β) (hb : b1 ≠ b2) : maskedApply f mask args none (npEmpty args.length (fun _ => b1)) ≠ maskedApply f mask args none (npEmpty args.length (fun _ => b2)) ∧ ∀ h1 h2 : List β, maskedApply f mask args (some (npEmpty args.length (fun _ => b1))) h1 ≠ maskedApply f mask args (some (npEmpty args.length (fun _ => b2))) h2 := by
  rw [npEmpty_const, npEmpty_const]
  have key := maskedCells_some_false f b1 b2 hb mask args hm hf
  refine ⟨?_, fun h1 h2 => ?_⟩
  · rw [maskedApply_none_ok f mask args _ hm List.length_replicate, maskedApply_none_ok f mask args _ hm List.length_replicate]
    exact fun h => key (Except.ok.inj h)
  · rw [maskedApply_some_ok f mask args _ h1 hm List.length_replicate, maskedApply_some_ok f mask args _ h2 hm List.length_replicate]
    exact fun h => key (Except.ok.inj h)

/-- what each cell of the result holds -/
theorem masked_cell_spec {α β} (f : α → β) (mask : List Bool) (args : List α) (buf : List β) (i : Nat) (m : Bool) (a : α) (b : β) (hm : mask[i]? = some m) (ha : args[i]? = some a) (hb : buf[i]? = some b) : (maskedCells f mask args buf)[i]? = some (if m then f a else b) :=
  maskedCells_getElem? f mask args buf i m a b hm ha hb

-- non-vacuity: the hypotheses are satisfiable and the two directions really differ
example : ok? (maskedApply (fun x : Int => x + 1) [true, false] [10, 20] none (npEmpty 2 (fun _ => 7)))
    = some [11, 7] := by decide +kernel
example : ok? (maskedApply (fun x : Int => x + 1) [true, false] [10, 20] none (npEmpty 2 (fun k => 7 + 2 * k)))
    = some [11, 9] := by decide +kernel
example : ok? (maskedApply (fun x : Int => x + 1) [true, false] [10, 20] (some (npFull 0 2 (fun k => 7 + 2 * k))) [])
    = some [11, 0] := by decide +kernel
example : ok? (maskedApply (fun x : Int => x + 1) [true, false] [10, 20] (some (npEmpty 2 (fun k => 7 + 2 * k))) [])
    = some [11, 9] := by decide +kernel
example : err? (maskedApply (fun x : Int => x + 1) [true] [10, 20] none [7, 9])
    = some .shapeMismatch := by decide +kernel

/-! ### (ii) obligations regenerated from the source on every run -/

/-- every call that carries `where=` (or may carry it in a `**` splat) and is not provably a non-ufunc
passes an `out=` that is recognisably an initialised buffer (zeros / ones / full / copy …, or a name whose
every binding in the function is one); `.pyx` files are scanned textually -/
theorem all_sites_initialised : ∀ s ∈ sites, s.hasOut = true := by decide

/-- allocations whose initialisation the translator cannot recognise, reviewed by hand:
`mpi/io.py load_npy_as_striped local_data` — filled by consecutive slice writes `local_data[start:end] = …`
whose offsets are chained (`start = end`) and closed by `assert end == len(local_data)` -/
def reviewedAllocs : List (String × String × String) :=
  [("enspara/mpi/io.py", "load_npy_as_striped", "local_data")]

/-- every `np.empty` / `empty_like` / `ndarray(` allocation in enspara/**/*.py and *.pyx is followed by a
recognised total initialisation (`.fill`, `[:] =`, the index loop over its length, an MPI receive-type
collective as the first use, object dtype) or is in the reviewed list above -/
theorem all_alloc_sites_initialised : ∀ s ∈ allocSites, s.init ≠ InitKind.uninitialised ∨ (s.file, s.func, s.target) ∈ reviewedAllocs := by decide +kernel

/-- in every `.pyx` kernel, every buffer that is accumulated into (`b[i] op= …` or `b[i] = b[i] op …`) got
defined content first: zeroed over the same full iteration space and not under a condition, allocated by
`np.zeros`, or bound to a computed array -/
theorem all_accumulators_initialised : ∀ s ∈ accumSites, s.init ≠ AccumInit.uninitialised := by decide

/-- thread clause, source side: every accumulation inside a parallel region has ONE writer per cell — each
`prange` variable enclosing it is a component of the accumulated index, the first one (the position the
C13 / C18 interleaving models assume: `out[i]`, `jc[a_row, …]`); no accumulation sits under a `prange` over a
variable absent from its index (interchanged loops, a `prange` moved to the frame loop) -/
theorem all_accumulators_single_writer : ∀ s ∈ accumSites, s.owner = Owner.serial ∨ s.owner = Owner.ownedAt0 := by decide

/-- the code as it is equals the fixed function `-Σ_{p_i>0} p_i·log p_i` for every heap -/
theorem shannon_entropy_eq_spec (lg : Rat → FV) (p : List Rat) (g : Nat → FV) : shannonEntropy lg p g = .ok (entropySpec lg p) :=
  shannonEntropy_eq_spec lg p g

theorem shannon_entropy_heap_independent (lg : Rat → FV) (p : List Rat) (g1 g2 : Nat → FV) : shannonEntropy lg p g1 = shannonEntropy lg p g2 := by
  rw [shannonEntropy_eq_spec, shannonEntropy_eq_spec]

/-- without `out=` (the code before the fix): as soon as one probability is not positive and the
logarithm is finite on positives, a NaN-filled recycled block and the specified value differ -/
theorem shannon_entropy_without_out_depends_on_heap (lg : Rat → FV) (p : List Rat) (hlg : ∀ x, 0 < x → (lg x).isSome) (hz : ∃ x ∈ p, ¬ 0 < x) : shannonEntropyNoOut lg p (fun _ => none) ≠ .ok (entropySpec lg p) := by
  rw [shannonEntropyNoOut_nan lg p hz]
  intro h
  have hs := entropySpec_isSome lg p hlg
  rw [← Except.ok.inj h] at hs
  cases hs

-- the DESIGN.md witness `p = [.5, .5, 0, 0]`: zeros in the heap give the right value, NaNs give NaN
example : ok? (shannonEntropyNoOut (fun _ => some (-1)) [1/2, 1/2, 0, 0] (fun _ => some 0))
    = some (some 1) := by decide +kernel
example : ok? (shannonEntropyNoOut (fun _ => some (-1)) [1/2, 1/2, 0, 0] (fun _ => none))
    = some none := by decide +kernel
example : ok? (shannonEntropy (fun _ => some (-1)) [1/2, 1/2, 0, 0] (fun _ => none))
    = some (some 1) := by decide +kernel

/-- `libdist.manhattan(X, y, out=o)`: the previous content of `o` (and of the heap) is irrelevant … -/
theorem manhattan_out_independent_of_initial (X : List (List Rat)) (ncols : Nat) (y o1 o2 : List Rat) (g1 g2 : Nat → Rat) (h : o1.length = o2.length) : manhattan X ncols y (some o1) g1 = manhattan X ncols y (some o2) g2 :=
  wrapper_congr _ (manhattanKernel_congr X ncols y) X ncols y o1 o2 g1 g2 h

/-- … and equals the call that lets the routine allocate, whatever that allocation finds -/
theorem manhattan_out_eq_fresh (X : List (List Rat)) (ncols : Nat) (y o : List Rat) (g1 g2 : Nat → Rat) (h : o.length = X.length) : manhattan X ncols y (some o) g1 = manhattan X ncols y none g2 :=
  wrapper_none _ (manhattanKernel_congr X ncols y) X ncols y o g1 g2 h

theorem euclidean_out_independent_of_initial (sqrtF : Rat → Rat) (X : List (List Rat)) (ncols : Nat) (y o1 o2 : List Rat) (g1 g2 : Nat → Rat) (h : o1.length = o2.length) : euclidean sqrtF X ncols y (some o1) g1 = euclidean sqrtF X ncols y (some o2) g2 :=
  wrapper_congr _ (euclideanKernel_congr sqrtF X ncols y) X ncols y o1 o2 g1 g2 h

theorem euclidean_out_eq_fresh (sqrtF : Rat → Rat) (X : List (List Rat)) (ncols : Nat) (y o : List Rat) (g1 g2 : Nat → Rat) (h : o.length = X.length) : euclidean sqrtF X ncols y (some o) g1 = euclidean sqrtF X ncols y none g2 :=
  wrapper_none _ (euclideanKernel_congr sqrtF X ncols y) X ncols y o g1 g2 h

theorem hamming_out_independent_of_initial (X : List (List Rat)) (ncols : Nat) (y o1 o2 : List Rat) (g1 g2 : Nat → Rat) (h : o1.length = o2.length) : hamming X ncols y (some o1) g1 = hamming X ncols y (some o2) g2 :=
  wrapper_congr _ (hammingKernel_congr X ncols y) X ncols y o1 o2 g1 g2 h

theorem hamming_out_eq_fresh (X : List (List Rat)) (ncols : Nat) (y o : List Rat) (g1 g2 : Nat → Rat) (h : o.length = X.length) : hamming X ncols y (some o) g1 = hamming X ncols y none g2 :=
  wrapper_none _ (hammingKernel_congr X ncols y) X ncols y o g1 g2 h

-- non-vacuity: a real distance comes out, whatever was in `out` / the heap; and the `+=` loop alone
-- (the kernel with its zeroing loop removed) does depend on the previous content
example : ok? (manhattan [[1, 2], [3, 5]] 2 [0, 1] (some [100, -7]) (fun _ => 3))
    = some [2, 7] := by decide +kernel
example : ok? (manhattan [[1, 2], [3, 5]] 2 [0, 1] none (fun k => 50 + k))
    = some [2, 7] := by decide +kernel
example : ok? (hamming [[1, 2], [0, 1]] 2 [0, 1] (some [100, -7]) (fun _ => 3))
    = some [some 1, some 0] := by decide +kernel
example : ok? (hamming [[], []] 0 [] none (fun _ => 3))
    = some [none, none] := by decide +kernel
example : accumulate (fun x yj => absR (x - yj)) [[1, 2], [3, 5]] [0, 1] [100, -7] = [102, 0] := by decide +kernel
example : err? (manhattan [[1, 2]] 2 [0, 1] (some [1, 2]) (fun _ => 0))
    = some .dataInvalid := by decide +kernel

/-- `libinfo.matrix_bincount2d`: what the block held before `np.zeros` overwrote it is irrelevant
(a statement about the zeroing: `matrixBincount2dNoZero` below fails it) -/
theorem bincount_out_independent_of_initial (a : List (List Int)) (fa : Nat) (b : List (List Int)) (fb na nb : Nat) (g1 g2 : Nat → Nat) : matrixBincount2d a fa b fb na nb g1 = matrixBincount2d a fa b fb na nb g2 :=
  matrixBincount2d_heap_independent a fa b fb na nb g1 g2

/-- with `np.empty` in place of `np.zeros` the table depends on the heap (concrete witness) -/
theorem bincount_without_zeroing_counterexample : ¬ (∀ g1 g2 : Nat → Nat, matrixBincount2dNoZero [[0]] 1 [[0]] 1 1 1 g1 = matrixBincount2dNoZero [[0]] 1 [[0]] 1 1 1 g2) := by
  intro h
  have := congrArg ok? (h (fun _ => 0) (fun _ => 5))
  revert this
  decide +kernel

example : ok? (matrixBincount2d [[0, 1], [1, 1], [0, 1]] 2 [[0], [0], [1]] 1 2 2 (fun k => 99 + k))
    = some [[[[1, 1], [1, 0]]], [[[0, 0], [2, 1]]]] := by decide +kernel
example : ok? (matrixBincount2dNoZero [[0, 1], [1, 1], [0, 1]] 2 [[0], [0], [1]] 1 2 2 (fun k => 10 * k))
    = some [[[[1, 11], [21, 30]]], [[[40, 50], [62, 71]]]] := by decide +kernel
example : err? (matrixBincount2d [[0], [2]] 1 [[0], [0]] 1 2 2 (fun _ => 0)) = some .assertion := by decide +kernel
example : err? (matrixBincount2d [[0], [-1]] 1 [[0], [0]] 1 2 2 (fun _ => 0)) = some .assertion := by decide +kernel
example : err? (matrixBincount2d [] 1 [] 1 2 2 (fun _ => 0)) = some .valueError := by decide +kernel

end C19
