import Proofs.C14Layout
import Proofs.C14Mean
import Proofs.C14PamRun
import Proofs.C01Examples
import Proofs.C14Compose
import Proofs.C14Examples
import Props.C01
/-!
C14 — MPI-striped clustering and reductions equal their serial counterparts.

Model: `Model/Mpi.lean`, and `Model/MpiPam.lean` for distributed PAM.  `w` is the world size;
per-rank values are functions of the rank.  Collectives are functions of all ranks'
contributions (arrival order is not represented: that is the MPI contract, trusted).
Hypotheses are the guards the code has — `0 < w`, `w ≤ number of trajectories` (a rank without
data raises), trajectory lengths `> 0` where the first center matters — and, for k-centers, a
tie-free table, which the code does not check (`mpi_kcenters_tie_counterexample`).
-/
open Ens Ens.Mpi

namespace C14

/-! ## striping -/

/-- The stripes `xs[r::w]`, `r < w`, partition `xs`: putting stripe `r` back at positions
    `r, r+w, …` restores `xs`; the concatenated stripes are a permutation of `xs`; index `i`
    belongs to stripe `i % w` and to no other. -/
theorem stripe_partition {α : Type} (w : Nat) (hw : 0 < w) (xs : List α) :
    unstripe w xs.length (fun r => stripe w xs r) = xs ∧
    ((List.range w).flatMap fun r => stripe w xs r).Perm xs ∧
    (∀ n r i, r < w → (i ∈ stripeIdx w n r ↔ i < n ∧ i % w = r)) ∧
    (∀ r j, (stripe w xs r)[j]? = xs[r + j * w]?) :=
  ⟨unstripe_stripe w hw xs, stripe_perm w hw xs, fun n r i hr => mem_stripeIdx w hw n r i hr,
   fun r j => getElem?_stripe w hw xs r j⟩

example : stripe 3 [10, 11, 12, 13, 14, 15, 16] 1 = [11, 14] := by decide +kernel
example : unstripe 3 7 (fun r => stripe 3 [10, 11, 12, 13, 14, 15, 16] r) = [10, 11, 12, 13, 14, 15, 16] := by decide +kernel

/-! ## `convert_local_indices` -/

/-- `(rank r, local index i) ↦ g` is correct: whatever global per-frame array `f` is dealt
    round-robin by trajectories, element `i` of rank `r`'s local array is `f g`; and the map is
    a bijection between valid `(rank, local)` pairs and global frames `0 … N-1`. -/
theorem convertLocal_correct {α : Type} (w : Nat) (hw : 0 < w) (L : List Nat) :
    (∀ (f : Nat → α) (r i g : Nat), r < L.length → convertLocal w L (r, i) = .ok g →
      ((stripe w (splitBy L ((List.range L.sum).map f)) r).flatten)[i]? = some (f g)) ∧
    (∀ g, g < L.sum → ∃ (r i : Nat), r < w ∧ (localFrames w L r)[i]? = some g) ∧
    (∀ (r i r' i' g : Nat), r < w → r' < w → (localFrames w L r)[i]? = some g →
      (localFrames w L r')[i']? = some g → r = r' ∧ i = i') ∧
    (∀ (r i g : Nat), r < w → (localFrames w L r)[i]? = some g → g < L.sum) := by
  obtain ⟨h1, h2, h3⟩ := localFrames_bijective w hw L
  refine ⟨?_, h1, h2, h3⟩
  intro f r i g hr h
  rw [localFrames_map, List.getElem?_map, (convertLocal_ok_iff w L r i g hr hw).mp h]
  rfl

example : convertLocalIndices 2 [3, 2, 4] [(0, 5), (1, 1)] = .ok [7, 4] := by decide +kernel
example : convertLocalIndices 3 [3, 2] [(2, 0)] = .error .attributeError := by decide +kernel

/-! ## `assemble_striped_ragged_array` -/

/-- Reassembling the per-rank pieces (rank `r` holds the concatenation of trajectories
    `r, r+w, …`) of any array laid out by trajectory lengths `L` returns that array, for
    every world size that leaves no rank without a trajectory. -/
theorem assemble_ragged_correct {α : Type} (w : Nat) (hw : 0 < w) (L : List Nat) (hT : w ≤ L.length)
    (xs : List α) (hx : xs.length = L.sum) :
    assembleStripedRagged w L (fun r => (stripe w (splitBy L xs) r).flatten) = .ok xs :=
  assemble_ragged_ok w hw L hT xs hx

/-- the layout that the repaired slice assignment has to handle: rank 0 of 4 owns two
    trajectories, ranks 1 and 2 own two of different length, rank 3 owns one -/
example : assembleStripedRagged 4 [3, 5, 2, 4, 1, 6, 2]
    (fun r => (stripe 4 (splitBy [3, 5, 2, 4, 1, 6, 2] (List.range 23)) r).flatten) = .ok (List.range 23) := by
  decide +kernel
example : assembleStripedRagged 3 [3, 2] (fun _ => [0]) = .error .indexError := by decide +kernel

/-! ## `assemble_striped_array` (striped gather) -/

/-- "Striped gathers": for every world size `w ≥ 1` and every array of positive integers (the
    trajectory lengths it is used for), gathering the stripes `xs[r::w]` returns `xs` on every
    rank (the model's result is the value every rank receives); with more than one rank a
    non-positive entry raises ImproperlyConfigured, as the code does. -/
theorem assemble_striped_array_correct (w : Nat) (hw : 0 < w) (xs : List Int) :
    ((∀ x ∈ xs, 0 < x) → assembleStripedArray w (fun r => stripe w xs r) = .ok xs) ∧
    (w ≠ 1 → (∃ x ∈ xs, x ≤ 0) →
      assembleStripedArray w (fun r => stripe w xs r) = .error .improperlyConfigured) :=
  assembleStripedArray_stripes w hw xs

example : assembleStripedArray 3 (fun r => stripe 3 [4, 1, 7, 2, 9, 3, 5] r) = .ok [4, 1, 7, 2, 9, 3, 5] := by decide +kernel
example : assembleStripedArray 3 (fun r => stripe 3 [4, 1, 0, 2] r) = .error .improperlyConfigured := by decide +kernel
-- a layout that is not packed cannot be gathered (numpy refuses the assignment)
example : assembleStripedArray 2 (fun r => if r = 0 then [1, 2, 3] else [4]) = .error .valueError := by decide +kernel

/-! ## `striped_array_max` -/

/-- Whenever `striped_array_max` returns, the value is the maximum of the whole array (the
    local arrays concatenated in any order); it returns as soon as no rank is empty. -/
theorem striped_max_eq {α : Type} [LT α] [DecidableRel (α := α) (· < ·)] [StrictTotal α]
    (w : Nat) (hw : 0 < w) (locals : Nat → List α) :
    (∀ (xs : List α) (M : α), xs.Perm ((List.range w).flatMap locals) → stripedMax w locals = .ok M →
      listMax xs = some M ∧ M ∈ xs ∧ ∀ y ∈ xs, ¬ M < y) ∧
    ((∀ r, r < w → locals r ≠ []) → ∃ M, stripedMax w locals = .ok M) := by
  refine ⟨?_, stripedMax_ok w hw locals⟩
  intro xs M hp h
  have := stripedMax_eq_listMax w locals xs hp M h
  exact ⟨this, listMax_spec this⟩

example : stripedMax 2 (fun r => if r = 0 then [3, 9, 4] else [7, 2]) = .ok 9 := by decide +kernel
example : stripedMax 2 (fun r => if r = 0 then [3, 9, 4] else ([] : List Nat)) = .error .valueError := by decide +kernel

/-! ## `striped_array_mean` -/

/-- For every world size and every non-empty data set (any signs), the striped mean is the
    mean of the whole array, in whatever order the local arrays are concatenated; an empty
    striped array has no mean (`nan`). -/
theorem striped_mean_eq (w : Nat) (hw : 0 < w) (locals : Nat → List Rat) :
    (∀ xs : List Rat, xs.Perm ((List.range w).flatMap locals) → xs ≠ [] →
      stripedMean w locals = .ok (xs.sum / (xs.length : Rat))) ∧
    ((∀ r, r < w → locals r = []) → stripedMean w locals = .error .nan) :=
  ⟨fun xs hp hne => stripedMean_eq w locals xs hp hne, stripedMean_empty w hw locals⟩

example : stripedMean 2 (fun r => if r = 0 then [1, 2] else [5]) = .ok (8 / 3) := by decide +kernel
example : stripedMean 2 (fun r => if r = 0 then [-1] else [-5]) = .ok (-3) := by decide +kernel

/-! ## `randind` -/

/-- For every vector of local lengths (packed or not, empty ranks allowed) with at least one
    element, the broadcast draw `g ∈ {0 … N-1}` is mapped bijectively onto the elements
    `(owner rank, local index)` of the striped array; a uniform draw is therefore a uniform
    element. -/
theorem randind_bijection (lens : List Nat) (hw : 0 < lens.length) (hN : 1 ≤ lens.sum) :
    (∀ g, g < lens.sum → ∃ (r i l : Nat), randind lens g = .ok (r, i) ∧ lens[r]? = some l ∧ i < l) ∧
    (∀ (g g' : Nat) (p : Nat × Nat), randind lens g = .ok p → randind lens g' = .ok p → g = g') ∧
    (∀ (r i l : Nat), lens[r]? = some l → i < l → ∃ g, g < lens.sum ∧ randind lens g = .ok (r, i)) :=
  randind_bijective lens hw hN

example : (List.range 5).map (randind [2, 0, 3]) = [.ok (0, 0), .ok (2, 0), .ok (2, 2), .ok (0, 1), .ok (2, 1)] := by
  decide +kernel
example : randind [0, 0] 0 = .error .dataInvalid := by decide +kernel

/-! ## `ctr_ids_mpi` -/

/-- `ctr_ids_mpi` on `(trajectory, frame)` pairs is a right inverse of
    `convert_local_indices`: the pair is sent to a valid rank and local index whose global
    frame id is `offset(trajectory) + frame`. -/
theorem ctrIdsMpi_inverse (w : Nat) (hw : 0 < w) (L : List Nat) (t f l : Nat)
    (ht : L[t]? = some l) (hf : f < l) :
    ∃ p, ctrIdMpi w L (t, f) = .ok p ∧ p.1 < w ∧ convertLocal w L p = .ok ((L.take t).sum + f) :=
  ctrIdMpi_inverse w hw L t f l ht hf

example : ctrIdsMpi 2 [3, 2, 4] [(2, 2), (1, 1)] = .ok [(0, 5), (1, 1)] := by decide +kernel

/-- the same for flat global frame ids (the `ra.where` path): id `g` is sent to the
    `(rank, local index)` that `convert_local_indices` maps back to `g`. -/
theorem ctrIdsMpiFlat_inverse (w : Nat) (hw : 0 < w) (L : List Nat) (g : Nat) (hg : g < L.sum) :
    ∃ p, ctrIdsMpiFlat w L [g] = .ok [p] ∧ p.1 < w ∧ convertLocal w L p = .ok g :=
  ctrIdMpi_flat_inverse w hw L g hg

example : ctrIdsMpiFlat 2 [3, 2, 4] [7, 4] = .ok [(0, 5), (1, 1)] := by decide +kernel
example : ctrIdsMpiFlat 2 [3, 2, 4] [9] = .error .indexError := by decide +kernel

/-! ## k-medoids under MPI: inputs and cost -/

/-- full statement: k-medoids under MPI can start from scratch (as the serial code can) or
    from a warm start.  FALSE for the code as written (known finding
    `kmedoids-mpi-cold-start`): the cold-start branch raises before computing anything. -/
def C14_kmedoids_inputs_full : Prop :=
  ∀ (w : Nat) (L : List Nat) (warm : Option (List (Nat × Nat))), 0 < w →
    (∀ ps, warm = some ps → ∀ p ∈ ps, ∃ l, L[p.1]? = some l ∧ p.2 < l) →
    ∃ cs, kmedoidsInputsMpi w L warm = .ok cs

/-- proved part: a warm start with ANY list of valid `(trajectory, frame)` centers is converted,
    center by center, to `(rank, local index)` centers that `convert_local_indices` maps back to
    the same global frames `offset(trajectory) + frame` -/
theorem kmedoids_inputs_partial (w : Nat) (hw : 0 < w) (L : List Nat) (ps : List (Nat × Nat))
    (hv : ∀ p ∈ ps, ∃ l, L[p.1]? = some l ∧ p.2 < l) :
    ∃ qs, kmedoidsInputsMpi w L (some ps) = .ok qs ∧
      List.Forall₂ (fun p q => q.1 < w ∧ convertLocal w L q = .ok ((L.take p.1).sum + p.2)) ps qs := by
  unfold kmedoidsInputsMpi ctrIdsMpi
  induction ps with
  | nil => exact ⟨[], rfl, List.Forall₂.nil⟩
  | cons p ps ih =>
    obtain ⟨l, hl, hf⟩ := hv p List.mem_cons_self
    obtain ⟨q, hq, hqw, hc⟩ := ctrIdMpi_inverse w hw L p.1 p.2 l hl hf
    obtain ⟨qs, hqs, hall⟩ := ih (fun x hx => hv x (List.mem_cons_of_mem _ hx))
    refine ⟨q :: qs, ?_, List.Forall₂.cons ⟨hqw, hc⟩ hall⟩
    simp only at hqs ⊢
    rw [List.mapM_cons, hq, hqs]
    rfl

theorem kmedoids_inputs_counterexample : ¬ C14_kmedoids_inputs_full := by
  intro h
  obtain ⟨cs, hcs⟩ := h 2 [3, 2] none (by decide) (by intro ps hps; cases hps)
  revert hcs
  simp [kmedoidsInputsMpi]

/-- the distributed PAM step is the serial step's per-frame computation on every rank plus
    ONE collective quantity, the cost `_msq` = `striped_array_mean` of the squared distances
    (proposal = `randind` + `bcast`, above; medoid frames = `distribute_frame`).  This is
    the cost part: on the round-robin layout the distributed cost of any per-frame array `f`
    equals the serial mean over the concatenated data.  (The distributed sweep itself is
    modelled in `Model/MpiPam.lean`; `mpi_pam_refines_serial`, `mpi_pam_consistent` and
    `mpi_pam_cost_antitone` below build on this cost lemma.) -/
theorem mpi_pam_cost_eq (w : Nat) (hw : 0 < w) (L : List Nat) (hN : 0 < L.sum) (f : Nat → Rat) :
    stripedMean w (fun r => (localFrames w L r).map f) =
      .ok (((List.range L.sum).map f).sum / (((List.range L.sum).map f).length : Rat)) :=
  Ens.MpiPam.stripedMean_localFrames w hw L hN f

/-! ## distributed k-medoids (PAM): refinement of the serial sweep, consistency, cost

Model: `Model/MpiPam.lean` (every rank runs the serial per-frame update of `Model/Cluster.lean`
on its local arrays against the broadcast proposal frame; cost = striped mean; one common
accept/reject decision).  `Striped lay ms ss` (Proofs/C14PamStep.lean): the distributed state `ms`
is the serial state `ss` dealt to the ranks.  `ReassemblesTo w L ms ss` (Proofs/C14PamRun.lean):
`assemble_striped_ragged_array` / `convert_local_indices` applied to `ms` return exactly `ss`.
No tie-freeness is needed: PAM has no arg-max, every rank decides from the same global cost. -/
section Pam
open Ens.Cluster Ens.MpiPam

/-- **One distributed PAM step = the serial step on the concatenated data.**  For every world
    size `w ≥ 1`, every vector of positive trajectory lengths with at least `w` trajectories,
    every table, every center number and every proposal `(rank, local index)` that is a frame
    of its owner: the proposal's global frame is what `convert_local_indices` returns, and
    either both steps succeed — same old and new cost, same accept/reject decision, and the
    distributed result reassembles exactly to the serial result — or both trip the assert. -/
theorem mpi_pam_step_refines_serial (w : Nat) (hw : 0 < w) (L : List Nat) (hT : w ≤ L.length)
    (hpos : ∀ l ∈ L, 0 < l) (D : Table) (ms : PState) (ss : St)
    (hr : Striped (stripeLayout w L) ms ss) (cid : Nat) (p : Nat × Nat)
    (hp1 : p.1 < w) (hp2 : p.2 < (stripeLayout w L).m p.1) :
    ∃ g, convertLocalIndices w L [p] = .ok [g] ∧
      ((∃ mst sst, mpiPamStep (stripeLayout w L) D ms cid p = .ok mst ∧ pamStep D L.sum ss cid g = .ok sst ∧
          mst.y = g ∧ mst.oldCost = sst.oldCost ∧ mst.newCost = sst.newCost ∧ mst.acc = sst.acc ∧
          ReassemblesTo w L mst.after sst.after) ∨
       (mpiPamStep (stripeLayout w L) D ms cid p = .error (.mpi .assertion) ∧
          pamStep D L.sum ss cid g = .error .assertion)) := by
  obtain ⟨hb, hm⟩ := stripeLayout_ok w hw L hT hpos
  refine ⟨(stripeLayout w L).X p.1 p.2, ?_, ?_⟩
  · rw [convert_of_valid w hw L hT [p] (by simpa using ⟨hp1, hp2⟩)]; rfl
  · rcases step_refines hb hm D hr cid hp1 hp2 with ⟨mst, sst, g1, g2, _, _, g5, g6, g7, g8, g9⟩ | h
    · exact Or.inl ⟨mst, sst, g1, g2, g5, g6, g7, g8, reassemblesTo_of_striped w hw L hT g9⟩
    · exact Or.inr h

/-- **One distributed sweep (`_kmedoids_pam_update` in MPI mode) refines the serial sweep**, for
    explicit proposals or random ones drawn through `randind` from any oracle: whenever the
    distributed sweep returns, the serial sweep on the concatenated data, handed the global
    frames of the proposals the ranks used, returns too; step by step the costs and the
    accept/reject decisions coincide, and the distributed result reassembles exactly to the
    serial result. -/
theorem mpi_pam_refines_serial (w : Nat) (hw : 0 < w) (L : List Nat) (hT : w ≤ L.length)
    (hpos : ∀ l ∈ L, 0 < l) (D : Table) (ms : PState) (ss : St)
    (hr : Striped (stripeLayout w L) ms ss) (props : Option (List (Nat × Nat))) (orc orc' : List Nat)
    (ms' : PState) (tr : List MStep)
    (h : mpiPamUpdate (stripeLayout w L) D ms props orc = .ok (ms', orc', tr)) :
    ∃ ss' tr', pamUpdate D L.sum ss (some (tr.map (·.y))) [] = .ok (ss', [], tr') ∧
      ReassemblesTo w L ms' ss' ∧ Striped (stripeLayout w L) ms' ss' ∧
      tr.map (·.acc) = tr'.map (·.acc) ∧ tr.map (·.oldCost) = tr'.map (·.oldCost) ∧
      tr.map (·.newCost) = tr'.map (·.newCost) ∧
      (∀ st ∈ tr, convertLocalIndices w L [st.p] = .ok [st.y]) := by
  obtain ⟨hb, hm⟩ := stripeLayout_ok w hw L hT hpos
  obtain ⟨ss', tr', k1, k2, k3⟩ := update_refines hb hm D hr h
  refine ⟨ss', tr', k1, reassemblesTo_of_striped w hw L hT k2, k2, ?_, ?_, ?_, ?_⟩
  · exact forall₂_map_eq k3 _ _ fun a b hab => hab.acc
  · exact forall₂_map_eq k3 _ _ fun a b hab => hab.oldCost
  · exact forall₂_map_eq k3 _ _ fun a b hab => hab.newCost
  · intro st hst
    obtain ⟨v1, v2, hy⟩ := update_trace_valid hb hr h st hst
    rw [convert_of_valid w hw L hT [st.p] (by simpa using ⟨v1, v2⟩), hy]; rfl

/-- **Distributed k-medoids with explicit `(rank, index)` proposals = serial k-medoids with the
    proposals' global frames**, for any number of sweeps (`_kmedoids_iterations`): the global
    frames are what `convert_local_indices` returns for the proposals; the serial run on the
    concatenated data returns whenever the distributed one does; the final states and the states
    after every sweep reassemble exactly to the serial ones; all accept/reject decisions agree. -/
theorem mpi_kmedoids_refines_serial (w : Nat) (hw : 0 < w) (L : List Nat) (hT : w ≤ L.length)
    (hpos : ∀ l ∈ L, 0 < l) (D : Table) (ms : PState) (ss : St)
    (hr : Striped (stripeLayout w L) ms ss) (nIters : Nat) (ps : List (Nat × Nat))
    (hv : ∀ p ∈ ps, p.1 < w ∧ p.2 < (stripeLayout w L).m p.1) (orc : List Nat) (r : MRun)
    (h : mpiKmedoidsIterations (stripeLayout w L) D nIters ms (some ps) orc = .ok r) :
    ∃ gs sr, convertLocalIndices w L ps = .ok gs ∧
      kmedoidsIterations D L.sum nIters ss (some gs) [] = .ok sr ∧
      ReassemblesTo w L r.final sr.final ∧
      List.Forall₂ (ReassemblesTo w L) r.sweeps sr.sweeps ∧
      r.trace.map (·.acc) = sr.trace.map (·.acc) := by
  obtain ⟨hb, hm⟩ := stripeLayout_ok w hw L hT hpos
  obtain ⟨k, rfl, hsw⟩ := iterations_ok h
  obtain ⟨sr, j1, j2, j3, j4⟩ := sweeps_refines_explicit hb hm D ps (k+1) hr hsw
  refine ⟨_, sr, convert_of_valid w hw L hT ps hv, ?_, reassemblesTo_of_striped w hw L hT j2, ?_,
    forall₂_map_eq j3 _ _ fun a b hab => hab.acc⟩
  · unfold kmedoidsIterations
    simp only [Nat.succ_ne_zero, if_false]
    exact j1
  · exact List.Forall₂.imp (fun a b hab => reassemblesTo_of_striped w hw L hT hab) j4

/-- **The distributed k-medoids stage keeps the clustering consistent** (C01's predicate), for
    every world size, every striping, every table of distinct points, any number of sweeps and
    any source of proposals (explicit pairs, or `randind` draws from any oracle): if the start
    is the striped view of a consistent state, the library's reassembly of the final
    distributed state — and of the state after every sweep — succeeds and is consistent. -/
theorem mpi_pam_consistent (w : Nat) (hw : 0 < w) (L : List Nat) (hT : w ≤ L.length)
    (hpos : ∀ l ∈ L, 0 < l) (D : Table) (T : TableOK D L.sum) (ms : PState) (ss : St)
    (hr : Striped (stripeLayout w L) ms ss) (hs : Consistent D L.sum ss) (nIters : Nat)
    (props : Option (List (Nat × Nat))) (orc : List Nat) (r : MRun)
    (h : mpiKmedoidsIterations (stripeLayout w L) D nIters ms props orc = .ok r) :
    ∀ x ∈ r.final :: r.sweeps, ∃ rs, reassemble w L x = .ok rs ∧ Consistent D L.sum rs ∧
      rs.ctrInds.length = ss.ctrInds.length := by
  obtain ⟨hb, hm⟩ := stripeLayout_ok w hw L hT hpos
  obtain ⟨k, rfl, hsw⟩ := iterations_ok h
  obtain ⟨ss', cs, i1, i2, _, _, i6⟩ := sweeps_inv hb hm D props (k+1) hr hsw
  obtain ⟨c1, c2⟩ := i6 T hs
  intro x hx
  obtain ⟨sx, sx1, sx2, sx3⟩ := List.forall_mem_cons.mpr ⟨⟨ss', i1, c1, i2⟩, c2⟩ x hx
  obtain ⟨rs, e1, e2, e3⟩ := reassembled_consistent w hw L hT sx1 sx2
  exact ⟨rs, e1, e2, by rw [e3, sx3]⟩

/-- **The distributed k-medoids stage never raises the cost**: along the whole accept/reject
    history of all sweeps the global cost (`striped_array_mean` of the squared local distances)
    is defined, never increases, and the result's cost is the minimum of the history — from
    any striped start (consistent or not), any proposals. -/
theorem mpi_pam_cost_antitone (w : Nat) (hw : 0 < w) (L : List Nat) (hT : w ≤ L.length)
    (hpos : ∀ l ∈ L, 0 < l) (D : Table) (ms : PState) (ss : St)
    (hr : Striped (stripeLayout w L) ms ss) (nIters : Nat)
    (props : Option (List (Nat × Nat))) (orc : List Nat) (r : MRun)
    (h : mpiKmedoidsIterations (stripeLayout w L) D nIters ms props orc = .ok r) :
    ∃ (c0 c1 : Rat) (cs : List Rat),
      mpiCost (stripeLayout w L) ms.arr = .ok c0 ∧ c0 = cost L.sum ss.arr.dist ∧
      mpiCost (stripeLayout w L) r.final.arr = .ok c1 ∧
      costsAfter (stripeLayout w L) r.trace = cs.map .ok ∧
      (c0 :: cs).Pairwise (fun x y => y ≤ x) ∧ (∀ x ∈ c0 :: cs, c1 ≤ x) := by
  obtain ⟨hb, hm⟩ := stripeLayout_ok w hw L hT hpos
  obtain ⟨k, rfl, hsw⟩ := iterations_ok h
  obtain ⟨ss', cs, i1, _, i3, i4, _⟩ := sweeps_inv hb hm D props (k+1) hr hsw
  exact ⟨_, _, cs, mpiCost_eq hb hm _ _ hr.dist, rfl, mpiCost_eq hb hm _ _ i1.dist, i3, i4⟩

/-- …and from the striped view of a consistent state, with one valid explicit proposal per
    center, the distributed sweeps always run through (no assert trips, no rank raises): the
    hypotheses `= .ok r` above are never vacuous -/
theorem mpi_pam_total (w : Nat) (hw : 0 < w) (L : List Nat) (hT : w ≤ L.length)
    (hpos : ∀ l ∈ L, 0 < l) (D : Table) (T : TableOK D L.sum) (ms : PState) (ss : St)
    (hr : Striped (stripeLayout w L) ms ss) (hs : Consistent D L.sum ss) (nIters : Nat) (hi : 0 < nIters)
    (ps : List (Nat × Nat)) (hl : ps.length = ms.ctrs.length)
    (hv : ∀ p ∈ ps, p.1 < w ∧ p.2 < (stripeLayout w L).m p.1) (orc : List Nat) :
    ∃ r, mpiKmedoidsIterations (stripeLayout w L) D nIters ms (some ps) orc = .ok r := by
  obtain ⟨hb, hm⟩ := stripeLayout_ok w hw L hT hpos
  unfold mpiKmedoidsIterations
  simp only [Nat.pos_iff_ne_zero.mp hi, if_false]
  exact sweeps_total hb hm T hv nIters orc hr hs hl

/-- **The pipeline composes (`hybrid(mpi_mode=True)`): distributed k-centers hands distributed
    k-medoids exactly the premise it needs.**  On a rational table of distinct points with pairwise
    distinct off-diagonal entries, for every world size, every striping, every cluster count `≠ 0`
    and every radius `≥ 0`: whatever `kcenters(mpi_mode=True)` returns is the striped view
    (`Striped`) of the state the serial `kcenters` of C01's model returns on the concatenated
    data, and that state is `Consistent`.  (`use_triangle_inequality=True` in
    `_kcenters_iteration_mpi` is NOT modelled; it is covered by the correspondence run only.) -/
theorem mpi_kcenters_striped_consistent (w : Nat) (hw : 0 < w) (L : List Nat) (hT : w ≤ L.length)
    (hpos : ∀ l ∈ L, 0 < l) (D : Table) (T : TableOK D L.sum)
    (hd : ∀ a b c d, a < L.sum → b < L.sum → c < L.sum → d < L.sum → a ≠ b → c ≠ d → D a b = D c d →
      (a = c ∧ b = d) ∨ (a = d ∧ b = c))
    (k : Option Nat) (hk : k ≠ some 0) (cutoff : Rat) (hc : 0 ≤ cutoff) (fuel : Nat) (ms : MState Dist)
    (h : mpiKcenters (stripeLayout w L) (finD D) .inf k (.fin cutoff) fuel = .ok ms) :
    ∃ st, Ens.Cluster.kcenters D L.sum k cutoff none fuel = .ok st ∧ Consistent D L.sum st ∧
      Striped (stripeLayout w L) (toPState (stripeLayout w L) ms) st := by
  have hb := stripeLayout_bij w hw L hT hpos
  have hN := hb.N_pos
  have hcut : ¬ Dist.fin cutoff < Dist.fin 0 := fun hh => absurd ((fin_lt_fin _ _).mp hh) (not_lt.mpr hc)
  rcases kcenters_refines (stripeLayout w L) L.sum hb (finD D) (.fin 0) .inf (tieFree_of_tableOK T hd)
      k (.fin cutoff) hcut fuel with ⟨ms', ss, h1, h2, hr⟩ | ⟨h1, _⟩
  · rw [h] at h1
    injection h1 with h1
    subst h1
    obtain ⟨st, e1, e2⟩ := serialKcenters_eq_cluster hN D k cutoff fuel h2
    have hcons : Consistent D L.sum st :=
      C01.kcenters_consistent T hk hc (fun cs hcs => by cases hcs) e1
    exact ⟨st, e1, hcons, striped_of_rel hb hr e2 hcons.notFresh⟩
  · rw [h] at h1; cases h1

/-- …hence distributed k-medoids started from the distributed k-centers result — the whole of
    `hybrid(mpi_mode=True)` — reassembles, after every sweep and at the end, to a consistent
    clustering with the k-centers number of centers -/
theorem mpi_hybrid_consistent (w : Nat) (hw : 0 < w) (L : List Nat) (hT : w ≤ L.length)
    (hpos : ∀ l ∈ L, 0 < l) (D : Table) (T : TableOK D L.sum)
    (hd : ∀ a b c d, a < L.sum → b < L.sum → c < L.sum → d < L.sum → a ≠ b → c ≠ d → D a b = D c d →
      (a = c ∧ b = d) ∨ (a = d ∧ b = c))
    (k : Option Nat) (hk : k ≠ some 0) (cutoff : Rat) (hc : 0 ≤ cutoff) (fuel : Nat) (ms : MState Dist)
    (h : mpiKcenters (stripeLayout w L) (finD D) .inf k (.fin cutoff) fuel = .ok ms)
    (nIters : Nat) (props : Option (List (Nat × Nat))) (orc : List Nat) (r : MRun)
    (hp : mpiKmedoidsIterations (stripeLayout w L) D nIters (toPState (stripeLayout w L) ms) props orc = .ok r) :
    ∀ x ∈ r.final :: r.sweeps, ∃ rs, reassemble w L x = .ok rs ∧ Consistent D L.sum rs ∧
      rs.ctrInds.length = ms.ctrs.length := by
  obtain ⟨st, _, hcons, hstr⟩ := mpi_kcenters_striped_consistent w hw L hT hpos D T hd k hk cutoff hc fuel ms h
  have hlen : st.ctrInds.length = ms.ctrs.length := hstr.len_ctrs.symm
  intro x hx
  obtain ⟨rs, e1, e2, e3⟩ := mpi_pam_consistent w hw L hT hpos D T _ st hstr hcons nIters props orc r hp x hx
  exact ⟨rs, e1, e2, by rw [e3, hlen]⟩

-- `ms6` (Proofs/C14Examples.lean): the six points of C01/C09 dealt to 2 ranks as trajectories of lengths 1, 2, 3
example : (List.range 2).map (localFrames 2 [1, 2, 3]) = [[0, 3, 4, 5], [1, 2]] := by decide +kernel

-- the hypotheses of the theorems above are satisfiable
example : Striped (stripeLayout 2 [1, 2, 3]) ms6 Ex.s6 :=
  scatter_striped (by decide) _ (by decide) (by decide)
example : Consistent Ex.D6 ([1, 2, 3] : List Nat).sum Ex.s6 :=
  Consistent.of_runMin Ex.D6_ok (RunMin.assignNearest Ex.D6 6 [0, 5]) (by decide) (Inj_of_nodup (by decide)) (by decide)
example : ∀ p ∈ [((1 : Nat), (0 : Nat)), (0, 2)], p.1 < 2 ∧ p.2 < (stripeLayout 2 [1, 2, 3]).m p.1 := by decide +kernel

/-- two sweeps with proposals frame 1 = (rank 1, 0) and frame 4 = (rank 0, 2): both accepted in
    the first sweep, rejected in the second; same decisions and costs as the serial run of
    Props/C09.lean (`22/3 → 13/2 → 3`) -/
example : (mpiKmedoidsIterations (stripeLayout 2 [1, 2, 3]) Ex.D6 2 ms6 (some [(1, 0), (0, 2)]) []).toOption.map
    (fun r => (r.final.ctrs, r.trace.map (fun st => (st.y, st.acc, st.newCost)))) =
    some ([(1, 0), (0, 2)], [(1, true, 13/2), (4, true, 3), (1, false, 3), (4, false, 3)]) :=
  ms6_two_sweeps.1
example : (mpiKmedoidsIterations (stripeLayout 2 [1, 2, 3]) Ex.D6 2 ms6 (some [(1, 0), (0, 2)]) []).toOption.map
    (fun r => ((r.final.arr 0).assignA, (r.final.arr 1).assignA)) = some (#[0, 1, 1, 1], #[0, 0]) :=
  ms6_two_sweeps.2.1
example : ((mpiKmedoidsIterations (stripeLayout 2 [1, 2, 3]) Ex.D6 2 ms6 (some [(1, 0), (0, 2)]) []).toOption.bind
    (fun r => (reassemble 2 [1, 2, 3] r.final).toOption)).map (fun s => (s.ctrInds, s.arr.assignA)) =
    some ([1, 4], #[0, 0, 0, 1, 1, 1]) := ms6_two_sweeps.2.2.1
/-- random proposals through `randind`: draws 1 and 0 pick frame 2 for center 0 (rejected) and
    frame 3 for center 1 (accepted) -/
example : (mpiPamUpdate (stripeLayout 2 [1, 2, 3]) Ex.D6 ms6 none [1, 0]).toOption.map
    (fun o => o.2.2.map (fun st => (st.p, st.y, st.acc))) =
    some [((1, 1), 2, false), ((0, 1), 3, true)] := ms6_random_sweep.1

/-- a random proposal under MPI (`_propose_new_center_amongst(mpi_mode=True)`: `randind` over the
    ranks' member lists of cluster `cid`, any oracle draw) is a frame of its owner and a member
    of the cluster being updated — the distributed counterpart of C09's
    `random_proposal_is_member` -/
theorem mpi_random_proposal_is_member (lay : Layout) (s : PState) (cid : Nat) (orc orc' : List Nat)
    (p : Nat × Nat) (h : mpiPropose lay s cid none orc = .ok (p, orc')) :
    p.1 < lay.w ∧ p.2 < lay.m p.1 ∧ (s.arr p.1).assign p.2 = (cid : Nat) :=
  mpiPropose_random_member h

/-- `kmedoids(...)` under MPI with a warm start only converts the centers (`ctr_ids_mpi`) and
    checks them before it runs `_kmedoids_iterations`; the `medoid_coords` are re-broadcast by
    every sweep, so whatever coordinates the start state is given, the run is the same: the
    theorems above apply to the entry point with `coords := ` the serial coordinates. -/
theorem mpi_kmedoids_entry (w : Nat) (L : List Nat) (D : Table) (nIters : Nat) (arrs : List Arr)
    (centers : List (Nat × Nat) ⊕ List Nat) (props : Option (List (Nat × Nat))) (orc : List Nat) (r : MRun)
    (h : mpiKmedoids w L D nIters arrs centers props orc = .ok r) :
    ∃ ctrs, warmCenters w L centers = .ok ctrs ∧
      ∀ coords, mpiKmedoidsIterations (stripeLayout w L) D nIters
        { arrs := arrs, ctrs := ctrs, coords := coords } props orc = .ok r := by
  obtain ⟨ctrs, h1, h2⟩ := mpiKmedoids_ok h
  refine ⟨ctrs, h1, fun coords => ?_⟩
  rw [← h2]
  exact mpiKmedoidsIterations_coords (stripeLayout w L) D nIters { arrs := arrs, ctrs := ctrs, coords := [] } coords props orc

/-- the entry point on the six points: centers given as (trajectory, frame) pairs `(0,0)`, `(2,2)`
    = frames 0 and 5, or as flat ids -/
example : (mpiKmedoids 2 [1, 2, 3] Ex.D6 2 ms6.arrs (.inl [(0, 0), (2, 2)]) (some [(1, 0), (0, 2)]) []).toOption.map
    (fun r => (r.final.ctrs, r.trace.map (·.acc))) = some ([(1, 0), (0, 2)], [true, true, false, false]) := by
  rw [mpiKmedoids_ms6 (by decide)]; exact ms6_two_sweeps.2.2.2
example : (mpiKmedoids 2 [1, 2, 3] Ex.D6 1 ms6.arrs (.inr [0, 5]) none [1, 0]).toOption.map
    (fun r => (r.final.ctrs, r.trace.map (·.acc))) = some ([(0, 0), (0, 1)], [false, true]) := by
  rw [mpiKmedoids_ms6 (by decide)]; exact ms6_random_sweep.2

end Pam
/-! ## striped loading -/

/-- `load_h5_as_striped` / `load_npy_as_striped`, any subsampling stride `s ≥ 1` (`row[::0]` raises
    ValueError in the code; `everyNth 0` is not a model of it, hence the hypothesis): every key /
    file is loaded by exactly one rank (`t % w`); each rank holds the concatenation of its
    (strided) rows; the returned global lengths are the lengths of the strided rows; and the
    reassembly routine applied to what the ranks hold, with those lengths, gives back the
    whole (strided) data set. -/
theorem load_stripes_cover {β : Type} (w : Nat) (hw : 0 < w) (rows : List (List β)) (hT : w ≤ rows.length)
    (s : Nat) (_hs : 0 < s) :
    (∀ r, r < w → loadStriped w rows s r =
        .ok (rows.map (fun row => (everyNth s row).length), ((stripe w rows r).map (everyNth s)).flatten)) ∧
    (∀ r, r < w → loadNpyStriped w rows s r = loadStriped w rows s r) ∧
    (∀ t r, r < w → (t ∈ stripeIdx w rows.length r ↔ t < rows.length ∧ t % w = r)) ∧
    assembleStripedRagged w (rows.map (fun row => (everyNth s row).length))
        (fun r => ((stripe w rows r).map (everyNth s)).flatten) = .ok (rows.map (everyNth s)).flatten := by
  have hne : ∀ r, r < w → (stripe w rows r).isEmpty = false := fun r hr =>
    List.isEmpty_eq_false_iff.mpr (List.ne_nil_of_length_pos (length_stripe_pos w hw rows r (by omega)))
  have hlen : rows.map (fun row => (everyNth s row).length) = (rows.map (everyNth s)).map List.length := by
    rw [List.map_map]; rfl
  refine ⟨?_, ?_, fun t r hr => mem_stripeIdx w hw rows.length r t hr, ?_⟩
  · intro r hr
    unfold loadStriped
    simp only [hne r hr]
    rfl
  · intro r hr
    unfold loadNpyStriped loadStriped
    simp only [hne r hr]
    have : (((stripe w rows r).map (everyNth s)).flatten).length =
        (stripe w (rows.map fun row => (everyNth s row).length) r).sum := by
      rw [hlen, stripe_map, ← stripe_map w (everyNth s), List.length_flatten]
    simp only [this]
    rfl
  · have h := assemble_ragged_ok w hw ((rows.map (everyNth s)).map List.length)
      (by simpa using hT) (rows.map (everyNth s)).flatten (by simp [List.length_flatten])
    rw [splitBy_lengths_flatten] at h
    rw [hlen]
    simp only [stripe_map] at h
    exact h

example : loadStriped 2 [[1, 2, 3], [4, 5], [6]] 2 0 = .ok ([2, 1, 1], [1, 3, 6]) := by decide +kernel
example : loadNpyStriped 2 [[1, 2, 3], [4, 5], [6]] 2 1 = .ok ([2, 1, 1], [4]) := by decide +kernel
example : loadStriped 3 [[1, 2, 3], [4, 5]] 1 2 = .error .indexError := by decide +kernel

/-! ## distributed k-centers -/

/-- For every world size `w ≥ 1`, every vector of positive trajectory lengths with at least
    `w` trajectories, every tie-free table and every cutoff `≥ 0`: distributed k-centers on the
    round-robin layout, followed by the library's reassembly (`convert_local_indices` for the
    centers, `assemble_striped_ragged_array` for distances and labels), yields exactly the
    serial k-centers result on the concatenated data — or both runs exhaust the same fuel.
    By induction on the iterations (`Proofs/C14Kcenters.lean`). -/
theorem mpi_kcenters_refines_serial {α : Type} [LT α] [DecidableRel (α := α) (· < ·)] [StrictTotal α]
    (w : Nat) (hw : 0 < w) (L : List Nat) (hT : w ≤ L.length) (hpos : ∀ l ∈ L, 0 < l)
    (D : Nat → Nat → α) (zero top : α) (ht : TieFree L.sum D zero top)
    (k : Option Nat) (cutoff : α) (hcut : ¬ cutoff < zero) (fuel : Nat) :
    (∃ ms ss, mpiKcenters (stripeLayout w L) D top k cutoff fuel = .ok ms ∧
        serialKcenters L.sum D top k cutoff fuel = .ok ss ∧
        convertLocalIndices w L ms.ctrs = .ok ss.ctrs ∧
        assembleStripedRagged w L (fun r => tabulate ((stripeLayout w L).m r) (ms.dist r)) =
          .ok (tabulate L.sum ss.dist) ∧
        assembleStripedRagged w L (fun r => tabulate ((stripeLayout w L).m r) (ms.assign r)) =
          .ok (tabulate L.sum ss.assign)) ∨
    (mpiKcenters (stripeLayout w L) D top k cutoff fuel = .error .fuel ∧
        serialKcenters L.sum D top k cutoff fuel = .error .fuel) := by
  have hb := stripeLayout_bij w hw L hT hpos
  rcases kcenters_refines (stripeLayout w L) L.sum hb D zero top ht k cutoff hcut fuel with
    ⟨ms, ss, h1, h2, hr⟩ | h
  · refine Or.inl ⟨ms, ss, h1, h2, ?_, ?_, ?_⟩
    · rw [convert_of_valid w hw L hT ms.ctrs hr.valid, hr.ctrs]
    · exact assemble_of_rel w hw L hT ss.dist ms.dist hr.dist
    · exact assemble_of_rel w hw L hT ss.assign ms.assign hr.assign
  · exact Or.inr h

-- the hypotheses of `mpi_kcenters_refines_serial` are satisfiable
example : TieFree 6 exD 0 1000 := by
  constructor
  · decide +kernel
  · exact fun g c hg hc => (by decide +kernel : ∀ g, g < 6 → ∀ c, c < 6 → g ≠ c → 0 < exD g c) g hg c hc
  · exact fun g c hg hc => (by decide +kernel : ∀ g, g < 6 → ∀ c, c < 6 → exD g c < 1000) g hg c hc
  · exact fun a b c d _ _ _ _ hab hcd he => exD_inj hab hcd he
example : ∀ l ∈ [2, 1, 1, 2], 0 < l := by decide +kernel

example : (mpiKcenters (stripeLayout 3 [2, 1, 1, 2]) exD 1000 (some 3) 0 4).toOption.map (·.ctrs) =
    some [(0, 0), (0, 3), (0, 2)] := by decide +kernel
example : (serialKcenters 6 exD 1000 (some 3) 0 4).toOption.map (·.ctrs) = some [0, 5, 4] := by decide +kernel
example : convertLocalIndices 3 [2, 1, 1, 2] [(0, 0), (0, 3), (0, 2)] = .ok [0, 5, 4] := by decide +kernel

/-- tie-freeness is needed: with `D 0 1 = D 0 2` the gathered argmax takes the first RANK
    attaining the maximum (rank 0 holds frame 2), the serial argmax the first FRAME (1) -/
def tieD (a b : Nat) : Nat := if a = b then 0 else if a + b = 3 then 1 else 5

theorem mpi_kcenters_tie_counterexample :
    (mpiKcenters (stripeLayout 2 [1, 1, 1]) tieD 1000 (some 2) 0 3).toOption.map
        (fun s => convertLocalIndices 2 [1, 1, 1] s.ctrs) = some (.ok [0, 2]) ∧
    (serialKcenters 3 tieD 1000 (some 2) 0 3).toOption.map (·.ctrs) = some [0, 1] := by
  decide +kernel

/-! ### the hypotheses of `mpi_kcenters_striped_consistent` / `mpi_hybrid_consistent` are satisfiable -/

/-- `exD` as a rational table -/
def exQ : Ens.Cluster.Table := fun a b => (exD a b : Rat)

example : Ens.Cluster.TableOK exQ 6 := by
  constructor
  · intro i _; simp [exQ, exD]
  · intro i j _ _; exact Nat.cast_nonneg _
  · intro i j _ _ h
    have h0 : exD i j = 0 := by unfold exQ at h; exact_mod_cast h
    by_contra hne
    simp only [exD, hne, if_false] at h0
    have : 0 < 2 ^ max i j := Nat.pow_pos (by decide)
    omega

example : ∀ a b c d, a < 6 → b < 6 → c < 6 → d < 6 → a ≠ b → c ≠ d → exQ a b = exQ c d →
    (a = c ∧ b = d) ∨ (a = d ∧ b = c) := by
  intro a b c d _ _ _ _ hab hcd he
  exact exD_inj hab hcd (by unfold exQ at he; exact_mod_cast he)

example : (mpiKcenters (stripeLayout 3 [2, 1, 1, 2]) (finD exQ) .inf (some 3) (.fin 0) 4).toOption.map (·.ctrs) =
    some [(0, 0), (0, 3), (0, 2)] := by decide +kernel

end C14
