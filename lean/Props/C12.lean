import Model.Mle
import Model.Generated.MleSite
import Proofs.C12Final
import Proofs.C12OptEx
import Proofs.C12Sym
import Mathlib.Analysis.Real.Sqrt
import Mathlib.Analysis.SpecialFunctions.Log.Basic
import Mathlib.Tactic.NormNum
import Mathlib.Logic.Relation

/-!
# C12 — the reversible estimator is a true maximum-likelihood fixed point

Theorems about `Model.Mle` (the model of `_prinz_mle_py` / `_mle_prinz_dense`) instantiated
with an arbitrary linear ordered field `K` and a function `sqrt` with
`sqrt x * sqrt x = x`, `0 ≤ sqrt x` for `x ≥ 0` (`SqrtSpec`; `Real.sqrt` satisfies it, see
`real_sqrt_spec`).  `log` is arbitrary: it only enters the convergence test.

Proved: the loop invariants, that `assert c <= 0` cannot fire, that each pair update is the
non-negative root of its quadratic, that a sweep which changes nothing yields the Prinz
self-consistency equations, that (for count matrices in which every state has an outgoing and
an incoming off-diagonal count — implied by strong connectivity with ≥ 2 states) the running
row sums stay positive, so the final assertions hold exactly and the output is a valid
reversible model.

Also proved (`optimal`, the statement is `def C12_optimal`): at a state where one more sweep
changes nothing, on a strongly connected count matrix, `X / rowsum` maximises the
log-likelihood over **all** reversible row-stochastic matrices of finite likelihood (positive
wherever `C` is) — in particular those with the same support (`optimal_same_support`) and the
transpose-symmetrised estimate (`optimal_vs_transpose`); `optimal_output` is the same for the
`r.T` returned by `run`.  The proof (`Proofs/C12Opt.lean`) is Jensen's inequality for `log`
plus the Prinz equations; no uniqueness or convergence argument is needed.

**Exact fixed point vs. "up to the convergence tolerance".**  `fixed_point_prinz`, `optimal`,
`optimal_same_support`, `optimal_vs_transpose`, `optimal_output` are the `_partial` forms of
the property's clauses: they speak about a state at which one more sweep changes *nothing*
(aliases `fixed_point_prinz_partial`, `optimal_partial`, `optimal_output_partial`).  The full
clause — every model returned by `run` with tolerance `tol` is within `f(tol)` of every
competitor — is `def C12_optimal_returned_full`, **not asserted**.

NOT proved: that the loop *reaches* a fixed point (convergence of the block coordinate ascent,
hence `C12_optimal_returned_full`) — examined numerically by the correspondence check;
termination of the loop before `max_iter` (the property allows a warning); anything about
floating-point rounding.

Correspondence-only clauses (no theorem; established by the differential run in
`harness/props/c12.py` on every case): "the compiled and the pure-Python implementations
agree" (there is one model, parametrised by the logarithm and the final assertions; each
implementation is compared with its flavour and with the other), and the densify / estimate /
re-wrap of sparse input in `builders.mle` (incl. inputs with un-summed repeated entries).

Scope of the returns / validity theorems: `Conn` (every state has an outgoing and an incoming
off-diagonal count) is implied by strong connectivity with ≥ 2 states
(`conn_of_strongly_connected`) and is unsatisfiable for one state; the one-state chain
`C = [[c]]` is covered separately by `one_state`.
-/

set_option linter.unusedSectionVars false

namespace C12
open Ens Ens.Mle Ens.C12P

section field
variable {K : Type} [Field K] [LinearOrder K] [IsStrictOrderedRing K] {n : Nat}

/-- After `init` and any number of sweeps: no assertion has fired, `X` is symmetric and
non-negative and the running row sums are the row sums of `X`. -/
theorem sweep_invariants {sqrt log : K → K} (hs : SqrtSpec sqrt) {C : Mat K n}
    (hC : ∀ i j, 0 ≤ mget C i j) {Crs : Vec K n} {st0 : St K n}
    (hinit : init C = .ok (Crs, st0)) (k : Nat) :
    ∃ st, sweepsN sqrt log C Crs k st0 = .ok st ∧
      (∀ i j, mget st.X i j = mget st.X j i) ∧ (∀ i j, 0 ≤ mget st.X i j) ∧
      (∀ i, vget st.rs i = ∑ j, mget st.X i j) := by
  obtain ⟨hD, hinv, _⟩ := init_inv hC hinit
  obtain ⟨st, h1, h2⟩ := sweepsN_gen Inv (fun _ h => sweep_inv (log := log) hs hD h) k hinv
  exact ⟨st, h1, h2.symm, h2.nonneg, h2.rs⟩

/-- the same through the real loop with its convergence test and iteration cap -/
theorem loop_invariants {sqrt log : K → K} (hs : SqrtSpec sqrt) (tol : K) {C : Mat K n}
    (hC : ∀ i j, 0 ≤ mget C i j) {Crs : Vec K n} {st0 : St K n}
    (hinit : init C = .ok (Crs, st0)) (maxIter : Nat) :
    ∃ st k, loop sqrt log tol C Crs maxIter 0 st0 0 = .ok (st, k) ∧ k + 1 ≤ max maxIter 1 ∧
      (∀ i j, mget st.X i j = mget st.X j i) ∧ (∀ i j, 0 ≤ mget st.X i j) ∧
      (∀ i, vget st.rs i = ∑ j, mget st.X i j) := by
  obtain ⟨hD, hinv, _⟩ := init_inv hC hinit
  obtain ⟨st, k, h1, h2, h4⟩ :=
    loop_gen Inv (fun _ h => sweep_inv (log := log) hs hD h) tol maxIter 0 st0 0 hinv
  exact ⟨st, k, h1, by omega, h2.symm, h2.nonneg, h2.rs⟩

/-- `assert c <= 0` cannot fire in exact arithmetic: on every state satisfying the invariant
the coefficient is non-positive and the pair step returns. -/
theorem c_nonpos {sqrt : K → K} {C : Mat K n} {Crs : Vec K n} (hD : Data C Crs)
    {st : St K n} (h : Inv st) (i j : Fin n) :
    coefC C st i j ≤ 0 ∧ ∃ st', pairStep sqrt C Crs st i j = .ok st' :=
  ⟨coefC_nonpos hD h i j, _, pairStep_ok hD h i j⟩

/-- the rounding guard in front of that assertion
(`if 0 < c <= 1e-9 * (C_ij + C_ji) * X_rs[i] * X_rs[j]: c = 0`) never fires in exact arithmetic:
it leaves `c` unchanged on every state satisfying the invariant, so the pair step is the
unguarded Prinz update there (`pairStep_ok`); it only matters for floating-point rounding. -/
theorem guard_never_fires {C : Mat K n} {Crs : Vec K n} (hD : Data C Crs)
    {st : St K n} (h : Inv st) (i j : Fin n) :
    guardC C st i j (coefC C st i j) = coefC C st i j :=
  guardC_of_nonpos i j (coefC_nonpos hD h i j)

/-- the value written by a pair update: for `a ≠ 0` it solves `a v² + b v + c = 0`, the
discriminant is non-negative and `v ≥ 0`; for `a = 0` it is the old value. -/
theorem update_is_root {sqrt : K → K} (hs : SqrtSpec sqrt) {C : Mat K n} {Crs : Vec K n}
    (hD : Data C Crs) {st : St K n} (h : Inv st) (i j : Fin n) :
    0 ≤ newV sqrt C Crs st i j ∧
    0 ≤ coefB C Crs st i j * coefB C Crs st i j - 4 * coefA C Crs i j * coefC C st i j ∧
    (coefA C Crs i j ≠ 0 →
      coefA C Crs i j * newV sqrt C Crs st i j * newV sqrt C Crs st i j
        + coefB C Crs st i j * newV sqrt C Crs st i j + coefC C st i j = 0) ∧
    (coefA C Crs i j = 0 → newV sqrt C Crs st i j = mget st.X j i) :=
  ⟨newV_nonneg hs hD h i j, disc_nonneg (coefA_nonneg hD i j) (coefC_nonpos hD h i j),
    newV_root hs hD h i j, newV_of_zero⟩

/-- A sweep that returns the same `X` ⇒ the Prinz self-consistency equations: for every
state with off-diagonal counts `x_ii · c_i = c_ii · x_i`, and for every pair `i ≠ j` with
`a_ij ≠ 0`: `(c_ij + c_ji) · x_i · x_j = x_ij · (c_i · x_j + c_j · x_i)`. -/
theorem fixed_point_prinz {sqrt log : K → K} (hs : SqrtSpec sqrt) {C : Mat K n} {Crs : Vec K n}
    (hD : Data C Crs) {st : St K n} (h : Inv st) {q : St K n × K}
    (hsw : sweep sqrt log C Crs st = .ok q) (hX : q.1.X = st.X) :
    (∀ i, 0 < vget Crs i - mget C i i →
      mget st.X i i * vget Crs i = mget C i i * vget st.rs i) ∧
    (∀ i j, i ≠ j → coefA C Crs i j ≠ 0 →
      (mget C i j + mget C j i) * vget st.rs i * vget st.rs j
        = mget st.X i j * (vget Crs i * vget st.rs j + vget Crs j * vget st.rs i)) :=
  prinz_of_sweep_fixed hs hD h hsw hX

/-- `_partial` alias: the self-consistency clause at an *exact* fixed point of the sweep -/
theorem fixed_point_prinz_partial {sqrt log : K → K} (hs : SqrtSpec sqrt) {C : Mat K n}
    {Crs : Vec K n} (hD : Data C Crs) {st : St K n} (h : Inv st) {q : St K n × K}
    (hsw : sweep sqrt log C Crs st = .ok q) (hX : q.1.X = st.X) :
    (∀ i, 0 < vget Crs i - mget C i i →
      mget st.X i i * vget Crs i = mget C i i * vget st.rs i) ∧
    (∀ i j, i ≠ j → coefA C Crs i j ≠ 0 →
      (mget C i j + mget C j i) * vget st.rs i * vget st.rs j
        = mget st.X i j * (vget Crs i * vget st.rs j + vget Crs j * vget st.rs i)) :=
  fixed_point_prinz hs hD h hsw hX

/-- In exact arithmetic the two final assertions are theorems: on a state satisfying the
invariant with positive running row sums, `finish` returns the model or (cap reached and the
`warnings.warn` arguments swapped) the `TypeError` — never an `AssertionError`.  So a failure
of these assertions on the real code is purely a rounding effect. -/
theorem final_asserts_exact {P : Params K} (hP : ParamsOK P) (hn : 0 < n) {st : St K n}
    (h : Inv st) (hpos : ∀ i, 0 < vget st.rs i) (k : Nat) :
    finish P st k ≠ .error .assertion ∧
    (¬ (k + 1 = P.maxIter ∧ P.warnSwapped = true) → ∃ r, finish P st k = .ok r) := by
  rcases finish_spec hP hn h hpos k with ⟨hk, hw, herr⟩ | ⟨_, r, hr, _⟩
  · exact ⟨by rw [herr]; simp, fun hne => absurd ⟨hk, hw⟩ hne⟩
  · exact ⟨by rw [hr]; simp, fun _ => ⟨r, hr⟩⟩

/-- The positivity that `final_asserts_exact` needs is itself an invariant when every state
has an outgoing and an incoming off-diagonal count: wherever `C + Cᵀ` (resp. the diagonal of
`C`) is positive, `X` stays positive, hence every running row sum stays positive. -/
theorem rowsums_stay_positive {sqrt log : K → K} (hs : SqrtSpec sqrt) {C : Mat K n}
    (hC : ∀ i j, 0 ≤ mget C i j) (hc : Conn C) {Crs : Vec K n} {st0 : St K n}
    (hinit : init C = .ok (Crs, st0)) (k : Nat) :
    ∃ st, sweepsN sqrt log C Crs k st0 = .ok st ∧ (∀ i, 0 < vget st.rs i) ∧
      (∀ i j, i ≠ j → 0 < mget C i j + mget C j i → 0 < mget st.X i j) ∧
      (∀ i, 0 < mget C i i → 0 < mget st.X i i) := by
  obtain ⟨hD, hinv, _⟩ := init_inv hC hinit
  obtain ⟨st, h1, h2⟩ :=
    sweepsN_gen (Good C) (good_sweep (log := log) hs hD hc) k ⟨hinv, init_pos hinit⟩
  exact ⟨st, h1, fun i => h2.2.rs_pos hD hc h2.1 i, h2.2.off, h2.2.diag⟩

/-- Every model the estimator returns is valid: rows of `T` are probability distributions,
`π` is a positive probability vector, detailed balance `π_i T_ij = π_j T_ji` and stationarity
hold, `T = X / rowsum`, with `X` symmetric. (This feeds C04's `mle_output_*`.) -/
theorem output_valid {P : Params K} (hs : SqrtSpec P.sqrt) (hP : ParamsOK P) (hn : 0 < n)
    (hmax : 0 < P.maxIter) {C : Mat K n} (hC : ∀ i j, 0 ≤ mget C i j) (hc : Conn C)
    {r : Result K n} (hr : run P C = .ok r) :
    (∀ i, ∑ j, mget r.T i j = 1) ∧ (∀ i j, 0 ≤ mget r.T i j) ∧
    (∑ i, vget r.pi i = 1) ∧ (∀ i, 0 < vget r.pi i) ∧
    (∀ i j, vget r.pi i * mget r.T i j = vget r.pi j * mget r.T j i) ∧
    (∀ j, ∑ i, vget r.pi i * mget r.T i j = vget r.pi j) ∧
    (∀ i j, mget r.X i j = mget r.X j i) ∧
    (∀ i j, mget r.T i j = mget r.X i j / vget r.rs i) := by
  obtain ⟨Crs, st, k, hD, hinv, hpos, hv⟩ := run_ok_spec hs hP hn hmax hC hc hr
  have hrs := fun i => hpos.rs_pos hD hc hinv i
  obtain ⟨a, b, c, d, e, f⟩ := valid_props hn hinv hrs hv
  refine ⟨a, b, c, d, e, f, ?_, ?_⟩
  · intro i j; rw [hv.X]; exact hinv.symm i j
  · intro i j; rw [hv.X, hv.rs]; exact hv.T i j

/-- For an arbitrary state of the call site (any field): the estimator never ends in an
assertion failure; it returns a model, except that when the last permitted sweep was used and
the `warnings.warn` call has its arguments swapped it ends in `TypeError`.  With the call site
in its repaired form (`warnSwapped = false`) it always returns a model, flagged `warned` when
the cap was reached. -/
theorem returns_partial {P : Params K} (hs : SqrtSpec P.sqrt) (hP : ParamsOK P) (hn : 0 < n)
    (hmax : 0 < P.maxIter) {C : Mat K n} (hC : ∀ i j, 0 ≤ mget C i j) (hc : Conn C) :
    run P C ≠ .error .assertion ∧ run P C ≠ .error .unbound ∧
    (P.warnSwapped = false → ∃ r, run P C = .ok r) ∧
    (run P C = .error .typeError → P.warnSwapped = true) := by
  obtain ⟨Crs, st, k, _, _, _, _, hcase⟩ := run_spec hs hP hn hmax hC hc
  rcases hcase with ⟨_, hw, herr⟩ | ⟨hne, r, hr, _⟩
  · refine ⟨by rw [herr]; simp, by rw [herr]; simp, fun hf => ?_, fun _ => hw⟩
    rw [hw] at hf; cases hf
  · refine ⟨by rw [hr]; simp, by rw [hr]; simp, fun _ => ⟨r, hr⟩, fun he => ?_⟩
    rw [hr] at he; cases he

end field

/-! ### the hypothesis `Conn` follows from the property's quantifier -/

/-- the transition graph of a count matrix -/
def edge {K : Type} [Zero K] [LT K] {n : Nat} (C : Mat K n) (i j : Fin n) : Prop := 0 < mget C i j

/-- strongly connected: every state reaches every state along positive counts -/
def StronglyConnected {K : Type} [Zero K] [LT K] {n : Nat} (C : Mat K n) : Prop :=
  ∀ i j, Relation.TransGen (edge C) i j

/-- A strongly connected count matrix with at least two states satisfies `Conn`: every state
has an outgoing and an incoming off-diagonal count. -/
theorem conn_of_strongly_connected {K : Type} [Field K] [LinearOrder K] [IsStrictOrderedRing K]
    {n : Nat} (C : Mat K n) (hsc : StronglyConnected C) (h2 : ∀ i : Fin n, ∃ j, j ≠ i) :
    Conn C := by
  constructor
  · intro i
    obtain ⟨j, hj⟩ := h2 i
    exact exists_edge_of_transGen (hsc i j) hj.symm
  · intro i
    obtain ⟨j, hj⟩ := h2 i
    exact exists_edge_of_transGen (r := Function.swap (edge C))
      (Relation.transGen_swap.2 (hsc j i)) hj.symm

/-- `Real.sqrt` satisfies the specification the theorems assume (non-vacuity) -/
theorem real_sqrt_spec : SqrtSpec Real.sqrt := Ens.C12P.real_sqrt_spec

/-- the all-ones 2×2 count matrix -/
def ones2 : Mat ℝ 2 := Vector.ofFn fun _ => Vector.ofFn fun _ => 1

-- non-vacuity of the hypotheses `∀ i j, 0 ≤ C i j` and `Conn C`
theorem ones2_nonneg : ∀ i j, 0 ≤ mget ones2 i j := by
  intro i j; simp [ones2, mget_ofFn]

theorem ones2_conn : Conn ones2 :=
  Conn.of_offdiag_pos fin2_other fun i j _ => by simp [ones2, mget_ofFn]

-- the hypotheses of the theorems above are satisfiable: `init` succeeds on `ones2` over ℝ and its
-- state satisfies both invariants; with `Real.sqrt` every number of sweeps runs through
example : ∃ Crs st0, init ones2 = .ok (Crs, st0) ∧ Data ones2 Crs ∧ Inv st0 ∧ Pos ones2 st0 := by
  obtain ⟨Crs, st0, h⟩ := conn_init ones2_nonneg ones2_conn
  obtain ⟨hD, hI, _⟩ := init_inv ones2_nonneg h
  exact ⟨Crs, st0, h, hD, hI, init_pos h⟩

example (k : Nat) : ∃ Crs st0 st, init ones2 = .ok (Crs, st0) ∧
    sweepsN Real.sqrt Real.log ones2 Crs k st0 = .ok st ∧ ∀ i, 0 < vget st.rs i := by
  obtain ⟨Crs, st0, h⟩ := conn_init ones2_nonneg ones2_conn
  obtain ⟨st, h1, h2, _⟩ := rowsums_stay_positive (log := Real.log) real_sqrt_spec ones2_nonneg
    ones2_conn h k
  exact ⟨Crs, st0, st, h, h1, h2⟩

/-- the two `warnings.warn` call sites the translator read are in their repaired form
(message first, category second).  If the source regresses, the regenerated
`Model.Generated.MleSite` makes this fail. -/
theorem site_is_fixed :
    Ens.Generated.MleSite.warnSwappedPy = false ∧ Ens.Generated.MleSite.warnSwappedPyx = false := by
  decide

/-- **Termination with a model or a warning (full statement, over ℝ)**, for the
`warnings.warn` call site as the translator read it from the source.  Proved as `returns`
(the call site is in its repaired form). -/
def C12_returns_full : Prop :=
  ∀ (n : Nat) (P : Params ℝ) (C : Mat ℝ n), P.sqrt = Real.sqrt → ParamsOK P → 0 < n →
    0 < P.maxIter → P.warnSwapped = Ens.Generated.MleSite.warnSwappedPy →
    (∀ i j, 0 ≤ mget C i j) → Conn C → ∃ r, run P C = .ok r

/-- **Full statement, for the code as it is**: on every non-negative count matrix in which each
state has outgoing and incoming off-diagonal counts (implied by strong connectivity with ≥ 2
states, `conn_of_strongly_connected`) the estimator returns a model — valid by `output_valid`,
and flagged `warned` when the iteration cap was reached. -/
theorem returns : C12_returns_full := by
  intro n P C hsqrt hP hn hmax hsite hC hc
  have hs : SqrtSpec P.sqrt := by rw [hsqrt]; exact real_sqrt_spec
  exact (returns_partial hs hP hn hmax hC hc).2.2.1 (hsite.trans site_is_fixed.1)

/-- the same for both implementations' call sites and any linear ordered field with a square
root: with `warnSwapped` equal to either generated flag, `run` returns a model -/
theorem returns_any_field {K : Type} [Field K] [LinearOrder K] [IsStrictOrderedRing K] {n : Nat}
    {P : Params K} (hs : SqrtSpec P.sqrt) (hP : ParamsOK P) (hn : 0 < n) (hmax : 0 < P.maxIter)
    (hsite : P.warnSwapped = Ens.Generated.MleSite.warnSwappedPy ∨
             P.warnSwapped = Ens.Generated.MleSite.warnSwappedPyx)
    {C : Mat K n} (hC : ∀ i j, 0 ≤ mget C i j) (hc : Conn C) : ∃ r, run P C = .ok r :=
  (returns_partial hs hP hn hmax hC hc).2.2.1 (hsite.elim (·.trans site_is_fixed.1) (·.trans site_is_fixed.2))

/-- **One state** (`C = [[c]]`, `c > 0`), which `Conn` excludes: every sweep is the identity and
the estimator returns `T = [[1]]`, `π = [1]` (any field, either implementation's call site). -/
theorem one_state {K : Type} [Field K] [LinearOrder K] [IsStrictOrderedRing K]
    {P : Params K} (hP : ParamsOK P) (hmax : 0 < P.maxIter)
    (hsite : P.warnSwapped = Ens.Generated.MleSite.warnSwappedPy ∨
             P.warnSwapped = Ens.Generated.MleSite.warnSwappedPyx)
    {C : Mat K 1} (hc : 0 < mget C 0 0) :
    ∃ r, run P C = .ok r ∧ mget r.T 0 0 = 1 ∧ vget r.pi 0 = 1 :=
  run_one_state hP hmax (hsite.elim (·.trans site_is_fixed.1) (·.trans site_is_fixed.2)) hc

/-- about the *old* call site (`warnSwapped = true`, before the `fix:` commit) only: there
`max_iter = 1` on the all-ones 2×2 matrix used the last permitted sweep and ended in
`TypeError` instead of a model plus warning -/
theorem returns_old_source_counterexample :
    ¬ ∀ (n : Nat) (P : Params ℝ) (C : Mat ℝ n), P.sqrt = Real.sqrt → ParamsOK P → 0 < n →
        0 < P.maxIter → P.warnSwapped = true →
        (∀ i j, 0 ≤ mget C i j) → Conn C → ∃ r, run P C = .ok r := by
  intro hfull
  let P : Params ℝ :=
    { sqrt := Real.sqrt
      log := fun x => x
      tol := 0
      maxIter := 1
      impl := Impl.py
      warnSwapped := true
      rowAtol := 0
      rowRtol := 0
      piCheck := PiCheck.isclose 0 0 }
  have hP : ParamsOK P := ⟨le_refl _, le_refl _, le_refl _, le_refl _⟩
  obtain ⟨r, hr⟩ := hfull 2 P ones2 rfl hP (by decide) (by decide) rfl ones2_nonneg ones2_conn
  obtain ⟨Crs, st, k, _, _, _, hk, hcase⟩ :=
    run_spec (P := P) real_sqrt_spec hP (by decide) (by decide) ones2_nonneg ones2_conn
  rcases hcase with ⟨_, _, herr⟩ | ⟨hne, _⟩
  · rw [herr] at hr; cases hr
  · apply hne
    have hk1 : k + 1 ≤ 1 := hk
    exact ⟨by show k + 1 = 1; omega, rfl⟩

/-- log-likelihood of a transition matrix on the counts (`0 · log 0 = 0` as `Real.log 0 = 0`) -/
noncomputable def logLik {n : Nat} (C T : Mat ℝ n) : ℝ :=
  ∑ i, ∑ j, mget C i j * Real.log (mget T i j)

/-- In a strongly connected graph two states whose only counts go to each other are the whole
state space.  (Such a pair is exactly a pair with `a = 0`, which the code skips; this lemma is
what makes the Prinz equations hold for *every* pair at a fixed point.) -/
theorem closed_pair_is_all {K : Type} [Field K] [LinearOrder K] [IsStrictOrderedRing K]
    {n : Nat} (C : Mat K n) (hsc : StronglyConnected C) {i j : Fin n}
    (hi : ∀ k, k ≠ j → mget C i k = 0) (hj : ∀ k, k ≠ i → mget C j k = 0) :
    ∀ k, k = i ∨ k = j := by
  have step : ∀ b c, (b = i ∨ b = j) → edge C b c → (c = i ∨ c = j) := by
    intro b c hb hbc
    unfold edge at hbc
    rcases hb with rfl | rfl
    · right; by_contra hne; rw [hi c hne] at hbc; exact lt_irrefl _ hbc
    · left; by_contra hne; rw [hj c hne] at hbc; exact lt_irrefl _ hbc
  intro k
  have key : ∀ b, Relation.TransGen (edge C) i b → (b = i ∨ b = j) := by
    intro b h
    induction h with
    | single h1 => exact step _ _ (Or.inl rfl) h1
    | tail _ h2 ih => exact step _ _ ih h2
  exact key k (hsc i k)

/-- **Optimality (full statement).**  On a strongly connected non-negative count matrix with at
least two states, at a state of the loop (invariant `Inv`, support invariant `Pos` — both
hold along the iteration by `sweep_invariants` / `rowsums_stay_positive`) where one more sweep
of the model over ℝ with `Real.sqrt` changes nothing, the matrix `X / rowsum` that `finish`
returns has log-likelihood at least that of **every** reversible row-stochastic matrix `T'`
(detailed balance with some positive `π'`) that is positive wherever `C` is — i.e. every
reversible matrix of finite likelihood; in particular those with the same support as `X`
(`optimal_same_support`) and the transpose-symmetrised estimate (`optimal_vs_transpose`).

The hypothesis is the property's own quantifier `StronglyConnected C` and not `Conn C`: with
`Conn` alone a closed pair `i ⇄ j` inside a larger matrix has `a = 0`, the code never updates
`X[i,j]`, and the Prinz equation for that pair is not forced.  The competitors need only be
positive where `C` is, which admits more of them than "the same zero pattern as `X`". -/
def C12_optimal : Prop :=
  ∀ (n : Nat) (C : Mat ℝ n) (Crs : Vec ℝ n) (st : St ℝ n) (log : ℝ → ℝ) (q : St ℝ n × ℝ),
    Data C Crs → StronglyConnected C → (∀ i : Fin n, ∃ j, j ≠ i) → Inv st → Pos C st →
    sweep Real.sqrt log C Crs st = .ok q → q.1.X = st.X →
    ∀ (T' : Mat ℝ n) (π' : Vec ℝ n),
      (∀ i j, 0 ≤ mget T' i j) → (∀ i, ∑ j, mget T' i j = 1) →
      (∀ i, 0 < vget π' i) → (∀ i j, vget π' i * mget T' i j = vget π' j * mget T' j i) →
      (∀ i j, 0 < mget C i j → 0 < mget T' i j) →
      logLik C T' ≤ logLik C (Vector.ofFn fun i => Vector.ofFn fun j =>
        mget st.X i j / vget st.rs i)

/-- a pair skipped by the `a == 0` guard is the whole state space (strong connectivity) -/
theorem a_zero_pair_is_all {n : Nat} {C : Mat ℝ n} {Crs : Vec ℝ n} (hD : Data C Crs)
    (hsc : StronglyConnected C) :
    ∀ i j : Fin n, i ≠ j → coefA C Crs i j = 0 → ∀ k, k = i ∨ k = j := by
  intro i j _ ha
  obtain ⟨_, _, z1, z2⟩ := coefA_zero hD ha
  exact closed_pair_is_all C hsc z1 z2

/-- **The fixed point of the Prinz iteration maximises the reversible likelihood.** -/
theorem optimal : C12_optimal := by
  intro n C Crs st log q hD hsc h2 hinv hpos hsw hX T' π' hT0 hT1 hπ hdb hsupp
  have hc : Conn C := conn_of_strongly_connected C hsc h2
  have key := optimal_of_fixed hD hc hinv (fun i => hpos.rs_pos hD hc hinv i)
    (a_zero_pair_is_all hD hsc) hsw hX T' π' hT0 hT1 hπ hdb hsupp
  unfold logLik
  simpa only [mget_ofFn] using key

/-- the literal "same support" form: competitors with exactly the zero pattern of `X` -/
theorem optimal_same_support {n : Nat} {C : Mat ℝ n} {Crs : Vec ℝ n} {st : St ℝ n}
    {log : ℝ → ℝ} {q : St ℝ n × ℝ} (hD : Data C Crs) (hsc : StronglyConnected C)
    (h2 : ∀ i : Fin n, ∃ j, j ≠ i) (hinv : Inv st) (hpos : Pos C st)
    (hsw : sweep Real.sqrt log C Crs st = .ok q) (hX : q.1.X = st.X)
    (T' : Mat ℝ n) (π' : Vec ℝ n)
    (hT0 : ∀ i j, 0 ≤ mget T' i j) (hT1 : ∀ i, ∑ j, mget T' i j = 1)
    (hπ : ∀ i, 0 < vget π' i)
    (hdb : ∀ i j, vget π' i * mget T' i j = vget π' j * mget T' j i)
    (hsame : ∀ i j, mget T' i j = 0 ↔ mget st.X i j = 0) :
    logLik C T' ≤ logLik C (Vector.ofFn fun i => Vector.ofFn fun j =>
      mget st.X i j / vget st.rs i) := by
  apply optimal n C Crs st log q hD hsc h2 hinv hpos hsw hX T' π' hT0 hT1 hπ hdb
  intro i j hcij
  have hXpos : 0 < mget st.X i j := by
    by_cases hij : i = j
    · subst hij; exact hpos.diag i hcij
    · exact hpos.off i j hij (add_pos_of_pos_of_nonneg hcij (hD.nonneg j i))
  rcases eq_or_lt_of_le (hT0 i j) with h0 | h
  · exact absurd ((hsame i j).1 h0.symm) (ne_of_gt hXpos)
  · exact h

/-- the transpose-symmetrised estimate `(C + Cᵀ) / rowsum (C + Cᵀ)` -/
noncomputable def symEstimate {n : Nat} (C : Mat ℝ n) : Mat ℝ n :=
  Vector.ofFn fun i => Vector.ofFn fun j =>
    (mget C i j + mget C j i) / ∑ k, (mget C i k + mget C k i)

/-- **"In particular the transpose-symmetrised estimate"**: at a fixed point the returned
matrix is at least as likely as `(C + Cᵀ) / rowsum`. -/
theorem optimal_vs_transpose {n : Nat} {C : Mat ℝ n} {Crs : Vec ℝ n} {st : St ℝ n}
    {log : ℝ → ℝ} {q : St ℝ n × ℝ} (hD : Data C Crs) (hsc : StronglyConnected C)
    (h2 : ∀ i : Fin n, ∃ j, j ≠ i) (hinv : Inv st) (hpos : Pos C st)
    (hsw : sweep Real.sqrt log C Crs st = .ok q) (hX : q.1.X = st.X) :
    logLik C (symEstimate C) ≤ logLik C (Vector.ofFn fun i => Vector.ofFn fun j =>
      mget st.X i j / vget st.rs i) := by
  have hc : Conn C := conn_of_strongly_connected C hsc h2
  have hs : ∀ i, 0 < ∑ k, (mget C i k + mget C k i) := hc.sym_rowsum_pos hD.nonneg
  apply optimal n C Crs st log q hD hsc h2 hinv hpos hsw hX (symEstimate C)
    (Vector.ofFn fun i => ∑ k, (mget C i k + mget C k i))
  · intro i j
    simp only [symEstimate, mget_ofFn]
    exact div_nonneg (add_nonneg (hD.nonneg i j) (hD.nonneg j i)) (hs i).le
  · intro i
    simp only [symEstimate, mget_ofFn]
    rw [← Finset.sum_div]
    exact div_self (hs i).ne'
  · intro i; rw [vget_ofFn]; exact hs i
  · intro i j
    simp only [symEstimate, mget_ofFn, vget_ofFn]
    rw [mul_div_cancel₀ _ (hs i).ne', mul_div_cancel₀ _ (hs j).ne', add_comm]
  · intro i j hcij
    simp only [symEstimate, mget_ofFn]
    exact div_pos (add_pos_of_pos_of_nonneg hcij (hD.nonneg j i)) (hs i)

/-- **End to end**: if the estimator returns a model `r` and one more sweep from the returned
`(X, X_rs)` changes nothing (the loop stopped at an exact fixed point), then the returned
transition matrix `r.T` maximises the likelihood over all reversible row-stochastic matrices
of finite likelihood. -/
theorem optimal_output {n : Nat} {P : Params ℝ} (hsq : P.sqrt = Real.sqrt) (hP : ParamsOK P)
    (hn : 0 < n) (hmax : 0 < P.maxIter) {C : Mat ℝ n} (hC : ∀ i j, 0 ≤ mget C i j)
    (hsc : StronglyConnected C) (h2 : ∀ i : Fin n, ∃ j, j ≠ i)
    {r : Result ℝ n} (hr : run P C = .ok r)
    {Crs : Vec ℝ n} {st0 : St ℝ n} (hinit : init C = .ok (Crs, st0)) {q : St ℝ n × ℝ}
    (hsw : sweep Real.sqrt P.log C Crs { X := r.X, rs := r.rs } = .ok q) (hX : q.1.X = r.X)
    (T' : Mat ℝ n) (π' : Vec ℝ n)
    (hT0 : ∀ i j, 0 ≤ mget T' i j) (hT1 : ∀ i, ∑ j, mget T' i j = 1)
    (hπ : ∀ i, 0 < vget π' i)
    (hdb : ∀ i j, vget π' i * mget T' i j = vget π' j * mget T' j i)
    (hsupp : ∀ i j, 0 < mget C i j → 0 < mget T' i j) :
    logLik C T' ≤ logLik C r.T := by
  have hc : Conn C := conn_of_strongly_connected C hsc h2
  have hs : SqrtSpec P.sqrt := by rw [hsq]; exact real_sqrt_spec
  obtain ⟨hD, _⟩ := init_inv hC hinit
  obtain ⟨_, st, k, _, hinv, hpos, hv⟩ := run_ok_spec hs hP hn hmax hC hc hr
  rw [hv.X, hv.rs] at hsw
  rw [hv.X] at hX
  have key := optimal_of_fixed hD hc hinv (fun i => hpos.rs_pos hD hc hinv i)
    (a_zero_pair_is_all hD hsc) hsw hX T' π' hT0 hT1 hπ hdb hsupp
  unfold logLik
  simpa only [hv.T] using key

/-! #### non-vacuity: a concrete fixed point with a non-symmetric count matrix

`C = [[1,1],[2,4]]`, `X = [[1,1],[1,2]]`, `X_rs = (2,3)` (`Proofs/C12OptEx.lean`): every
hypothesis of `optimal` / `optimal_vs_transpose` holds, and the competitor is a different
matrix (`2/5 ≠ 1/2`). -/

theorem exC_strongly_connected : StronglyConnected exC :=
  fun i j => Relation.TransGen.single (exC_pos i j)

example (log : ℝ → ℝ) : Data exC exCrs ∧ StronglyConnected exC ∧ (∀ i : Fin 2, ∃ j, j ≠ i) ∧
    Inv exSt ∧ Pos exC exSt ∧
    ∃ q, sweep Real.sqrt log exC exCrs exSt = .ok q ∧ q.1.X = exSt.X :=
  ⟨exData, exC_strongly_connected,
    fin2_other, exInv, exPos, fixed_example log⟩

example : logLik exC (symEstimate exC)
    ≤ logLik exC (Vector.ofFn fun i => Vector.ofFn fun j => mget exSt.X i j / vget exSt.rs i) := by
  obtain ⟨q, hsw, hX⟩ := fixed_example Real.log
  exact optimal_vs_transpose exData exC_strongly_connected fin2_other exInv exPos hsw hX

example : mget (symEstimate exC) 0 0 = 2 / 5 ∧ mget exSt.X 0 0 / vget exSt.rs 0 = 1 / 2 := by
  refine ⟨?_, ?_⟩
  · simp only [symEstimate, mget_ofFn, Fin.sum_univ_two, exC_get, exCf, Fin.isValue, one_ne_zero,
      if_false, if_true]
    norm_num
  · rw [exX_get, exrs_get]
    simp only [exXf, if_true]

/-- `_partial` alias of `optimal`: optimality at an exact fixed point of the sweep -/
theorem optimal_partial : C12_optimal := optimal

/-- `_partial` alias of `optimal_output`: the returned `r.T` is optimal *if* one more sweep from
the returned state changes nothing -/
theorem optimal_output_partial {n : Nat} {P : Params ℝ} (hsq : P.sqrt = Real.sqrt)
    (hP : ParamsOK P) (hn : 0 < n) (hmax : 0 < P.maxIter) {C : Mat ℝ n}
    (hC : ∀ i j, 0 ≤ mget C i j) (hsc : StronglyConnected C) (h2 : ∀ i : Fin n, ∃ j, j ≠ i)
    {r : Result ℝ n} (hr : run P C = .ok r)
    {Crs : Vec ℝ n} {st0 : St ℝ n} (hinit : init C = .ok (Crs, st0)) {q : St ℝ n × ℝ}
    (hsw : sweep Real.sqrt P.log C Crs { X := r.X, rs := r.rs } = .ok q) (hX : q.1.X = r.X)
    (T' : Mat ℝ n) (π' : Vec ℝ n)
    (hT0 : ∀ i j, 0 ≤ mget T' i j) (hT1 : ∀ i, ∑ j, mget T' i j = 1)
    (hπ : ∀ i, 0 < vget π' i)
    (hdb : ∀ i j, vget π' i * mget T' i j = vget π' j * mget T' j i)
    (hsupp : ∀ i j, 0 < mget C i j → 0 < mget T' i j) :
    logLik C T' ≤ logLik C r.T :=
  optimal_output hsq hP hn hmax hC hsc h2 hr hinit hsw hX T' π' hT0 hT1 hπ hdb hsupp

/-- **Full clause of the property — NOT proved, never asserted.**  For *every* model `r` that
`run` returns without the convergence warning (the loop stopped because the change of its
pseudo log-likelihood fell below `P.tol`, not at an exact fixed point), the log-likelihood of
`r.T` is within `f P.tol` of that of every reversible row-stochastic competitor of finite
likelihood, for a modulus `f` with `f t → 0` as `t → 0` that may depend on the counts.
Missing: a quantitative convergence statement for the block coordinate ascent (how far a state
whose sweep changes the pseudo log-likelihood by ≤ tol is from the fixed point), and the
relation between the code's pseudo log-likelihood and the true one.  Examined numerically by
the correspondence check (likelihood dominance with tolerance `1e-7·(1+|L|)`). -/
def C12_optimal_returned_full (f : ∀ {n : Nat}, Mat ℝ n → ℝ → ℝ) : Prop :=
  (∀ (n : Nat) (C : Mat ℝ n) (ε : ℝ), 0 < ε → ∃ δ, 0 < δ ∧ ∀ t, 0 ≤ t → t < δ → f C t < ε) ∧
  ∀ (n : Nat) (P : Params ℝ) (C : Mat ℝ n) (r : Result ℝ n),
    P.sqrt = Real.sqrt → P.log = Real.log → ParamsOK P → 0 < n → 0 < P.maxIter → 0 ≤ P.tol →
    (∀ i j, 0 ≤ mget C i j) → StronglyConnected C → (∀ i : Fin n, ∃ j, j ≠ i) →
    run P C = .ok r → r.warned = false →
    ∀ (T' : Mat ℝ n) (π' : Vec ℝ n),
      (∀ i j, 0 ≤ mget T' i j) → (∀ i, ∑ j, mget T' i j = 1) →
      (∀ i, 0 < vget π' i) → (∀ i j, vget π' i * mget T' i j = vget π' j * mget T' j i) →
      (∀ i j, 0 < mget C i j → 0 < mget T' i j) →
      logLik C T' ≤ logLik C r.T + f C P.tol

/-! #### non-vacuity of `optimal_output`: a symmetric count matrix

For the symmetric `sym2 = [[1,1],[1,1]]` the initial state `X = C + Cᵀ` is already a fixed point
of the sweep (`sym2_fixed`), so `run` returns it (`run_of_fixed_init`), whatever the tolerance;
every hypothesis of `optimal_output` holds for the model that `run` returns. -/

theorem sym2_strongly_connected : StronglyConnected sym2 := by
  intro i j
  apply Relation.TransGen.single
  unfold edge
  rw [sym2_get]; norm_num

example (P : Params ℝ) (hsq : P.sqrt = Real.sqrt) (hP : ParamsOK P) (hmax : 0 < P.maxIter)
    (hw : P.warnSwapped = false) :
    ∃ (r : Result ℝ 2) (Crs : Vec ℝ 2) (st0 : St ℝ 2) (q : St ℝ 2 × ℝ),
      run P sym2 = .ok r ∧ init sym2 = .ok (Crs, st0) ∧
      sweep Real.sqrt P.log sym2 Crs { X := r.X, rs := r.rs } = .ok q ∧ q.1.X = r.X ∧
      (∀ i j, 0 ≤ mget sym2 i j) ∧ StronglyConnected sym2 ∧ (∀ i : Fin 2, ∃ j, j ≠ i) := by
  have hC : ∀ i j, 0 ≤ mget sym2 i j := fun i j => by rw [sym2_get]; norm_num
  have h2 : ∀ i : Fin 2, ∃ j, j ≠ i := fin2_other
  have hc : Conn sym2 := conn_of_strongly_connected sym2 sym2_strongly_connected h2
  obtain ⟨Crs, st0, hinit⟩ := conn_init hC hc
  obtain ⟨_, hinv, hrs⟩ := init_inv hC hinit
  obtain ⟨l, hl⟩ := sym2_fixed P.log hinit
  obtain ⟨k, _, hrun⟩ := run_of_fixed_init (P := P) hmax hinit (by rw [hsq]; exact ⟨l, hl⟩)
  rcases finish_spec hP (by decide : 0 < 2) hinv hrs k with ⟨_, hw', _⟩ | ⟨_, r, hr, hv⟩
  · rw [hw] at hw'; cases hw'
  · refine ⟨r, Crs, st0, (st0, l), by rw [hrun]; exact hr, hinit, ?_, ?_, hC,
      sym2_strongly_connected, h2⟩
    · have : ({ X := r.X, rs := r.rs } : St ℝ 2) = st0 := by rw [hv.X, hv.rs]
      rw [this]; exact hl
    · exact hv.X.symm

end C12
