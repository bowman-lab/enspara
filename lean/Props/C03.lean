import Proofs.C03b
import Proofs.Basic
/-!
# C03 — transition counts equal the exact number of lagged state pairs

Model: `Model/Counts.lean` (`transitionsHelper`, `assignsToCounts`, mirroring
`enspara/msm/transition_matrices.py`), slices via `Model/PySlice.lean`.
Every theorem is for all row sets, all lengths (including shorter than the lag), all lags ≥ 1,
both window modes.
-/
namespace C03
open Ens Ens.Counts

/-- `_transitions_helper` never fails (its two views always have equal length) and returns exactly
the pairs `(a[t], a[t+lag])` for `t = 0, s, 2s, …` with `t + lag < |a|` (s = 1 sliding, s = lag not). -/
theorem helper_eq_spec (a : List Int) (lag : Nat) (sliding : Bool) (hlag : 1 ≤ lag) :
    transitionsHelper a lag sliding = .ok (lagPairs a lag (stepOf lag sliding)) :=
  transitionsHelper_eq a lag sliding hlag

/-- every reported pair consists of two frames of the SAME row, `lag` apart (no pair spans rows) -/
theorem pairs_inside_row (a : List Int) (lag : Nat) (sliding : Bool) (hlag : 1 ≤ lag) (k : Nat)
    (hk : k < (lagPairs a lag (stepOf lag sliding)).length) :
    k * stepOf lag sliding + lag < a.length ∧
    (lagPairs a lag (stepOf lag sliding))[k]? =
      some (a.getD (k * stepOf lag sliding) default, a.getD (k * stepOf lag sliding + lag) default) := by
  have hs : 1 ≤ stepOf lag sliding := by unfold stepOf; cases sliding <;> simp [hlag]
  rw [lagPairs_length] at hk
  refine ⟨pos_lt_of_lt_nPairs _ _ _ _ hs hk, ?_⟩
  simp only [lagPairs, List.getElem?_map, List.getElem?_range hk, Option.map_some]

/-- the guard on the lag time -/
theorem lag_guard (rows : List (List Int)) (lag : Int) (maxN : Option Nat) (sliding : Bool) (h : lag < 1) :
    (assignsToCounts rows lag maxN sliding).toOption.isNone := by
  simp [assignsToCounts, h, bind, Except.bind, throw, throwThe, MonadExceptOf.throw, Except.toOption]

/-- no trajectory at all is rejected (`np.hstack([])` raises), as the code does -/
theorem no_rows_rejected (lag : Int) (maxN : Option Nat) (sliding : Bool) :
    (assignsToCounts [] lag maxN sliding).toOption.isNone := by
  unfold assignsToCounts
  by_cases h : lag < 1 <;> simp [h, bind, Except.bind, throw, throwThe, MonadExceptOf.throw, Except.toOption]

/-- Entry (i, j) of the count matrix is the number of lagged pairs, over all rows with `-1` dropped,
whose states are i and j; the matrix has the requested size. -/
theorem counts_entry (rows : List (List Int)) (lag : Nat) (n : Nat) (sliding : Bool) (hlag : 1 ≤ lag)
    (c : CountMat) (h : assignsToCounts rows (lag : Int) (some n) sliding = .ok c) :
    c.n = n ∧ ∀ i j : Nat, c.entry i j = countPair (specPairs rows lag sliding) i j := by
  obtain ⟨hn, _, he⟩ := assignsToCounts_ok hlag h
  exact ⟨hn, fun i j => by rw [he]⟩

/-- with the state count inferred: the size is (largest observed state) + 1 and the entries are the same
pair counts; an input with no assigned frame at all is rejected -/
theorem counts_entry_inferred (rows : List (List Int)) (lag : Nat) (sliding : Bool) (hlag : 1 ≤ lag)
    (c : CountMat) (h : assignsToCounts rows (lag : Int) none sliding = .ok c) :
    ∃ m, maxState rows = some m ∧ c.n = (m + 1).toNat ∧
      ∀ i j : Nat, c.entry i j = countPair (specPairs rows lag sliding) i j := by
  obtain ⟨⟨m, hm, hn⟩, _, he⟩ := assignsToCounts_ok hlag h
  exact ⟨m, hm, hn, fun i j => by rw [he]⟩

/-- the returned table is square: n rows of n entries -/
theorem counts_square (c : CountMat) :
    c.toLists.length = c.n ∧ ∀ r ∈ c.toLists, r.length = c.n := by
  rw [CountMat.toLists]
  refine ⟨length_tabulate _ _, fun r hr => ?_⟩
  obtain ⟨i, _, rfl⟩ := (mem_tabulate _ _ r).mp hr
  exact length_tabulate _ _

/-- additivity over sets of trajectories -/
theorem counts_additive (A B : List (List Int)) (lag : Nat) (sliding : Bool) (i j : Int) :
    countPair (specPairs (A ++ B) lag sliding) i j
      = countPair (specPairs A lag sliding) i j + countPair (specPairs B lag sliding) i j := by
  rw [specPairs_append, countPair_append]

/-- any reordering of the trajectories gives the same counts -/
theorem counts_perm (A B : List (List Int)) (h : A.Perm B) (lag : Nat) (sliding : Bool) (i j : Int) :
    countPair (specPairs A lag sliding) i j = countPair (specPairs B lag sliding) i j :=
  countPair_perm (specPairs_perm h lag sliding) i j

/-- trailing `-1` padding of any row is ignored: padded rectangular = ragged -/
theorem counts_padding (rows : List (List Int)) (pad : List Nat) (lag : Nat) (sliding : Bool)
    (hp : pad.length = rows.length) :
    specPairs (List.zipWith (fun r k => r ++ List.replicate k (-1)) rows pad) lag sliding
      = specPairs rows lag sliding := by
  unfold specPairs
  congr 1
  induction rows generalizing pad with
  | nil => simp
  | cons r rs ih =>
    cases pad with
    | nil => simp at hp
    | cons k ks =>
      simp only [List.zipWith_cons_cons, List.map_cons, dropPad_append_pad]
      rw [ih ks (by simpa using hp)]

/-- total under the sliding window: Σ over trajectories of max(0, length − lag) -/
theorem counts_total_sliding (rows : List (List Int)) (lag : Nat) :
    (specPairs rows lag true).length = (rows.map fun r => (dropPad r).length - lag).sum := by
  rw [specPairs_length]
  simp [stepOf, nPairs_one]

/-- total without the sliding window: Σ ⌈max(0, length − lag) / lag⌉ -/
theorem counts_total_strided (rows : List (List Int)) (lag : Nat) :
    (specPairs rows lag false).length
      = (rows.map fun r => ((dropPad r).length - lag + lag - 1) / lag).sum := by
  rw [specPairs_length]
  rfl

/-- the matrix total equals the number of pairs (so the totals above are totals of the matrix) -/
theorem counts_matrix_total (rows : List (List Int)) (lag : Nat) (n : Nat) (sliding : Bool) (hlag : 1 ≤ lag)
    (c : CountMat) (h : assignsToCounts rows (lag : Int) (some n) sliding = .ok c) :
    (∑ i ∈ Finset.range n, ∑ j ∈ Finset.range n, c.entry i j) = (specPairs rows lag sliding).length := by
  obtain ⟨hn, hp, he⟩ := assignsToCounts_ok hlag h
  obtain rfl : c.n = n := hn
  simp only [he]
  apply sum_countPair
  intro p hp'
  have := hp p hp'
  omega

/-! Non-vacuity: a concrete run through the model (two rows, one padded, lag 2). -/
example : (assignsToCounts [[0, 1, 0, 1, 1, -1], [2, 2, 0]] 2 (some 3) true).toOption.map CountMat.toLists
    = some [[1, 1, 0], [0, 1, 0], [1, 0, 0]] := by decide +kernel
example : (assignsToCounts [[0, 1, 0, 1, 1, -1], [2, 2, 0]] 2 (some 3) false).toOption.map CountMat.toLists
    = some [[1, 1, 0], [0, 0, 0], [1, 0, 0]] := by decide +kernel

end C03
