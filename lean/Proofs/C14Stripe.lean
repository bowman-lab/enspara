import Model.Mpi
import Proofs.Basic
/-! Lemmas about `stripe`, `unstripe`, `splitBy`, `firstErr`; congruence of `stripedMean` (Mathlib-free). -/
namespace Ens.Mpi

variable {α β : Type}

@[simp] theorem stripe_nil (w r : Nat) : stripe w ([] : List α) r = [] := by
  cases r <;> rfl

theorem getElem?_stripe (w : Nat) (hw : 0 < w) (xs : List α) (r j : Nat) :
    (stripe w xs r)[j]? = xs[r + j * w]? := by
  induction xs generalizing r j with
  | nil => simp
  | cons x xs ih =>
    cases r with
    | zero =>
      cases j with
      | zero => rw [stripe, Nat.zero_mul]; rfl
      | succ j =>
        have : 0 + (j + 1) * w = (w - 1 + j * w) + 1 := by rw [Nat.succ_mul]; omega
        rw [stripe, this, List.getElem?_cons_succ, List.getElem?_cons_succ, ih]
    | succ r => rw [stripe, ih, Nat.add_right_comm]; rfl

theorem getElem?_stripe_mod_div (w : Nat) (hw : 0 < w) (xs : List α) (t : Nat) :
    (stripe w xs (t % w))[t / w]? = xs[t]? := by
  rw [getElem?_stripe w hw, Nat.mul_comm, Nat.mod_add_div]

theorem stripe_map (w : Nat) (f : α → β) (xs : List α) (r : Nat) :
    stripe w (xs.map f) r = (stripe w xs r).map f := by
  induction xs generalizing r with
  | nil => simp
  | cons x xs ih => cases r <;> simp [stripe, ih]

theorem mem_stripe {w : Nat} {xs : List α} {r : Nat} {a : α} (h : a ∈ stripe w xs r) : a ∈ xs := by
  induction xs generalizing r with
  | nil => simp at h
  | cons x xs ih =>
    cases r with
    | zero =>
      simp only [stripe, List.mem_cons] at h
      rcases h with h | h
      · simp [h]
      · exact List.mem_cons_of_mem _ (ih h)
    | succ r => exact List.mem_cons_of_mem _ (ih h)

theorem stripe_perm (w : Nat) (hw : 0 < w) (xs : List α) :
    ((List.range w).flatMap fun r => stripe w xs r).Perm xs := by
  induction xs with
  | nil => simp
  | cons x xs ih =>
    obtain ⟨v, rfl⟩ : ∃ v, w = v + 1 := ⟨w - 1, by omega⟩
    rw [List.range_succ_eq_map, List.flatMap_cons, List.flatMap_map]
    simp only [stripe, Nat.add_sub_cancel]
    have h2 : ((List.range (v + 1)).flatMap fun r => stripe (v + 1) xs r) =
        ((List.range v).flatMap fun r => stripe (v + 1) xs r) ++ stripe (v + 1) xs v := by
      rw [List.range_succ, List.flatMap_append]; simp
    rw [h2] at ih
    refine List.Perm.trans ?_ (List.Perm.cons x ih)
    show (x :: stripe (v + 1) xs v ++ _).Perm _
    exact List.Perm.cons x List.perm_append_comm

theorem filterMap_getElem?_range (xs : List α) :
    (List.range xs.length).filterMap (fun i => xs[i]?) = xs := by
  induction xs with
  | nil => simp
  | cons x xs ih =>
    rw [List.length_cons, List.range_succ_eq_map, List.filterMap_cons]
    simp only [List.getElem?_cons_zero, List.filterMap_map]
    congr 1

/-- `g[r::w] = stripe r` for all `r` puts every element back in place -/
theorem unstripe_stripe (w : Nat) (hw : 0 < w) (xs : List α) :
    unstripe w xs.length (fun r => stripe w xs r) = xs := by
  unfold unstripe
  simp only [getElem?_stripe_mod_div w hw]
  exact filterMap_getElem?_range xs

theorem unstripe_congr (w n : Nat) (hw : 0 < w) (p q : Nat → List α) (h : ∀ r, r < w → p r = q r) :
    unstripe w n p = unstripe w n q := by
  unfold unstripe
  congr 1
  funext i
  rw [h _ (Nat.mod_lt i hw)]

theorem length_stripe_pos (w : Nat) (hw : 0 < w) (xs : List α) (r : Nat) (hr : r < xs.length) :
    0 < (stripe w xs r).length := by
  have h := getElem?_stripe w hw xs r 0
  rw [Nat.zero_mul, Nat.add_zero, List.getElem?_eq_getElem hr] at h
  exact (List.getElem?_eq_some_iff.mp h).1

theorem stripe_eq_nil_of_le (w : Nat) (xs : List α) (r : Nat) (hr : xs.length ≤ r) :
    stripe w xs r = [] := by
  induction xs generalizing r with
  | nil => simp
  | cons x xs ih =>
    cases r with
    | zero => simp at hr
    | succ r => simp only [stripe]; exact ih r (by simpa using hr)

@[simp] theorem length_splitBy (L : List Nat) (xs : List α) : (splitBy L xs).length = L.length := by
  induction L generalizing xs with
  | nil => rfl
  | cons l ls ih => simp [splitBy, ih]

theorem flatten_splitBy (L : List Nat) (xs : List α) (h : xs.length ≤ L.sum) :
    (splitBy L xs).flatten = xs := by
  induction L generalizing xs with
  | nil => rw [List.eq_nil_of_length_eq_zero (Nat.le_zero.mp h)]; rfl
  | cons l ls ih =>
    rw [List.sum_cons] at h
    rw [splitBy, List.flatten_cons, ih _ (by rw [List.length_drop]; exact Nat.sub_le_iff_le_add'.mpr h)]
    exact List.take_append_drop l xs

theorem map_length_splitBy (L : List Nat) (xs : List α) (h : L.sum ≤ xs.length) :
    (splitBy L xs).map List.length = L := by
  induction L generalizing xs with
  | nil => rfl
  | cons l ls ih =>
    rw [List.sum_cons] at h
    rw [splitBy, List.map_cons, List.length_take,
      ih _ (by rw [List.length_drop]; exact Nat.le_sub_of_add_le' h),
      Nat.min_eq_left (Nat.le_trans (Nat.le_add_right _ _) h)]

theorem splitBy_map (f : α → β) (L : List Nat) (xs : List α) :
    splitBy L (xs.map f) = (splitBy L xs).map (List.map f) := by
  induction L generalizing xs with
  | nil => rfl
  | cons l ls ih => simp [splitBy, ← List.map_take, ← List.map_drop, ih]

theorem splitBy_lengths_flatten (rs : List (List α)) :
    splitBy (rs.map List.length) rs.flatten = rs := by
  induction rs with
  | nil => rfl
  | cons a rs ih => simp [splitBy, ih]

theorem firstErr_eq_none {w : Nat} {chk : Nat → Option Err} :
    firstErr w chk = none ↔ ∀ r, r < w → chk r = none := by
  unfold firstErr
  rw [List.findSome?_eq_none_iff]
  simp

theorem firstErr_congr {w : Nat} {chk chk' : Nat → Option Err} (h : ∀ r, r < w → chk r = chk' r) :
    firstErr w chk = firstErr w chk' := by
  have hl : ∀ l : List Nat, (∀ r ∈ l, chk r = chk' r) → l.findSome? chk = l.findSome? chk' := by
    intro l hl
    induction l with
    | nil => rfl
    | cons a l ih =>
      rw [List.findSome?_cons, List.findSome?_cons, hl a List.mem_cons_self,
        ih fun r hr => hl r (List.mem_cons_of_mem _ hr)]
  exact hl _ fun r hr => h r (List.mem_range.mp hr)

theorem stripedMean_congr (w : Nat) (hw : 0 < w) (p q : Nat → List Rat) (h : ∀ r, r < w → p r = q r) :
    stripedMean w p = stripedMean w q := by
  unfold stripedMean
  by_cases h1 : w = 1
  · simp only [h1, if_true]; rw [h 0 hw]
  · simp only [h1, if_false]
    rw [sumTo_congr (f := fun r => (p r).sum) (g := fun r => (q r).sum) (fun r hr => by simp only [h r hr]),
      sumTo_congr (f := fun r => (p r).length) (g := fun r => (q r).length) (fun r hr => by simp only [h r hr])]

end Ens.Mpi
