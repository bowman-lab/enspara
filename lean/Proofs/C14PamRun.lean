import Proofs.C14PamSweep
import Proofs.C14Mean
/-!
C14, distributed PAM: several sweeps; the round-robin trajectory layout; reassembly with
`assemble_striped_ragged_array` / `convert_local_indices`.
-/
namespace Ens.MpiPam
open Ens Ens.Cluster Ens.Mpi

variable {lay : Layout} {N : Nat} {D : Table} {props : Option (List (Nat × Nat))} {ms : PState} {ss : St}

theorem forall₂_map_eq {α β γ : Type} {R : α → β → Prop} {l : List α} {l' : List β}
    (h : List.Forall₂ R l l') (f : α → γ) (g : β → γ) (H : ∀ a b, R a b → f a = g b) :
    l.map f = l'.map g := by
  induction h with
  | nil => rfl
  | cons a _ ih => simp only [List.map_cons, ih, H _ _ a]

theorem update_trace_valid (hb : LayoutBij lay N)
    (hr : Striped lay ms ss) {orc orc' : List Nat} {ms' : PState}
    {tr : List MStep} (h : mpiPamUpdate lay D ms props orc = .ok (ms', orc', tr)) :
    ∀ st ∈ tr, st.p.1 < lay.w ∧ st.p.2 < lay.m st.p.1 ∧ st.y = lay.X st.p.1 st.p.2 :=
  fun st hst => by
    obtain ⟨a, b, c, _⟩ := (loop_steps _ (update_ok hb hr h).2.2).2 st hst
    exact ⟨a, b, c⟩

theorem sweeps_succ_ok {k : Nat} {s : PState}
    {orc : List Nat} {r : MRun} (h : mpiSweepsFrom lay D props (k+1) s orc = .ok r) :
    ∃ s' orc' tr r', mpiPamUpdate lay D s props orc = .ok (s', orc', tr) ∧
      mpiSweepsFrom lay D props k s' orc' = .ok r' ∧
      r.final = r'.final ∧ r.oracle = r'.oracle ∧ r.trace = tr ++ r'.trace ∧ r.sweeps = s' :: r'.sweeps := by
  simp only [mpiSweepsFrom] at h
  cases hp : mpiPamUpdate lay D s props orc with
  | error e => simp [hp] at h
  | ok v =>
    obtain ⟨s', orc', tr⟩ := v
    simp only [hp] at h
    cases hr : mpiSweepsFrom lay D props k s' orc' with
    | error e => simp [hr] at h
    | ok r' =>
      simp only [hr] at h
      injection h with h
      subst h
      exact ⟨s', orc', tr, r', rfl, hr, rfl, rfl, rfl, rfl⟩

theorem iterations_ok {nIters : Nat} {s : PState} {orc : List Nat} {r : MRun}
    (h : mpiKmedoidsIterations lay D nIters s props orc = .ok r) :
    ∃ k, nIters = k + 1 ∧ mpiSweepsFrom lay D props (k+1) s orc = .ok r := by
  unfold mpiKmedoidsIterations at h
  cases nIters with
  | zero => simp at h
  | succ k => exact ⟨k, rfl, by simpa using h⟩

/-- any number of distributed sweeps, any source of proposals: the final distributed state is
    the striped view of a serial state `ss'` with the same number of centers; the global cost
    after every accept/reject decision never increases and ends at its minimum; and if the
    start was consistent, so are the result and the state after every sweep -/
theorem sweeps_inv (hb : LayoutBij lay N) (hm : MeanOK lay N) (D : Table)
    (props : Option (List (Nat × Nat))) :
    ∀ (k : Nat) {ms : PState} {ss : St} {orc : List Nat} {r : MRun}, Striped lay ms ss →
      mpiSweepsFrom lay D props k ms orc = .ok r →
      ∃ (ss' : St) (cs : List Rat), Striped lay r.final ss' ∧
        ss'.ctrInds.length = ss.ctrInds.length ∧
        costsAfter lay r.trace = cs.map .ok ∧
        Descends (cost N ss.arr.dist) cs (cost N ss'.arr.dist) ∧
        (TableOK D N → Consistent D N ss →
          Consistent D N ss' ∧ ∀ x ∈ r.sweeps, ∃ sx, Striped lay x sx ∧ Consistent D N sx ∧
            sx.ctrInds.length = ss.ctrInds.length) := by
  intro k
  induction k with
  | zero =>
    intro ms ss orc r hr h
    cases h
    exact ⟨ss, [], hr, rfl, rfl, Descends.nil _, fun _ hs => ⟨hs, nofun⟩⟩
  | succ k ih =>
    intro ms ss orc r hr h
    obtain ⟨s', orc', tr, r', h1, h2, e1, _, e3, e4⟩ := sweeps_succ_ok h
    obtain ⟨ss1, tr1, k1, k2, k3⟩ := update_refines hb hm D hr h1
    have hlen := (pamUpdate_shape k1).len
    obtain ⟨ss', cs, i1, i2, i3, i4, i6⟩ := ih k2 h2
    refine ⟨ss', costsOf N tr1 ++ cs, e1 ▸ i1, i2.trans hlen, ?_, (pamUpdate_costs k1).append i4, fun T hs => ?_⟩
    · rw [e3, costsAfter, List.map_append, List.map_append]
      exact congrArg₂ _ (costsAfter_eq hb hm k3) i3
    · have hs1 := pamUpdate_consistent T hs k1
      obtain ⟨j1, j2⟩ := i6 T hs1
      refine ⟨j1, fun x hx => ?_⟩
      rw [e4] at hx
      rcases List.mem_cons.mp hx with rfl | hx'
      · exact ⟨ss1, k2, hs1, hlen⟩
      · obtain ⟨sx, a1, a2, a3⟩ := j2 x hx'
        exact ⟨sx, a1, a2, a3.trans hlen⟩

/-- explicit proposals: the distributed sweeps are the serial sweeps with the proposals'
    global frames, sweep by sweep and step by step -/
theorem sweeps_refines_explicit (hb : LayoutBij lay N) (hm : MeanOK lay N)
    (D : Table) (ps : List (Nat × Nat)) :
    ∀ (k : Nat) {ms : PState} {ss : St} {orc : List Nat} {r : MRun}, Striped lay ms ss →
      mpiSweepsFrom lay D (some ps) k ms orc = .ok r →
      ∃ sr, sweepsFrom D N (some (ps.map fun p => lay.X p.1 p.2)) k ss [] = .ok sr ∧
        Striped lay r.final sr.final ∧ List.Forall₂ (StepRel lay) r.trace sr.trace ∧
        List.Forall₂ (Striped lay) r.sweeps sr.sweeps := by
  intro k
  induction k with
  | zero =>
    intro ms ss orc r hr h
    simp only [mpiSweepsFrom] at h
    injection h with h
    subst h
    exact ⟨_, rfl, hr, List.Forall₂.nil, List.Forall₂.nil⟩
  | succ k ih =>
    intro ms ss orc r hr h
    obtain ⟨s', orc', tr, r', h1, h2, e1, _, e3, e4⟩ := sweeps_succ_ok h
    obtain ⟨ss1, tr1, k1, k2, k3⟩ := update_refines_explicit hb hm D hr h1
    obtain ⟨sr, j1, j2, j3, j4⟩ := ih k2 h2
    refine ⟨{ sr with trace := tr1 ++ sr.trace, sweeps := ss1 :: sr.sweeps }, ?_, by rw [e1]; exact j2, ?_, ?_⟩
    · simp only [sweepsFrom, bind, Except.bind, k1, j1, pure, Except.pure]
    · rw [e3]; exact List.rel_append k3 j3
    · rw [e4]; exact List.Forall₂.cons k2 j4

theorem sweeps_total (hb : LayoutBij lay N) (hm : MeanOK lay N)
    (T : TableOK D N) {ps : List (Nat × Nat)} (hv : ∀ p ∈ ps, p.1 < lay.w ∧ p.2 < lay.m p.1) :
    ∀ (k : Nat) {ms : PState} {ss : St} (orc : List Nat), Striped lay ms ss → Consistent D N ss →
      ps.length = ms.ctrs.length → ∃ r, mpiSweepsFrom lay D (some ps) k ms orc = .ok r := by
  intro k
  induction k with
  | zero => intro ms ss orc _ _ _; exact ⟨_, rfl⟩
  | succ k ih =>
    intro ms ss orc hr hs hl
    obtain ⟨out, h1⟩ := update_total hb hm T hr hs hl hv orc
    obtain ⟨s', orc', tr⟩ := out
    obtain ⟨ss1, k2, hs1, hl1⟩ := update_consistent hb hm T hr hs h1
    have hl' : ps.length = s'.ctrs.length := by rw [k2.len_ctrs, hl1, ← hr.len_ctrs]; exact hl
    obtain ⟨r, h2⟩ := ih orc' k2 hs1 hl'
    refine ⟨{ r with trace := tr ++ r.trace, sweeps := s' :: r.sweeps }, ?_⟩
    simp only [mpiSweepsFrom, h1, h2]

theorem stripedMean_localFrames (w : Nat) (hw : 0 < w) (L : List Nat) (hN : 0 < L.sum) (f : Nat → Rat) :
    stripedMean w (fun r => (localFrames w L r).map f) =
      .ok (((List.range L.sum).map f).sum / (((List.range L.sum).map f).length : Rat)) := by
  apply stripedMean_eq w
  · have h := (localFrames_perm w hw L).map f
    rw [List.map_flatMap] at h
    exact h.symm
  · intro h
    rw [List.map_eq_nil_iff, List.range_eq_nil] at h
    exact absurd h (Nat.ne_of_gt hN)

theorem meanOK_stripeLayout (w : Nat) (hw : 0 < w) (L : List Nat) (hN : 0 < L.sum) :
    MeanOK (stripeLayout w L) L.sum := by
  intro f
  show stripedMean w _ = _
  rw [show (fun r => tabulate ((stripeLayout w L).m r) (fun i => f ((stripeLayout w L).X r i))) =
      fun r => (localFrames w L r).map f from funext fun r => tabulate_local w L f r,
    stripedMean_localFrames w hw L hN f, ← sumTo_eq_sum_map, List.length_map, List.length_range]

theorem stripeLayout_ok (w : Nat) (hw : 0 < w) (L : List Nat) (hT : w ≤ L.length) (hpos : ∀ l ∈ L, 0 < l) :
    LayoutBij (stripeLayout w L) L.sum ∧ MeanOK (stripeLayout w L) L.sum :=
  have hb := stripeLayout_bij w hw L hT hpos
  ⟨hb, meanOK_stripeLayout w hw L hb.N_pos⟩

theorem consistent_congr {n : Nat} {s t : St} (h : Consistent D n s)
    (h1 : t.arr.fresh = false) (h2 : t.ctrInds = s.ctrInds) (h3 : t.ctrFrames = s.ctrFrames)
    (hd : ∀ f, f < n → t.arr.dist f = s.arr.dist f) (ha : ∀ f, f < n → t.arr.assign f = s.arr.assign f) :
    Consistent D n t where
  notFresh := h1
  frames := by rw [h2, h3]; exact h.frames
  inds_lt := by rw [h2]; exact h.inds_lt
  lab := by
    intro f hf
    rw [h2, hd f hf, ha f hf]; exact h.lab f hf
  best := by
    intro f hf k c hk
    rw [h2] at hk
    rw [hd f hf]; exact h.best f hf k c hk
  own := by
    intro k c hk
    rw [h2] at hk
    have hc := h.inds_lt c (List.mem_of_getElem? hk)
    rw [hd c hc, ha c hc]; exact h.own k c hk

theorem assemble_toList (w : Nat) (hw : 0 < w) (L : List Nat) (hT : w ≤ L.length) {α : Type} (f : Nat → α)
    (arrs : Nat → Array α) (d : α) (hsz : ∀ r, r < w → (arrs r).size = (stripeLayout w L).m r)
    (h : ∀ r i, r < w → i < (stripeLayout w L).m r → (arrs r).getD i d = f ((stripeLayout w L).X r i)) :
    assembleStripedRagged w L (fun r => (arrs r).toList) = .ok (tabulate L.sum f) := by
  rw [assembleStripedRagged_congr w hw L _ (fun r => tabulate ((stripeLayout w L).m r) ((arrs r).getD · d))]
  · exact assemble_of_rel w hw L hT f (fun r => ((arrs r).getD · d)) h
  · intro r hr'
    rw [toList_eq_tabulate _ d, hsz r hr']

/-- the library's reassembly of the distributed state `ms` (`assemble_striped_ragged_array` of
    the local distances and of the local labels, `convert_local_indices` of the medoid pairs)
    succeeds and returns exactly the serial state `ss` on the frames `0 … sum L - 1`: the same
    center indices and coordinates, and distance / label arrays equal, entry by entry, to the
    serial ones -/
def ReassemblesTo (w : Nat) (L : List Nat) (ms : PState) (ss : St) : Prop :=
  ∃ rs, reassemble w L ms = .ok rs ∧ rs.arr.fresh = false ∧ rs.ctrInds = ss.ctrInds ∧
    rs.ctrFrames = ss.ctrFrames ∧
    rs.arr.distA = (tabulate L.sum ss.arr.dist).toArray ∧
    rs.arr.assignA = (tabulate L.sum ss.arr.assign).toArray

theorem reassemblesTo_of_striped (w : Nat) (hw : 0 < w) (L : List Nat) (hT : w ≤ L.length) (hr : Striped (stripeLayout w L) ms ss) : ReassemblesTo w L ms ss := by
  have hd := assemble_toList w hw L hT ss.arr.dist (fun r => (ms.arr r).distA) 0 hr.sizeD hr.dist
  have ha := assemble_toList w hw L hT ss.arr.assign (fun r => (ms.arr r).assignA) 0 hr.sizeA hr.assign
  have hc : convertLocalIndices w L ms.ctrs = .ok ss.ctrInds := by
    rw [convert_of_valid w hw L hT ms.ctrs hr.valid, hr.ctrs]
  exact ⟨{ arr := { fresh := false, distA := (tabulate L.sum ss.arr.dist).toArray,
                    assignA := (tabulate L.sum ss.arr.assign).toArray },
           ctrInds := ss.ctrInds, ctrFrames := ms.coords },
    by unfold reassemble; rw [hd, ha, hc], rfl, rfl, hr.coords, rfl, rfl⟩

theorem reassembled_consistent (w : Nat) (hw : 0 < w) (L : List Nat) (hT : w ≤ L.length) (hr : Striped (stripeLayout w L) ms ss) (hs : Consistent D L.sum ss) :
    ∃ rs, reassemble w L ms = .ok rs ∧ Consistent D L.sum rs ∧ rs.ctrInds = ss.ctrInds := by
  obtain ⟨rs, h1, h2, h3, h4, h5, h6⟩ := reassemblesTo_of_striped w hw L hT hr
  refine ⟨rs, h1, consistent_congr hs h2 h3 h4 (fun f hf => ?_) (fun f hf => ?_), h3⟩
  · show rs.arr.distA.getD f 0 = _
    rw [h5]; exact getD_toArray_tabulate L.sum ss.arr.dist 0 hf
  · show rs.arr.assignA.getD f 0 = _
    rw [h6]; exact getD_toArray_tabulate L.sum ss.arr.assign 0 hf

theorem scatter_striped {lay : Layout} {ss : St} (hfr : ss.arr.fresh = false) (ctrs : List (Nat × Nat))
    (hv : ∀ p ∈ ctrs, p.1 < lay.w ∧ p.2 < lay.m p.1)
    (hc : ctrs.map (fun p => lay.X p.1 p.2) = ss.ctrInds) : Striped lay (scatter lay ss ctrs) ss :=
  Striped.of_tabulate hfr (fun _ _ => ⟨hfr, Sized.tab _ _ _ _,
    fun _ hi => ⟨tab_dist _ _ _ hi, tab_assign _ _ _ hi⟩⟩) hc hv rfl

/-- a random proposal under MPI (`randind` over the local member lists, then the owner's
    `state_inds[idx]`) is a frame of its owner that carries the label of the cluster being
    updated (kmedoids.py L612, L501-508) -/
theorem mpiPropose_random_member {s : PState} {cid : Nat} {orc orc' : List Nat}
    {p : Nat × Nat} (h : mpiPropose lay s cid none orc = .ok (p, orc')) :
    p.1 < lay.w ∧ p.2 < lay.m p.1 ∧ (s.arr p.1).assign p.2 = (cid : Nat) := by
  unfold mpiPropose at h
  simp only [] at h
  generalize hlens : ((List.range lay.w).map fun r => (members lay s cid r).length) = lens at h
  have hlw : lens.length = lay.w := by rw [← hlens, List.length_map, List.length_range]
  split at h
  · cases h
  · rename_i hsum
    split at h
    · cases h
    · rename_i o orc1
      split at h
      · cases h
      · rename_i r idx hri
        split at h
        · cases h
        · rename_i i hi
          cases h
          have hmem := List.mem_of_getElem? hi
          simp only [members, List.mem_filter, List.mem_range, decide_eq_true_eq] at hmem
          refine ⟨?_, hmem.1, hmem.2⟩
          -- `randind` only returns ranks that exist
          have hN : 1 ≤ lens.sum := Nat.le_of_not_lt hsum
          have hw : 0 < lens.length := Nat.pos_of_ne_zero fun h0 => by
            rw [List.eq_nil_of_length_eq_zero h0] at hN; exact absurd hN (by decide)
          obtain ⟨r', i', l, h', hl, _⟩ := (randind_bijective lens hw hN).1 _ (Nat.mod_lt o hN)
          rw [hri] at h'
          cases h'
          exact hlw ▸ (List.getElem?_eq_some_iff.mp hl).1

/-- the warm-start front of `kmedoids` under MPI only converts the centers and checks them:
    a run that returns is a run of `_kmedoids_iterations` from the converted `(rank, index)` pairs -/
theorem mpiKmedoids_ok {w : Nat} {L : List Nat} {nIters : Nat} {arrs : List Arr}
    {centers : List (Nat × Nat) ⊕ List Nat} {orc : List Nat} {r : MRun}
    (h : mpiKmedoids w L D nIters arrs centers props orc = .ok r) :
    ∃ ctrs, warmCenters w L centers = .ok ctrs ∧
      mpiKmedoidsIterations (stripeLayout w L) D nIters { arrs := arrs, ctrs := ctrs, coords := [] } props orc = .ok r := by
  unfold mpiKmedoids at h
  cases hc : warmCenters w L centers with
  | error e => simp [hc] at h
  | ok ctrs =>
    simp only [hc] at h
    split at h
    · cases h
    · split at h
      · cases h
      · exact ⟨ctrs, rfl, h⟩

/-- a sweep re-broadcasts the medoid frames from the medoid pairs: the `medoid_coords` a state
    carries on entry are never read -/
theorem mpiPamUpdate_coords (lay : Layout) (D : Table) (s : PState) (c : List Nat)
    (props : Option (List (Nat × Nat))) (orc : List Nat) :
    mpiPamUpdate lay D { s with coords := c } props orc = mpiPamUpdate lay D s props orc := rfl

theorem mpiKmedoidsIterations_coords (lay : Layout) (D : Table) (nIters : Nat) (s : PState) (c : List Nat)
    (props : Option (List (Nat × Nat))) (orc : List Nat) :
    mpiKmedoidsIterations lay D nIters { s with coords := c } props orc =
      mpiKmedoidsIterations lay D nIters s props orc := by
  unfold mpiKmedoidsIterations
  cases nIters with
  | zero => rfl
  | succ k => simp only [Nat.succ_ne_zero, if_false, mpiSweepsFrom, mpiPamUpdate_coords]

end Ens.MpiPam
