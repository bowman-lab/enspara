/- C17 helper: `freeze`, `edges`, path removal, outflow and positive-edge count. -/
import Proofs.C17TopPath

namespace Ens.Paths
open Ens

theorem freeze_get (n : Nat) (F : Nat → Nat → Nat) (i j : Nat) :
    freeze n F i j = if i < n ∧ j < n then F i j else 0 := by
  simp only [freeze, Mat.get, Mat.ofFn]
  by_cases hi : i < n
  · by_cases hj : j < n
    · simp [hi, hj]
    · simp [hi, hj]
  · simp [hi]

theorem freeze_le (n : Nat) (F : Nat → Nat → Nat) (i j : Nat) : freeze n F i j ≤ F i j := by
  rw [freeze_get]
  split
  · exact Nat.le_refl _
  · exact Nat.zero_le _

theorem freeze_eq (n : Nat) (F : Nat → Nat → Nat) (i j : Nat) (hi : i < n) (hj : j < n) :
    freeze n F i j = F i j := by
  rw [freeze_get, if_pos ⟨hi, hj⟩]

theorem mem_edges (p : List Nat) (e : Nat × Nat) (h : e ∈ edges p) : e.1 ∈ p ∧ e.2 ∈ p := by
  obtain ⟨a, b⟩ := e
  have := List.of_mem_zip h
  exact ⟨this.1, List.mem_of_mem_tail this.2⟩

theorem mem_edges_tail (p : List Nat) (e : Nat × Nat) (h : e ∈ edges p) : e.2 ∈ p.tail := by
  obtain ⟨a, b⟩ := e
  exact (List.of_mem_zip h).2

structure Removed (F G : Nat → Nat → Nat) (p : List Nat) : Prop where
  le : ∀ i j, G i j ≤ F i j
  zeroed : ∃ e ∈ edges p, G e.1 e.2 = 0

theorem removeBottleneck_spec (F : Nat → Nat → Nat) (p : List Nat) (hne : edges p ≠ []) :
    ∃ G, removeBottleneck F p = .ok G ∧ Removed F G p := by
  obtain ⟨e, he⟩ := firstMin_some F _ hne
  refine ⟨setZero F e, by rw [removeBottleneck, he], fun i j => ?_, e, (firstMin_spec F _ e he).1,
    if_pos ⟨rfl, rfl⟩⟩
  unfold setZero
  split
  · exact Nat.zero_le _
  · exact Nat.le_refl _

/-- `subtract`, exactly: every edge of the path loses the minimal flux `m` on the path (the second
`argmin` of the code then zeroes an edge that is already 0) -/
theorem subtractPath_exact (F : Nat → Nat → Nat) (p : List Nat) (m : Nat)
    (hle : ∀ e ∈ edges p, m ≤ F e.1 e.2) (hex : ∃ e ∈ edges p, F e.1 e.2 = m) :
    ∃ G, subtractPath F p = .ok G ∧
      ∀ i j, G i j = if (i, j) ∈ edges p then F i j - m else F i j := by
  obtain ⟨em, hem, hemv⟩ := hex
  have hne : edges p ≠ [] := List.ne_nil_of_mem hem
  obtain ⟨e0, h0⟩ := firstMin_some F _ hne
  obtain ⟨h0mem, h0min⟩ := firstMin_spec F _ e0 h0
  have hm0 : F e0.1 e0.2 = m := Nat.le_antisymm (hemv ▸ h0min em hem) (hle e0 h0mem)
  obtain ⟨e', h'⟩ := firstMin_some
    (fun i j => if (edges p).contains (i, j) then F i j - F e0.1 e0.2 else F i j) _ hne
  obtain ⟨h'mem, h'min⟩ := firstMin_spec _ _ e' h'
  refine ⟨_, by rw [subtractPath, h0]; dsimp only; rw [h'], fun i j => ?_⟩
  -- the edge `e'` zeroed at the end already carries 0: it is minimal and `e0` carries 0
  have hz := h'min e0 h0mem
  simp only [List.contains_iff_mem, if_pos h0mem, if_pos h'mem, hm0, Nat.sub_self,
    Nat.le_zero_eq] at hz
  simp only [setZero, List.contains_iff_mem, hm0]
  by_cases hij : i = e'.1 ∧ j = e'.2
  · rw [if_pos hij, hij.1, hij.2, if_pos h'mem, hz]
  · rw [if_neg hij]

theorem subtractPath_spec (F : Nat → Nat → Nat) (p : List Nat) (hne : edges p ≠ []) :
    ∃ G, subtractPath F p = .ok G ∧ Removed F G p := by
  obtain ⟨e0, h0⟩ := firstMin_some F _ hne
  obtain ⟨h0mem, h0min⟩ := firstMin_spec F _ e0 h0
  obtain ⟨G, hG, hval⟩ := subtractPath_exact F p _ h0min ⟨e0, h0mem, rfl⟩
  refine ⟨G, hG, fun i j => ?_, e0, h0mem, by rw [hval, if_pos h0mem, Nat.sub_self]⟩
  rw [hval]
  split
  · exact Nat.sub_le _ _
  · exact Nat.le_refl _

theorem removePath_spec (sch : Scheme) (F : Nat → Nat → Nat) (p : List Nat) (hne : edges p ≠ []) :
    ∃ G, removePath sch F p = .ok G ∧ Removed F G p := by
  cases sch with
  | subtract => exact subtractPath_spec F p hne
  | bottleneck => exact removeBottleneck_spec F p hne

section
variable {n : Nat} {F : Nat → Nat → Nat} {S T : List Nat} {p : List Nat} {f : Nat}

theorem TopSpec.fin_head (h : TopSpec n F S T p (Ext.fin f)) :
    ∃ s y rest, p = s :: y :: rest ∧ s ∈ S ∧ bneck F p = Ext.fin f := by
  rcases h.head_cases with ⟨s, hh, hs, hb⟩ | ⟨h1, _⟩
  · cases p with
    | nil => cases hh
    | cons a t =>
      cases t with
      | nil => cases hb
      | cons b t' =>
        cases Option.some.inj hh
        exact ⟨s, b, t', rfl, hs, hb⟩
  · cases h1

/-- the top path of a smaller matrix is a walk of the larger one, with a bottleneck at least as large -/
theorem TopSpec.flux_mono {G' : Nat → Nat → Nat} {q : List Nat} {g : Nat} {fl : Ext}
    (h : TopSpec n F S T p fl) (hle : ∀ i j, G' i j ≤ F i j)
    (h' : TopSpec n G' S T q (Ext.fin g)) : Ext.fin g ≤ fl := by
  obtain ⟨s, y, rest, hq, hs, hb⟩ := h'.fin_head
  obtain ⟨t, hlast, ht⟩ := h'.last_mem
  have hw := h.widest q s t (by rw [hq]; rfl) hs hlast ht (adj_mono F G' hle q h'.adj) h'.all_lt
  rw [← hb]
  exact le_trans (bneck_mono F G' hle q) hw

theorem TopSpec.edges_ne (h : TopSpec n F S T p (Ext.fin f)) : edges p ≠ [] := by
  obtain ⟨s, y, rest, rfl, -, -⟩ := h.fin_head
  exact List.cons_ne_nil _ _

end

/-- total flux leaving the set of sources (each source once) -/
def outflow (n : Nat) (F : Nat → Nat → Nat) (S : List Nat) : Nat :=
  sumTo n (fun i => if i ∈ S then sumTo n (F i) else 0)

theorem outflow_step {n : Nat} {F G : Nat → Nat → Nat} {S : List Nat} (s y d : Nat)
    (hs : s ∈ S) (hsn : s < n) (hyn : y < n) (hle : ∀ i j, G i j ≤ F i j)
    (hd : G s y + d ≤ F s y) : outflow n G S + d ≤ outflow n F S := by
  unfold outflow
  apply sumTo_add_le n _ _ s d hsn
  · rw [if_pos hs, if_pos hs]
    exact sumTo_add_le n _ _ y d hyn hd (fun j _ => hle s j)
  · intro i _
    by_cases hi : i ∈ S
    · rw [if_pos hi, if_pos hi]; exact sumTo_le_sumTo (Nat.le_refl 0) Nat.add_le_add (fun j _ => hle i j)
    · rw [if_neg hi, if_neg hi]

theorem le_outflow {n : Nat} {F : Nat → Nat → Nat} {S : List Nat} (s y : Nat)
    (hs : s ∈ S) (hsn : s < n) (hyn : y < n) : F s y ≤ outflow n F S := by
  have := le_sumTo n (fun i => if i ∈ S then sumTo n (F i) else 0) s hsn
  rw [if_pos hs] at this
  exact Nat.le_trans (le_sumTo n (F s) y hyn) this

theorem posEdges_step {n : Nat} {F G : Nat → Nat → Nat} (a b : Nat) (ha : a < n) (hb : b < n)
    (hle : ∀ i j, G i j ≤ F i j) (hpos : 0 < F a b) (hz : G a b = 0) :
    posEdges n G < posEdges n F := by
  have hmono : ∀ i j, (if 0 < G i j then 1 else 0) ≤ (if 0 < F i j then 1 else 0) := fun i j => by
    by_cases hG : 0 < G i j
    · rw [if_pos hG, if_pos (Nat.lt_of_lt_of_le hG (hle i j))]
    · rw [if_neg hG]; exact Nat.zero_le _
  exact sumTo_add_le n (fun i => sumTo n (fun j => if 0 < G i j then 1 else 0))
    (fun i => sumTo n (fun j => if 0 < F i j then 1 else 0)) a 1 ha
    (sumTo_add_le n _ _ b 1 hb (by rw [hz, if_neg (Nat.lt_irrefl 0), if_pos hpos])
      fun j _ => hmono a j)
    fun i _ => sumTo_le_sumTo (Nat.le_refl 0) Nat.add_le_add fun j _ => hmono i j

end Ens.Paths
