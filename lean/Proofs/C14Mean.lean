import Model.Mpi
import Proofs.Basic
import Mathlib.Algebra.Order.Ring.Rat
import Mathlib.Algebra.BigOperators.Group.List.Basic
/-! `striped_array_mean` equals the mean of the whole array. -/
namespace Ens.Mpi

theorem sum_flatMap_rat (l : List Nat) (f : Nat → List Rat) :
    (l.flatMap f).sum = (l.map fun r => (f r).sum).sum := by
  induction l with
  | nil => rfl
  | cons a l ih => simp [List.flatMap_cons, List.sum_append, ih]

theorem stripedMean_eq (w : Nat) (locals : Nat → List Rat) (xs : List Rat)
    (hp : xs.Perm ((List.range w).flatMap locals)) (hne : xs ≠ []) :
    stripedMean w locals = .ok (xs.sum / (xs.length : Rat)) := by
  have hsum : xs.sum = ((List.range w).map fun r => (locals r).sum).sum := by
    rw [hp.sum_eq, sum_flatMap_rat]
  have hlen : xs.length = ((List.range w).map fun r => (locals r).length).sum := by
    rw [hp.length_eq, List.length_flatMap]
  have hpos : 0 < xs.length := List.length_pos_iff.mpr hne
  unfold stripedMean
  by_cases h1 : w = 1
  · subst h1
    have e1 : ((List.range 1).map fun r => (locals r).sum).sum = (locals 0).sum := List.sum_singleton
    have e2 : ((List.range 1).map fun r => (locals r).length).sum = (locals 0).length := List.sum_singleton
    rw [e1] at hsum
    rw [e2] at hlen
    rw [if_pos rfl, if_neg (hlen ▸ Nat.ne_of_gt hpos), hsum, hlen]
  · rw [if_neg h1]
    dsimp only
    rw [sumTo_eq_sum_map, sumTo_eq_sum_map, ← hsum, ← hlen, if_neg (Nat.ne_of_gt hpos)]

theorem stripedMean_empty (w : Nat) (hw : 0 < w) (locals : Nat → List Rat)
    (he : ∀ r, r < w → locals r = []) : stripedMean w locals = .error .nan := by
  unfold stripedMean
  by_cases h1 : w = 1
  · subst h1; simp [he 0 hw]
  · simp only [h1, if_false]
    have : (Ens.sumTo w fun r => (locals r).length) = 0 := by
      rw [sumTo_eq_sum_map]
      apply List.sum_eq_zero
      intro x hx
      obtain ⟨r, hr, rfl⟩ := List.mem_map.mp hx
      rw [he r (List.mem_range.mp hr)]; rfl
    simp [this]

end Ens.Mpi
