import Proofs.C14Order
/-! Distributed k-centers refines serial k-centers (abstract layout). -/
namespace Ens.Mpi
set_option linter.unusedSectionVars false

variable {α : Type} [LT α] [DecidableRel (α := α) (· < ·)] [StrictTotal α]

/-- the frames `0 … N-1` are dealt to the ranks without loss or duplication, every rank
    holds at least one frame and frame 0 is rank 0's first frame -/
structure LayoutBij (lay : Layout) (N : Nat) : Prop where
  wpos : 0 < lay.w
  nonempty : ∀ r, r < lay.w → 0 < lay.m r
  lt : ∀ r i, r < lay.w → i < lay.m r → lay.X r i < N
  inj : ∀ r i r' i', r < lay.w → i < lay.m r → r' < lay.w → i' < lay.m r' →
    lay.X r i = lay.X r' i' → r = r' ∧ i = i'
  surj : ∀ g, g < N → ∃ r i, r < lay.w ∧ i < lay.m r ∧ lay.X r i = g
  first : lay.X 0 0 = 0

/-- tie-free table: zero diagonal, positive and finite elsewhere, all off-diagonal entries
    distinct (up to the transposed position) -/
structure TieFree (N : Nat) (D : Nat → Nat → α) (zero top : α) : Prop where
  diag : ∀ g, g < N → D g g = zero
  pos : ∀ g c, g < N → c < N → g ≠ c → zero < D g c
  fin : ∀ g c, g < N → c < N → D g c < top
  distinct : ∀ a b c d, a < N → b < N → c < N → d < N → a ≠ b → c ≠ d → D a b = D c d →
    (a = c ∧ b = d) ∨ (a = d ∧ b = c)

/-- the distributed state is the serial state seen through the layout -/
structure Rel (lay : Layout) (ms : MState α) (ss : SState α) : Prop where
  dist : ∀ r i, r < lay.w → i < lay.m r → ms.dist r i = ss.dist (lay.X r i)
  assign : ∀ r i, r < lay.w → i < lay.m r → ms.assign r i = ss.assign (lay.X r i)
  ctrs : ms.ctrs.map (fun p => lay.X p.1 p.2) = ss.ctrs
  valid : ∀ p ∈ ms.ctrs, p.1 < lay.w ∧ p.2 < lay.m p.1

theorem LayoutBij.N_pos {lay : Layout} {N : Nat} (hb : LayoutBij lay N) : 0 < N :=
  Nat.zero_lt_of_lt (hb.lt 0 0 hb.wpos (hb.nonempty 0 hb.wpos))

theorem Rel.len_ctrs {lay : Layout} {ms : MState α} {ss : SState α} (hr : Rel lay ms ss) :
    ms.ctrs.length = ss.ctrs.length := by
  rw [← hr.ctrs, List.length_map]

theorem mpiArgmax_spec (lay : Layout) (N : Nat) (hb : LayoutBij lay N) (d : Nat → Nat → α) :
    let locs := fun r => Ens.argmaxTo (lay.m r) (d r)
    let owner := Ens.argmaxTo lay.w (fun r => d r (locs r))
    owner < lay.w ∧ locs owner < lay.m owner ∧
    ∀ r i, r < lay.w → i < lay.m r → ¬ d owner (locs owner) < d r i := by
  intro locs owner
  obtain ⟨h1, h2, _⟩ := argmaxTo_spec lay.w hb.wpos (fun r => d r (locs r))
  obtain ⟨h3, _, _⟩ := argmaxTo_spec (lay.m owner) (hb.nonempty owner h1) (d owner)
  refine ⟨h1, h3, ?_⟩
  intro r i hr hi
  obtain ⟨_, h5, _⟩ := argmaxTo_spec (lay.m r) (hb.nonempty r hr) (d r)
  exact st_ge_trans (h2 r hr) (h5 i hi)

/-- allreduce(MAX) of the local maxima = the serial maximum -/
theorem mpiMax_eq_serialMax (lay : Layout) (N : Nat) (hb : LayoutBij lay N)
    (ms : MState α) (ss : SState α) (hr : Rel lay ms ss) :
    mpiMax lay ms.dist = serialMax N ss.dist := by
  obtain ⟨h1, h2, h3⟩ := mpiArgmax_spec lay N hb ms.dist
  obtain ⟨a1, a2, _⟩ := argmaxTo_spec N hb.N_pos ss.dist
  unfold mpiMax serialMax
  apply st_eq_of_ge_of_ge
  · -- mpi max ≥ serial max
    obtain ⟨r, i, hr', hi, hx⟩ := hb.surj _ a1
    have := h3 r i hr' hi
    rw [hr.dist r i hr' hi, hx] at this
    exact this
  · have := a2 _ (hb.lt _ _ h1 h2)
    rw [← hr.dist _ _ h1 h2] at this
    exact this

theorem iter_rel (lay : Layout) (N : Nat) (D : Nat → Nat → α)
    (ms : MState α) (ss : SState α) (hr : Rel lay ms ss)
    (hv : (mpiPick lay ms).1 < lay.w ∧ (mpiPick lay ms).2 < lay.m (mpiPick lay ms).1)
    (hpick : lay.X (mpiPick lay ms).1 (mpiPick lay ms).2 = Ens.argmaxTo N ss.dist) :
    Rel lay (mpiIter lay D ms) (serialIter N D ss) := by
  have hlen := hr.len_ctrs
  constructor
  · intro r i hr' hi
    simp only [mpiIter, serialIter, hpick, hr.dist r i hr' hi]
  · intro r i hr' hi
    simp only [mpiIter, serialIter, hpick, hr.dist r i hr' hi, hr.assign r i hr' hi, hlen]
  · simp only [mpiIter, serialIter, List.map_append, hr.ctrs, List.map_cons, List.map_nil, hpick]
  · intro p hp
    simp only [mpiIter, List.mem_append, List.mem_singleton] at hp
    rcases hp with hp | hp
    · exact hr.valid p hp
    · subst hp; exact hv

/-- invariant of the serial state on a tie-free table -/
inductive Inv (N : Nat) (D : Nat → Nat → α) (zero top : α) (ss : SState α) : Prop
  | init : ss.ctrs = [] → (∀ g, g < N → ss.dist g = top) → Inv N D zero top ss
  | run : ss.ctrs ≠ [] → (∀ c ∈ ss.ctrs, c < N) →
      (∀ g, g < N → ∃ c ∈ ss.ctrs, ss.dist g = D g c) → (∀ c ∈ ss.ctrs, ss.dist c = zero) →
      Inv N D zero top ss

theorem inv_iter (N : Nat) (hN : 0 < N) (D : Nat → Nat → α) (zero top : α) (ht : TieFree N D zero top)
    (ss : SState α) (hi : Inv N D zero top ss) : Inv N D zero top (serialIter N D ss) := by
  obtain ⟨hc, _, _⟩ := argmaxTo_spec N hN ss.dist
  have hmem : ∀ x, x ∈ (serialIter N D ss).ctrs ↔ x ∈ ss.ctrs ∨ x = Ens.argmaxTo N ss.dist := fun x => by
    rw [show (serialIter N D ss).ctrs = ss.ctrs ++ [Ens.argmaxTo N ss.dist] from rfl, List.mem_append,
      List.mem_singleton]
  have hdist : ∀ g, (serialIter N D ss).dist g = if D g (Ens.argmaxTo N ss.dist) < ss.dist g then
      D g (Ens.argmaxTo N ss.dist) else ss.dist g := fun _ => rfl
  generalize Ens.argmaxTo N ss.dist = c at hc hmem hdist
  have hnz : ∀ g, g < N → ¬ D g c < zero := by
    intro g hg
    by_cases e : g = c
    · rw [← e, ht.diag g hg]; exact st_irrefl _
    · exact st_not_lt_of_lt (ht.pos g _ hg hc e)
  -- what both cases of the invariant give
  have hlt : ∀ x ∈ ss.ctrs, x < N := by
    cases hi with
    | init h0 _ => rw [h0]; nofun
    | run _ h _ _ => exact h
  have hzero : ∀ x ∈ ss.ctrs, ss.dist x = zero := by
    cases hi with
    | init h0 _ => rw [h0]; nofun
    | run _ _ _ h => exact h
  have hex : ∀ g, g < N → ss.dist g = top ∨ ∃ x ∈ ss.ctrs, ss.dist g = D g x := by
    cases hi with
    | init _ h => exact fun g hg => Or.inl (h g hg)
    | run _ _ h _ => exact fun g hg => Or.inr (h g hg)
  refine Inv.run (fun e => absurd ((hmem c).mpr (Or.inr rfl)) (e ▸ List.not_mem_nil)) ?_ ?_ ?_
  · intro x hx
    rcases (hmem x).mp hx with h | rfl
    · exact hlt x h
    · exact hc
  · intro g hg
    rw [hdist]
    by_cases hl : D g c < ss.dist g
    · rw [if_pos hl]; exact ⟨c, (hmem c).mpr (Or.inr rfl), rfl⟩
    · rw [if_neg hl]
      rcases hex g hg with htop | ⟨x, hx, hd⟩
      · exact absurd (htop ▸ ht.fin g c hg hc) hl
      · exact ⟨x, (hmem x).mpr (Or.inl hx), hd⟩
  · intro x hx
    rw [hdist]
    rcases (hmem x).mp hx with h | rfl
    · rw [hzero x h, if_neg (hnz x (hlt x h))]
    · by_cases hl : D x x < ss.dist x
      · rw [if_pos hl, ht.diag x hc]
      · rw [if_neg hl]
        rw [ht.diag x hc] at hl
        rcases hex x hc with htop | ⟨y, hy, hd⟩
        · exact absurd (htop ▸ ht.diag x hc ▸ ht.fin x x hc hc) hl
        · by_cases e : x = y
          · rw [hd, ← e, ht.diag x hc]
          · rw [hd] at hl
            exact absurd (ht.pos x y hc (hlt y hy) e) hl

/-- on a tie-free table a positive maximum of the running distances is attained exactly once -/
theorem unique_max (N : Nat) (D : Nat → Nat → α) (zero top : α) (ht : TieFree N D zero top)
    (ss : SState α) (hlt : ∀ c ∈ ss.ctrs, c < N)
    (hex : ∀ g, g < N → ∃ c ∈ ss.ctrs, ss.dist g = D g c) (hzero : ∀ c ∈ ss.ctrs, ss.dist c = zero)
    (g g' : Nat) (hg : g < N) (hg' : g' < N) (heq : ss.dist g = ss.dist g') (hpos : zero < ss.dist g) :
    g = g' := by
  obtain ⟨c, hc, hd⟩ := hex g hg
  obtain ⟨c', hc', hd'⟩ := hex g' hg'
  have hgc : g ≠ c := by
    intro e; rw [hd, ← e, ht.diag g hg] at hpos; exact st_irrefl _ hpos
  have hgc' : g' ≠ c' := by
    intro e; rw [heq, hd', ← e, ht.diag g' hg'] at hpos; exact st_irrefl _ hpos
  have hD : D g c = D g' c' := by rw [← hd, ← hd', heq]
  rcases ht.distinct g c g' c' hg (hlt c hc) hg' (hlt c' hc') hgc hgc' hD with ⟨e, _⟩ | ⟨e, _⟩
  · exact e
  · rw [e, hzero c' hc'] at hpos
    exact absurd hpos (st_irrefl _)

theorem argmaxTo_const (N : Nat) (hN : 0 < N) (f : Nat → α) (c : α) (h : ∀ g, g < N → f g = c) :
    Ens.argmaxTo N f = 0 := by
  obtain ⟨h1, _, h3⟩ := argmaxTo_spec N hN f
  by_contra hne
  have := h3 0 (by omega)
  rw [h 0 hN, h _ h1] at this
  exact st_irrefl _ this

theorem pick_eq (lay : Layout) (N : Nat) (hb : LayoutBij lay N) (D : Nat → Nat → α)
    (zero top : α) (ht : TieFree N D zero top) (ms : MState α) (ss : SState α) (hr : Rel lay ms ss)
    (hi : Inv N D zero top ss) (hpos : zero < serialMax N ss.dist) :
    ((mpiPick lay ms).1 < lay.w ∧ (mpiPick lay ms).2 < lay.m (mpiPick lay ms).1) ∧
    lay.X (mpiPick lay ms).1 (mpiPick lay ms).2 = Ens.argmaxTo N ss.dist := by
  have hlen := hr.len_ctrs
  cases hi with
  | init h0 htop =>
    have : ms.ctrs.length = 0 := by rw [hlen, h0]; rfl
    simp only [mpiPick, this, if_true]
    refine ⟨⟨hb.wpos, hb.nonempty 0 hb.wpos⟩, ?_⟩
    rw [hb.first, argmaxTo_const N hb.N_pos ss.dist top htop]
  | run hne hlt hex hzero =>
    have : ms.ctrs.length ≠ 0 := by
      rw [hlen]; intro h; exact hne (List.length_eq_zero_iff.mp h)
    simp only [mpiPick, this, if_false]
    generalize ho : (Ens.argmaxTo lay.w fun r => ms.dist r (Ens.argmaxTo (lay.m r) (ms.dist r))) = owner
    generalize hj : Ens.argmaxTo (lay.m owner) (ms.dist owner) = idx
    have hs := mpiArgmax_spec lay N hb ms.dist
    simp only [ho, hj] at hs
    obtain ⟨h1, h2, _⟩ := hs
    refine ⟨⟨h1, h2⟩, ?_⟩
    have a1 := (argmaxTo_spec N hb.N_pos ss.dist).1
    have hx := hb.lt _ _ h1 h2
    -- the ranks' pick and the serial pick both attain the (positive) maximum, which is attained once
    have e : ss.dist (lay.X owner idx) = ss.dist (Ens.argmaxTo N ss.dist) := by
      have := mpiMax_eq_serialMax lay N hb ms ss hr
      simp only [mpiMax, serialMax, ho, hj] at this
      rw [← hr.dist _ _ h1 h2]; exact this
    exact unique_max N D zero top ht ss hlt hex hzero _ _ hx a1 e (by rw [e]; exact hpos)

theorem loop_refines (lay : Layout) (N : Nat) (hb : LayoutBij lay N) (D : Nat → Nat → α)
    (zero top : α) (ht : TieFree N D zero top) (k : Option Nat) (cutoff : α) (hcut : ¬ cutoff < zero)
    (fuel : Nat) (ms : MState α) (ss : SState α) (hr : Rel lay ms ss) (hi : Inv N D zero top ss) :
    (∃ ms' ss', mpiLoop lay D k cutoff fuel ms = .ok ms' ∧ serialLoop N D k cutoff fuel ss = .ok ss' ∧
        Rel lay ms' ss' ∧ Inv N D zero top ss') ∨
    (mpiLoop lay D k cutoff fuel ms = .error .fuel ∧ serialLoop N D k cutoff fuel ss = .error .fuel) := by
  induction fuel generalizing ms ss with
  | zero =>
    rw [mpiLoop, serialLoop, hr.len_ctrs, mpiMax_eq_serialMax lay N hb ms ss hr]
    split
    · exact Or.inr ⟨rfl, rfl⟩
    · exact Or.inl ⟨ms, ss, rfl, rfl, hr, hi⟩
  | succ fuel ih =>
    rw [mpiLoop, serialLoop, hr.len_ctrs, mpiMax_eq_serialMax lay N hb ms ss hr]
    split
    · rename_i hc
      obtain ⟨hv, hpick⟩ := pick_eq lay N hb D zero top ht ms ss hr hi (st_lt_of_ge_of_lt hcut hc.2)
      exact ih _ _ (iter_rel lay N D ms ss hr hv hpick) (inv_iter N hb.N_pos D zero top ht ss hi)
    · exact Or.inl ⟨ms, ss, rfl, rfl, hr, hi⟩

theorem kcenters_refines (lay : Layout) (N : Nat) (hb : LayoutBij lay N)
    (D : Nat → Nat → α) (zero top : α) (ht : TieFree N D zero top) (k : Option Nat) (cutoff : α)
    (hcut : ¬ cutoff < zero) (fuel : Nat) :
    (∃ ms ss, mpiKcenters lay D top k cutoff fuel = .ok ms ∧
        serialKcenters N D top k cutoff fuel = .ok ss ∧ Rel lay ms ss) ∨
    (mpiKcenters lay D top k cutoff fuel = .error .fuel ∧
        serialKcenters N D top k cutoff fuel = .error .fuel) := by
  have herr : firstErr lay.w (fun r => if lay.m r = 0 then some Err.valueError else none) = none :=
    firstErr_eq_none.mpr fun r hr => if_neg (Nat.ne_of_gt (hb.nonempty r hr))
  have hN0 : N ≠ 0 := Nat.ne_of_gt hb.N_pos
  unfold mpiKcenters serialKcenters
  rw [herr]
  simp only [hN0, if_false]
  have hr0 : Rel lay (mpiInit top : MState α) (serialInit top) := by
    constructor
    · intro r i _ _; rfl
    · intro r i _ _; rfl
    · rfl
    · intro p hp; simp [mpiInit] at hp
  have hi0 : Inv N D zero top (serialInit top : SState α) := Inv.init rfl (fun _ _ => rfl)
  rcases loop_refines lay N hb D zero top ht k cutoff hcut fuel _ _ hr0 hi0 with
    ⟨ms, ss, h1, h2, h3, _⟩ | ⟨h1, h2⟩
  · exact Or.inl ⟨ms, ss, h1, h2, h3⟩
  · exact Or.inr ⟨h1, h2⟩

end Ens.Mpi
