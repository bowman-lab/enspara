import Proofs.C18Marg
import Proofs.C18KL
/-!
`weighted_mi` under uniform weights computes, cell by cell, exactly the terms that
`mutual_information` computes from the joint counts of the data set against itself.
-/
namespace Ens.InfoR
open Finset Ens Ens.Info

theorem wsum_const (T : ℕ) (w : ℕ → ℚ) (c : ℚ) (p : ℕ → Bool) (hw : ∀ t, t < T → w t = c) :
    wsum T w p = c * ((List.range T).countP p : ℕ) := by
  unfold wsum
  induction T with
  | zero => simp [sumTo]
  | succ n ih =>
    rw [sumTo_succ, ih fun t ht => hw t (by omega), hw n (by omega), List.range_succ, List.countP_append]
    cases hp : p n
    · simp [hp]
    · simp [hp, mul_add]

theorem wsum_uniform (T : ℕ) (w : ℕ → ℚ) (p : ℕ → Bool) (hT : 0 < T) (hw : ∀ t, t < T → w t = 1 / (T : ℚ)) :
    wsum T w p = gdiv ((List.range T).countP p) T := by
  rw [wsum_const T w _ p hw, gdiv, if_pos hT, one_div, inv_mul_eq_div]

theorem ratSum_replicate (n : ℕ) (c : ℚ) : ratSum (List.replicate n c) = n * c := by
  rw [ratSum_eq_sum]; simp

theorem normWeights_replicate (T : ℕ) (c : ℚ) (hc : 0 < c) (t : ℕ) (ht : t < T) :
    normWeights (List.replicate T c) t = 1 / (T : ℚ) := by
  unfold normWeights
  simp only [ratSum_replicate]
  have hg : (List.replicate T c).getD t 0 = c := by simp [List.getD, ht]
  rw [hg]
  by_cases h1 : (T : ℚ) * c = 1
  · rw [if_pos h1]
    exact eq_one_div_of_mul_eq_one_right h1
  · rw [if_neg h1, div_mul_cancel_right₀ hc.ne', one_div]

/-- `weighted_mi` tests `P_prod_marg = 0 ∨ P_joint = 0` with the marginals in the order (column, row);
`mutual_information` tests the three probabilities one by one -/
theorem cell_comm (pxy px py : ℚ) :
    (if py * px = 0 ∨ pxy = 0 then none else some (pxy, pxy / (py * px)))
      = (if pxy = 0 ∨ px = 0 ∨ py = 0 then none else some (pxy, pxy / (px * py)) : Option Term) := by
  have hc : (py * px = 0 ∨ pxy = 0) ↔ (pxy = 0 ∨ px = 0 ∨ py = 0) := by
    rw [mul_eq_zero, or_comm, or_comm (a := py = 0)]
  by_cases h : pxy = 0 ∨ px = 0 ∨ py = 0
  · rw [if_pos h, if_pos (hc.2 h)]
  · rw [if_neg h, if_neg (fun h' => h (hc.1 h')), mul_comm py px]

theorem wmiCell_uniform (X : Arr) (w : ℕ → ℚ) (f g : ℕ) (M : ℕ) (u v : ℕ) (hT : 0 < X.T)
    (hw : ∀ t, t < X.T → w t = 1 / (X.T : ℚ))
    (hf : ∀ t, t < X.T → 0 ≤ X.get t f ∧ X.get t f < (M : ℤ))
    (hg : ∀ t, t < X.T → 0 ≤ X.get t g ∧ X.get t g < (M : ℤ)) :
    wmiCell X w f g (u : ℤ) (v : ℤ)
      = miCell (fun (u v : ℕ) => frameCount X X f g (u : ℤ) (v : ℤ)) M M u v := by
  unfold wmiCell miCell
  simp only
  rw [total_frameCount X X f g M M hf hg, rowSum_frameCount X X f g M u hg,
    colSum_frameCount X X f g M v hf, wsum_uniform X.T w _ hT hw, wsum_uniform X.T w _ hT hw,
    wsum_uniform X.T w _ hT hw]
  exact cell_comm _ _ _

end Ens.InfoR
