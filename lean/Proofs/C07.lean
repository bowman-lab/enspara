import Proofs.C07Basic
/-!
C07 core lemmas. The committor vector `rowSums B` solves the one-column system `(I−Q) q̃ = rowSums R`;
the discrete maximum principle gives uniqueness of the absorbing-chain systems; the MFPT system in
first-step form; the fundamental-matrix identity `Z − T Z = 1 − W`.
-/
open Finset

namespace Ens.Tpt
open LinSolveT

section committor
variable {n : Nat} {T : Mat} {sources sinks : List Nat} {B : Mat}

theorem rowSums_Rmat_source {s : Nat} (hs : s ∈ sources) (m : Nat) :
    rowSums (Rmat T sources sinks) m s = 0 := by
  simp only [rowSums, Rmat, setRows, if_pos hs, sumTo_eq_sum, sum_const_zero]

theorem rowSums_Rmat_sink {s : Nat} (hs : s ∈ sinks) (hns : s ∉ sources) (m : Nat) :
    rowSums (Rmat T sources sinks) m s = m := by
  simp only [rowSums, Rmat, setRows, if_neg hns, if_pos hs, sumTo_eq_sum, sum_const, card_range,
    nsmul_eq_mul, mul_one]

theorem rowSums_Rmat_free {i : Nat} (h1 : i ∉ sources) (h2 : i ∉ sinks) (m : Nat) :
    rowSums (Rmat T sources sinks) m i = ∑ k ∈ range m, T i (sinks.getD k 0) := by
  simp only [rowSums, Rmat, setRows, pickCols, if_neg h1, if_neg h2, sumTo_eq_sum]

theorem rowSums_source (hB : CommittorSolve n T sources sinks B) {s : Nat}
    (hs : s ∈ sources) (hsn : s < n) : rowSums B sinks.length s = 0 :=
  (sol_abs_row (isSolution_rowSums hB) hsn (List.mem_append_left _ hs) Nat.zero_lt_one).trans
    (rowSums_Rmat_source hs _)

theorem committorsFrom_first_step
    (hsrc : ∀ s ∈ sources, s < n) (hsnk : ∀ s ∈ sinks, s < n)
    (hdisj : ∀ s ∈ sources, s ∉ sinks) (hnd : sinks.Nodup)
    (hB : CommittorSolve n T sources sinks B) :
    (∀ s ∈ sources, committorsFrom B sinks s = 0) ∧
    (∀ s ∈ sinks, committorsFrom B sinks s = 1) ∧
    (∀ i, i < n → i ∉ sources → i ∉ sinks →
      committorsFrom B sinks i = sumTo n (fun j => T i j * committorsFrom B sinks j)) := by
  refine ⟨fun s hs => ?_, fun s hs => if_pos hs, fun i hi h1 h2 => ?_⟩
  · exact (if_neg (hdisj s hs)).trans (rowSums_source hB hs (hsrc s hs))
  · -- row `i` of the system for `q̃ = rowSums B`: `q̃ i − Σ_{j ∉ abs} T i j q̃ j = Σ_{s ∈ sinks} T i s`
    have key := (sol_free_row (isSolution_rowSums hB) hi
        (fun h => (List.mem_append.1 h).elim h1 h2) Nat.zero_lt_one).trans
      ((rowSums_Rmat_free h1 h2 _).trans (sum_pick n (T i) sinks hnd hsnk))
    rw [sumTo_eq_sum, committorsFrom, if_neg h2, sub_eq_iff_eq_add.1 key, ← sum_add_distrib]
    -- term by term this is `Σ_j T i j q j`: on the sinks `q = 1`, on the sources `q̃ = 0`, elsewhere `q = q̃`
    refine sum_congr rfl fun j hj => ?_
    unfold committorsFrom
    by_cases hjs : j ∈ sinks
    · rw [if_pos hjs, if_pos hjs, if_pos (List.mem_append_right _ hjs), mul_one, add_zero]
    · rw [if_neg hjs, if_neg hjs, zero_add]
      by_cases hjo : j ∈ sources
      · rw [if_pos (List.mem_append_left _ hjo), rowSums_source hB hjo (mem_range.1 hj), mul_zero]
      · rw [if_neg fun h => (List.mem_append.1 h).elim hjo hjs]

end committor

theorem committors_ok_first_step {n : Nat} {T : Mat} {sources sinks : List Nat} {q : Vec}
    (hdisj : ∀ s ∈ sources, s ∉ sinks) (hnd : sinks.Nodup)
    (hq : committors n T sources sinks = .ok q) :
    (∀ s ∈ sources, q s = 0) ∧ (∀ s ∈ sinks, q s = 1) ∧
    (∀ i, i < n → i ∉ sources → i ∉ sinks → q i = sumTo n (fun j => T i j * q j)) := by
  unfold committors at hq
  split at hq
  · rename_i hidx
    simp only [Bool.and_eq_true, idxOk, List.all_eq_true, decide_eq_true_eq] at hidx
    split at hq
    · cases hq
    · rename_i B hsol
      cases hq
      exact committorsFrom_first_step hidx.1 hidx.2 hdisj hnd (solve_sound hsol)
  · cases hq

/-- the hypotheses of the maximum principle ("ergodic" in the property) -/
structure Absorbing (n : Nat) (T : Mat) (A : List Nat) : Prop where
  nonneg : ∀ i, i < n → ∀ j, j < n → 0 ≤ T i j
  row : ∀ i, i < n → sumTo n (fun j => T i j) = 1
  reach : ∀ i, i < n → Reach n T A i

theorem Reach.mono {n : Nat} {T : Mat} {A A' : List Nat} (h : ∀ a ∈ A, a ∈ A') {i : Nat}
    (hr : Reach n T A i) : Reach n T A' i := by
  induction hr with
  | base ha => exact .base (h _ ha)
  | step hj hpos _ ih => exact .step hj hpos ih

section maximum
variable {n : Nat} {T : Mat} {A : List Nat} {q : Vec} {c : Rat}

theorem harmonic_le (h : Absorbing n T A) (hA : ∀ a ∈ A, q a ≤ c)
    (hharm : ∀ i, i < n → i ∉ A → q i = ∑ j ∈ range n, T i j * q j) :
    ∀ i, i < n → q i ≤ c := by
  intro i0 hi0
  obtain ⟨im, him, hmax⟩ := exists_max_image (range n) q ⟨i0, mem_range.2 hi0⟩
  have him' := mem_range.1 him
  by_contra hcon
  have hcM : c < q im := lt_of_lt_of_le (not_le.1 hcon) (hmax i0 (mem_range.2 hi0))
  -- every state from which `A` is reachable lies strictly below the maximum: so does `im` itself
  have claim : ∀ i, Reach n T A i → i < n → q i < q im := by
    intro i hr
    induction hr with
    | base ha => intro _; exact lt_of_le_of_lt (hA _ ha) hcM
    | @step i j hj hpos _ ih =>
      intro hi
      by_cases hiA : i ∈ A
      · exact lt_of_le_of_lt (hA _ hiA) hcM
      · -- `q i` is an average of values `≤ q im`, one of which (with positive weight) is `< q im`
        have := sum_lt_sum
          (fun k hk => mul_le_mul_of_nonneg_left (hmax k hk) (h.nonneg i hi k (mem_range.1 hk)))
          ⟨j, mem_range.2 hj, mul_lt_mul_of_pos_left (ih hj) hpos⟩
        rwa [← sum_mul, ← sumTo_eq_sum n (T i), h.row i hi, one_mul, ← hharm i hi hiA] at this
  exact lt_irrefl _ (claim im (h.reach im him') him')

theorem harmonic_ge (h : Absorbing n T A) (hA : ∀ a ∈ A, c ≤ q a)
    (hharm : ∀ i, i < n → i ∉ A → q i = ∑ j ∈ range n, T i j * q j) :
    ∀ i, i < n → c ≤ q i := by
  intro i hi
  refine neg_le_neg_iff.1 (harmonic_le (q := fun i => - q i) h (fun a ha => neg_le_neg (hA a ha))
    (fun k hk hkA => ?_) i hi)
  simp only [mul_neg, sum_neg_distrib, neg_inj]
  exact hharm k hk hkA

end maximum

theorem absorbing_unique {n : Nat} {T : Mat} {S : List Nat} {b : Mat} {x y : Vec}
    (hS : ∀ s ∈ S, s < n) (h : Absorbing n T S)
    (hx : IsSolution n 1 (ImQ T S) (fun i _ => x i) b)
    (hy : IsSolution n 1 (ImQ T S) (fun i _ => y i) b) :
    ∀ i, i < n → x i = y i := by
  -- the difference solves the homogeneous system: it is 0 on `S` and harmonic elsewhere
  have hd := hx.sub hy
  have hd0 : ∀ s ∈ S, x s - y s = 0 := fun s hs => sol_abs_row hd (hS s hs) hs Nat.zero_lt_one
  have hharm : ∀ i, i < n → i ∉ S → x i - y i = ∑ j ∈ range n, T i j * (x j - y j) := by
    intro i hi his
    have := sol_free_row hd hi his Nat.zero_lt_one
    rw [sum_off_absorbing (x := fun j => x j - y j) hd0 (T i)] at this
    exact sub_eq_zero.1 this
  intro i hi
  exact sub_eq_zero.1 <| le_antisymm
    (harmonic_le (q := fun i => x i - y i) h (fun a ha => (hd0 a ha).le) hharm i hi)
    (harmonic_ge (q := fun i => x i - y i) h (fun a ha => (hd0 a ha).ge) hharm i hi)

theorem first_step_iff {n : Nat} {T : Mat} {S : List Nat} {x : Vec} {lag : Rat}
    (hS : ∀ s ∈ S, s < n) :
    IsSolution n 1 (ImQ T S) (fun i _ => x i) (fun i k => lag * cVec S i k) ↔
      (∀ s ∈ S, x s = 0) ∧ ∀ i, i < n → i ∉ S → x i = lag + ∑ j ∈ range n, T i j * x j := by
  rw [isSolution_ImQ_iff]
  constructor
  · intro h
    have h0 : ∀ s ∈ S, x s = 0 := fun s hs => by
      have := h s (hS s hs) 0 Nat.zero_lt_one
      rwa [if_pos hs, cVec_abs hs, mul_zero] at this
    refine ⟨h0, fun i hi his => ?_⟩
    have := h i hi 0 Nat.zero_lt_one
    rw [if_neg his, sum_off_absorbing h0, cVec_free his, mul_one] at this
    exact sub_eq_iff_eq_add.1 this
  · rintro ⟨h0, h1⟩ i hi k _
    by_cases his : i ∈ S
    · rw [if_pos his, h0 i his, cVec_abs his, mul_zero]
    · rw [if_neg his, sum_off_absorbing h0, cVec_free his, mul_one, h1 i hi his, add_sub_cancel_right]

section allpairs
variable {n : Nat} {T : Mat} {π : Vec} {Z : Mat}

theorem fundA_mulVec {i : Nat} (hi : i < n) (x : Vec) :
    ∑ j ∈ range n, fundA T π i j * x j
      = x i - ∑ j ∈ range n, T i j * x j + ∑ j ∈ range n, π j * x j := by
  rw [← sum_range_ite_eq hi x, ← sum_sub_distrib, ← sum_add_distrib]
  exact sum_congr rfl fun j _ => by
    simp only [fundA, eyeMinus, Wmat, add_mul, sub_mul, ite_mul, one_mul, zero_mul]

theorem vecMul_fundA {j : Nat} (hj : j < n) (y : Vec) :
    ∑ i ∈ range n, y i * fundA T π i j
      = y j - ∑ i ∈ range n, y i * T i j + (∑ i ∈ range n, y i) * π j := by
  rw [← sum_range_ite_eq' hj y, ← sum_sub_distrib, sum_mul, ← sum_add_distrib]
  exact sum_congr rfl fun i _ => by
    simp only [fundA, eyeMinus, Wmat, mul_add, mul_sub, mul_ite, mul_one, mul_zero]

/-- `π (I − T + W) = π` and `(I − T + W) Z = 1` give `π Z = π` -/
theorem pi_Z (hπ : Stationary n T π) (hZ : FundInv n T π Z) {k : Nat} (hk : k < n) :
    ∑ j ∈ range n, π j * Z j k = π k := by
  have hπA : ∀ j ∈ range n, ∑ i ∈ range n, π i * fundA T π i j = π j := fun j hj => by
    rw [vecMul_fundA (mem_range.1 hj), ← sumTo_eq_sum, ← sumTo_eq_sum, hπ.1 j (mem_range.1 hj), hπ.2,
      sub_self, zero_add, one_mul]
  have hZ' := isSolution_iff.1 hZ
  calc ∑ j ∈ range n, π j * Z j k
      = ∑ j ∈ range n, (∑ i ∈ range n, π i * fundA T π i j) * Z j k :=
        sum_congr rfl fun j hj => by rw [hπA j hj]
    _ = ∑ i ∈ range n, π i * ∑ j ∈ range n, fundA T π i j * Z j k := by
        simp only [sum_mul, mul_sum, mul_assoc]
        exact sum_comm
    _ = ∑ i ∈ range n, π i * eye i k :=
        sum_congr rfl fun i hi => by rw [hZ' i (mem_range.1 hi) k hk]
    _ = π k := by
        simp only [eye, mul_ite, mul_one, mul_zero]
        exact sum_range_ite_eq' hk π

theorem Z_sub_TZ (hπ : Stationary n T π) (hZ : FundInv n T π Z) {i k : Nat} (hi : i < n)
    (hk : k < n) :
    Z i k - ∑ j ∈ range n, T i j * Z j k = (if i = k then 1 else 0) - π k := by
  have hZ' := isSolution_iff.1 hZ i hi k hk
  rw [fundA_mulVec hi fun j => Z j k, pi_Z hπ hZ hk] at hZ'
  exact eq_sub_of_add_eq hZ'

theorem mfptAll_eq (lag : Rat) (Z : Mat) (π : Vec) (i j : Nat) :
    mfptAll lag Z π i j = lag * (π j)⁻¹ * (Z j j - Z i j) :=
  mul_div_right_comm _ _ _

end allpairs

end Ens.Tpt
