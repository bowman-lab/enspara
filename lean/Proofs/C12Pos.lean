import Proofs.C12Sweep
import Mathlib.Logic.Relation

/-! Positivity: on a count matrix in which every state has an outgoing and an incoming
off-diagonal count (true for every strongly connected matrix with ≥ 2 states), the support of
`C + Cᵀ` stays inside the support of `X`, so the running row sums stay positive and the final
division is well defined. -/

set_option linter.unusedSectionVars false

namespace Ens.C12P
open Ens Ens.Mle

variable {K : Type} [Field K] [LinearOrder K] [IsStrictOrderedRing K] {n : Nat}

/-- every state has an outgoing and an incoming off-diagonal count -/
structure Conn (C : Mat K n) : Prop where
  out : ∀ i, ∃ k, k ≠ i ∧ 0 < mget C i k
  inn : ∀ i, ∃ k, k ≠ i ∧ 0 < mget C k i

/-- a path that leaves `a` has a first edge that leaves `a`: how strong connectivity gives `Conn` -/
theorem exists_edge_of_transGen {α : Type} {r : α → α → Prop} {a b : α}
    (h : Relation.TransGen r a b) : a ≠ b → ∃ c, c ≠ a ∧ r a c := by
  induction h using Relation.TransGen.head_induction_on with
  | single hab => exact fun hne => ⟨b, hne.symm, hab⟩
  | @head a c hac _ ih =>
    intro hne
    by_cases hca : c = a
    · subst hca; exact ih hne
    · exact ⟨c, hca, hac⟩

/-- support invariant -/
structure Pos (C : Mat K n) (st : St K n) : Prop where
  off : ∀ i j, i ≠ j → 0 < mget C i j + mget C j i → 0 < mget st.X i j
  diag : ∀ i, 0 < mget C i i → 0 < mget st.X i i

variable {sqrt log : K → K} {C : Mat K n} {Crs : Vec K n} {st : St K n}

theorem Conn.of_offdiag_pos (h2 : ∀ i : Fin n, ∃ j, j ≠ i)
    (h : ∀ i j, i ≠ j → 0 < mget C i j) : Conn C :=
  ⟨fun i => (h2 i).imp fun k hk => ⟨hk, h i k hk.symm⟩,
   fun i => (h2 i).imp fun k hk => ⟨hk, h k i hk⟩⟩

/-- every state has an off-diagonal count, so the `denom = C_rs[i] - C[i,i]` of the diagonal
update is positive -/
theorem Conn.denom_pos (hD : Data C Crs) (hc : Conn C)
    (i : Fin n) : 0 < vget Crs i - mget C i i := by
  obtain ⟨k, hk, hpos⟩ := hc.out i
  have := pair_le_sum (fun l => mget C i l) (hD.nonneg i) (Ne.symm hk)
  rw [← hD.crs i] at this
  exact sub_pos.2 (lt_of_lt_of_le (lt_add_of_pos_right _ hpos) this)

theorem Conn.crs_pos (hD : Data C Crs) (hc : Conn C) (i : Fin n) : 0 < vget Crs i :=
  lt_of_le_of_lt (hD.nonneg i i) (sub_pos.1 (hc.denom_pos hD i))

theorem Inv.other_le (h : Inv st) (i : Fin n) {j k : Fin n} (hjk : j ≠ k) :
    mget st.X i k ≤ vget st.rs i - mget st.X i j := by
  have := pair_le_sum (fun l => mget st.X i l) (h.nonneg i) hjk
  rw [h.rs i]
  exact le_sub_iff_add_le'.2 this

theorem Pos.exists_off (hD : Data C Crs) (hc : Conn C)
    (hp : Pos C st) (i : Fin n) : ∃ k, k ≠ i ∧ 0 < mget st.X i k := by
  obtain ⟨k, hk, hpos⟩ := hc.out i
  exact ⟨k, hk, hp.off i k (Ne.symm hk) (add_pos_of_pos_of_nonneg hpos (hD.nonneg k i))⟩

theorem Pos.rs_pos (hD : Data C Crs) (hc : Conn C)
    (h : Inv st) (hp : Pos C st) (i : Fin n) : 0 < vget st.rs i := by
  obtain ⟨k, _, h1⟩ := hp.exists_off hD hc i
  exact lt_of_lt_of_le h1 (h.le_rs i k)

theorem Pos.counts_zero (hD : Data C Crs) (hp : Pos C st) {i k : Fin n} (h0 : mget st.X i k = 0) :
    mget C i k = 0 ∧ mget C k i = 0 := by
  by_cases hik : i = k
  · subst hik
    have : mget C i i = 0 :=
      le_antisymm (not_lt.1 fun hpos => (hp.diag i hpos).ne' h0) (hD.nonneg i i)
    exact ⟨this, this⟩
  · have hsum : mget C i k + mget C k i ≤ 0 :=
      not_lt.1 fun hpos => (hp.off i k hik hpos).ne' h0
    exact ⟨le_antisymm (le_trans (le_add_of_nonneg_right (hD.nonneg k i)) hsum) (hD.nonneg i k),
      le_antisymm (le_trans (le_add_of_nonneg_left (hD.nonneg i k)) hsum) (hD.nonneg k i)⟩

theorem init_pos {st0 : St K n} (h : init C = .ok (Crs, st0)) : Pos C st0 := by
  obtain ⟨hX, _⟩ := init_spec h
  exact ⟨fun i j _ hpos => by rwa [hX], fun i hpos => by rw [hX]; exact add_pos hpos hpos⟩

theorem diagV_pos (hD : Data C Crs) (hc : Conn C)
    (h : Inv st) (hp : Pos C st) {i : Fin n} (hpos : 0 < mget C i i) :
    0 < diagV C Crs st i := by
  unfold diagV
  split
  · rename_i hden
    obtain ⟨k, hk, h1⟩ := hp.exists_off hD hc i
    exact div_pos (mul_pos hpos (lt_of_lt_of_le h1 (h.other_le i (Ne.symm hk)))) hden
  · exact hp.diag i hpos

theorem diagStep_pos (hD : Data C Crs) (hc : Conn C)
    (h : Inv st) (hp : Pos C st) (i : Fin n) : Pos C (diagStep C Crs st i) := by
  refine ⟨fun a b hab hpos => ?_, fun a hpos => ?_⟩
  · rw [diagStep_X, if_neg fun ⟨h1, h2⟩ => hab (h1.trans h2.symm)]
    exact hp.off a b hab hpos
  · rw [diagStep_X]
    split
    · rename_i ha
      exact diagV_pos hD hc h hp (ha.1 ▸ hpos)
    · exact hp.diag a hpos

/-- if row `i` of `X` is empty outside column `j` then row `i` of `C` has only the entry `j`,
and the incoming count of `i` comes from `j` -/
theorem rest_zero (hD : Data C Crs) (hc : Conn C) (h : Inv st) (hp : Pos C st) {i j : Fin n}
    (hR : vget st.rs i = mget st.X i j) :
    vget Crs i = mget C i j ∧ 0 < mget C j i := by
  have hC0 : ∀ k, k ≠ j → mget C i k = 0 ∧ mget C k i = 0 := fun k hk =>
    hp.counts_zero hD (le_antisymm
      ((h.other_le i (Ne.symm hk)).trans_eq (sub_eq_zero.2 hR)) (h.nonneg i k))
  constructor
  · rw [hD.crs i]
    exact Finset.sum_eq_single j (fun k _ hk => (hC0 k hk).1)
      (fun hj => absurd (Finset.mem_univ j) hj)
  · obtain ⟨k, _, hpos⟩ := hc.inn i
    by_cases hkj : k = j
    · exact hkj ▸ hpos
    · exact absurd (hC0 k hkj).2 hpos.ne'

theorem coefB_eq (C : Mat K n) (Crs : Vec K n) (st : St K n) (i j : Fin n) :
    coefB C Crs st i j
      = (vget Crs i - (mget C i j + mget C j i)) * (vget st.rs j - mget st.X i j)
        + (vget Crs j - (mget C i j + mget C j i)) * (vget st.rs i - mget st.X i j) := by
  unfold coefB
  ring

theorem newV_pos (hs : SqrtSpec sqrt) (hD : Data C Crs) (hc : Conn C) (h : Inv st) (hp : Pos C st)
    {i j : Fin n} (hij : i ≠ j) (hcij : 0 < mget C i j + mget C j i) :
    0 < newV sqrt C Crs st i j := by
  by_cases ha : coefA C Crs i j = 0
  · rw [newV_of_zero ha]
    exact hp.off j i hij.symm (by rwa [add_comm])
  · obtain ⟨s, hs0, hsq, hv⟩ := newV_spec hs hD h i j ha
    rw [hv]
    refine root_pos (coefA_pos hD ha) ?_ hs0 hsq
    -- `c < 0` when both factors are positive; a factor that vanishes makes `b < 0`
    obtain ⟨hRi, hRj⟩ := h.rest_nonneg i j
    rcases hRi.eq_or_lt with hi0 | hipos
    · right
      obtain ⟨e1, hji⟩ := rest_zero hD hc h hp (sub_eq_zero.1 hi0.symm)
      -- the other factor is positive, or `a` would vanish
      have hjpos : 0 < vget st.rs j - mget st.X i j := hRj.lt_of_ne' fun hj0 => ha (by
        obtain ⟨e2, _⟩ := rest_zero hD hc h hp ((sub_eq_zero.1 hj0).trans (h.symm i j))
        rw [coefA, e1, e2, sub_self, sub_self, add_zero])
      rw [coefB_eq, ← hi0, mul_zero, add_zero, e1, sub_add_cancel_left]
      exact mul_neg_of_neg_of_pos (neg_neg_of_pos hji) hjpos
    · rcases hRj.eq_or_lt with hj0 | hjpos
      · right
        obtain ⟨e2, hijp⟩ :=
          rest_zero hD hc h hp ((sub_eq_zero.1 hj0.symm).trans (h.symm i j))
        rw [coefB_eq, ← hj0, mul_zero, zero_add, e2, sub_add_cancel_right]
        exact mul_neg_of_neg_of_pos (neg_neg_of_pos hijp) hipos
      · left
        exact mul_neg_of_neg_of_pos
          (mul_neg_of_neg_of_pos (neg_neg_of_pos hcij) hipos) hjpos

theorem pairStep_pos (hs : SqrtSpec sqrt)
    (hD : Data C Crs) (hc : Conn C) (h : Inv st) (hp : Pos C st)
    {i j : Fin n} (hij : i ≠ j) : Pos C (setPair st i j (newV sqrt C Crs st i j)) := by
  refine ⟨fun a b hab hpos => ?_, fun a hpos => ?_⟩
  · rw [setPair_X]
    split
    · rename_i hab'
      rcases hab' with ⟨rfl, rfl⟩ | ⟨rfl, rfl⟩
      · exact newV_pos hs hD hc h hp hij hpos
      · exact newV_pos hs hD hc h hp hij (by rwa [add_comm])
    · exact hp.off a b hab hpos
  · rw [setPair_X, if_neg]
    · exact hp.diag a hpos
    · rintro (⟨rfl, h2⟩ | ⟨rfl, h2⟩)
      · exact hij h2
      · exact hij h2.symm

def Good (C : Mat K n) (st : St K n) : Prop := Inv st ∧ Pos C st

theorem good_sweep (hs : SqrtSpec sqrt)
    (hD : Data C Crs) (hc : Conn C) (st : St K n) (h : Good C st) :
    ∃ q, sweep sqrt log C Crs st = .ok q ∧ Good C q.1 :=
  sweep_gen (Good C) (fun _ i h => ⟨diagStep_inv hD h.1 i, diagStep_pos hD hc h.1 h.2 i⟩)
    (fun _ i j h hij => ⟨_, pairStep_ok hD h.1 i j, setPair_inv h.1 hij.ne (newV_nonneg hs hD h.1 i j),
      pairStep_pos hs hD hc h.1 h.2 hij.ne⟩) h

end Ens.C12P
