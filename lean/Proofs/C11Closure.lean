import Model.Trim
import Mathlib.Logic.Relation
/-!
The graph lemma of C11: the executable Warshall closure `reachB` is exactly
reflexive–transitive reachability along edges between vertices `< n`.
-/
namespace Ens.Trim

/-- the edge relation on the vertex set `{0,…,n-1}` -/
def Edge (n : Nat) (e : Nat → Nat → Bool) (a b : Nat) : Prop := a < n ∧ b < n ∧ e a b = true

/-- reflexive–transitive reachability (Mathlib's `ReflTransGen`) -/
def Reach (n : Nat) (e : Nat → Nat → Bool) : Nat → Nat → Prop := Relation.ReflTransGen (Edge n e)

theorem bget_bmk {n : Nat} {f : Nat → Nat → Bool} {i j : Nat} (hi : i < n) (hj : j < n) :
    bget (bmk n f) i j = f i j := by
  simp [bget, bmk, tabulate, hi, hj]

/-- the closure levels as a function (specification of `closureUpTo`) -/
def W (e : Nat → Nat → Bool) : Nat → Nat → Nat → Bool
  | 0, i, j => decide (i = j) || e i j
  | k+1, i, j => W e k i j || (W e k i k && W e k k j)

theorem bget_closureUpTo {n : Nat} (e : Nat → Nat → Bool) :
    ∀ k, k ≤ n → ∀ i j, i < n → j < n → bget (closureUpTo n e k) i j = W e k i j := by
  intro k
  induction k with
  | zero => intro _ i j hi hj; simp [closureUpTo, W, bget_bmk hi hj]
  | succ k ih =>
    intro hk i j hi hj
    have hk' : k < n := hk
    simp only [closureUpTo, warshallStep, W, bget_bmk hi hj]
    rw [ih (Nat.le_of_lt hk') i j hi hj, ih (Nat.le_of_lt hk') i k hi hk',
      ih (Nat.le_of_lt hk') k j hk' hj]

theorem W_mono_le (e : Nat → Nat → Bool) {k k' i j : Nat} (hk : k ≤ k') (h : W e k i j = true) :
    W e k' i j = true := by
  induction hk with
  | refl => exact h
  | step _ ih =>
    rw [W, ih]
    rfl

/-- composition through an already admitted vertex is closed -/
theorem W_trans (e : Nat → Nat → Bool) :
    ∀ k m i j, m < k → W e k i m = true → W e k m j = true → W e k i j = true := by
  intro k
  induction k with
  | zero => intro m i j hm; omega
  | succ k ih =>
    intro m i j hm h1 h2
    simp only [W, Bool.or_eq_true, Bool.and_eq_true] at h1 h2 ⊢
    by_cases hmk : m = k
    · subst hmk
      have a : W e m i m = true := by rcases h1 with h | ⟨h, _⟩ <;> exact h
      have b : W e m m j = true := by rcases h2 with h | ⟨_, h⟩ <;> exact h
      exact Or.inr ⟨a, b⟩
    · have hm' : m < k := by omega
      rcases h1 with a | ⟨a1, a2⟩ <;> rcases h2 with b | ⟨b1, b2⟩
      · exact Or.inl (ih m i j hm' a b)
      · exact Or.inr ⟨ih m i k hm' a b1, b2⟩
      · exact Or.inr ⟨a1, ih m k j hm' a2 b⟩
      · exact Or.inr ⟨a1, b2⟩

theorem W_sound (n : Nat) (e : Nat → Nat → Bool) :
    ∀ k, k ≤ n → ∀ i j, i < n → j < n → W e k i j = true → Reach n e i j := by
  intro k
  induction k with
  | zero =>
    intro _ i j hi hj h
    simp only [W, Bool.or_eq_true, decide_eq_true_eq] at h
    rcases h with h | h
    · subst h; exact Relation.ReflTransGen.refl
    · exact Relation.ReflTransGen.single ⟨hi, hj, h⟩
  | succ k ih =>
    intro hk i j hi hj h
    have hk' : k < n := hk
    simp only [W, Bool.or_eq_true, Bool.and_eq_true] at h
    rcases h with h | ⟨h1, h2⟩
    · exact ih (Nat.le_of_lt hk') i j hi hj h
    · exact Relation.ReflTransGen.trans (ih (Nat.le_of_lt hk') i k hi hk' h1)
        (ih (Nat.le_of_lt hk') k j hk' hj h2)

theorem W_complete (n : Nat) (e : Nat → Nat → Bool) {i j : Nat} (h : Reach n e i j) :
    W e n i j = true := by
  induction h with
  | refl => exact W_mono_le e (Nat.zero_le n) (by simp [W])
  | tail _ hbc ih =>
    obtain ⟨hb, _, hbc⟩ := hbc
    exact W_trans e n _ _ _ hb ih (W_mono_le e (Nat.zero_le n) (by simp [W, hbc]))

/-- **closure = reachability** -/
theorem reachB_iff_reach (n : Nat) (e : Nat → Nat → Bool) {i j : Nat} (hi : i < n) (hj : j < n) :
    reachB n e i j = true ↔ Reach n e i j := by
  unfold reachB closure
  rw [bget_closureUpTo e n (Nat.le_refl n) i j hi hj]
  exact ⟨W_sound n e n (Nat.le_refl n) i j hi hj, W_complete n e⟩

theorem reach_lt_right {n : Nat} {e : Nat → Nat → Bool} {i j : Nat} (h : Reach n e i j) (hi : i < n) :
    j < n := by
  induction h with
  | refl => exact hi
  | tail _ hbc _ => exact hbc.2.1

theorem reach_trans {n : Nat} {e : Nat → Nat → Bool} {i j k : Nat} (h1 : Reach n e i j)
    (h2 : Reach n e j k) : Reach n e i k := Relation.ReflTransGen.trans h1 h2

end Ens.Trim
