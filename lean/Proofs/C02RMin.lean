import Proofs.C02Run

/-! The running minimum: `distances` is, frame by frame, the least distance to the centers so far.
`assign_to_nearest_center` establishes it and every plain iteration keeps it. -/
namespace Ens.KC

/-- `dist` is the running minimum of the distances to `cs`:
below every one of them, and equal to one of them (`inf` when there is none) -/
def RMin (D : Table) (dist : Nat → ERat) (cs : List Nat) : Prop :=
  (∀ f c, c ∈ cs → toWT (dist f) ≤ ((D f c : ℚ) : WithTop ℚ)) ∧
  (∀ f, (cs = [] ∧ dist f = none) ∨ ∃ c ∈ cs, dist f = some (D f c))

theorem RMin_nil (D : Table) : RMin D (fun _ => none) [] :=
  ⟨fun _ _ hc => absurd hc List.not_mem_nil, fun _ => Or.inl ⟨rfl, rfl⟩⟩

theorem RMin_step {D : Table} {dist dist' : Nat → ERat} {cs : List Nat} (c : Nat)
    (h : RMin D dist cs)
    (hd : ∀ f, dist' f = if ltE (some (D f c)) (dist f) then some (D f c) else dist f) :
    RMin D dist' (cs ++ [c]) := by
  obtain ⟨lb, att⟩ := h
  constructor
  · intro f x hx
    rw [hd f, toWT_ite_ltE]
    rcases List.mem_append.mp hx with hx | hx
    · exact le_trans (min_le_right _ _) (lb f x hx)
    · rw [List.mem_singleton.mp hx]; exact min_le_left _ _
  · intro f
    right
    rw [hd f]
    split
    · exact ⟨c, List.mem_append_right _ (List.mem_singleton_self c), rfl⟩
    · rename_i hlt
      rcases att f with ⟨_, h2⟩ | ⟨x, hx, h2⟩
      · rw [h2] at hlt; exact absurd rfl hlt
      · exact ⟨x, List.mem_append_left _ hx, h2⟩

theorem RMin_iterPlain {D : Table} {n : Nat} {s : St} (h : RMin D s.dist s.centers) :
    RMin D (iterPlain D n s).dist (iterPlain D n s).centers :=
  RMin_step _ h (fun _ => update_dist _ _ _ _ _)

theorem nearestGo_cons (D : Table) (n c : Nat) (cs : List Nat) (i : Nat) (d : Nat → ERat)
    (a : Nat → Int) :
    nearestGo D n (c :: cs) i d a = nearestGo D n cs (i+1)
      (fun f => if ltE (some (D f c)) (d f) then some (D f c) else d f)
      (fun f => if ltE (some (D f c)) (d f) then (i : Int) else a f) := by
  simp only [nearestGo, look_tab]

/-- induction over `assign_to_nearest_center`'s loop: `P` of (centers folded in so far, distances,
labels), the running label being the number of centers so far; `Q` is what a step may assume of its center -/
theorem nearestGo_inv {D : Table} {n : Nat} (P : List Nat → (Nat → ERat) → (Nat → Int) → Prop)
    (Q : Nat → Prop)
    (step : ∀ pre d a c, Q c → P pre d a → P (pre ++ [c])
      (fun f => if ltE (some (D f c)) (d f) then some (D f c) else d f)
      (fun f => if ltE (some (D f c)) (d f) then (pre.length : Int) else a f)) :
    ∀ (cs pre : List Nat) (d : Nat → ERat) (a : Nat → Int), (∀ c ∈ cs, Q c) → P pre d a →
      P (pre ++ cs) (nearestGo D n cs pre.length d a).1 (nearestGo D n cs pre.length d a).2 := by
  intro cs
  induction cs with
  | nil => intro pre d a _ h; rw [List.append_nil]; exact h
  | cons c cs ih =>
    intro pre d a hq h
    have := ih (pre ++ [c]) _ _ (fun x hx => hq x (List.mem_cons_of_mem _ hx))
      (step pre d a c (hq c List.mem_cons_self) h)
    rw [List.length_append, List.length_singleton, List.append_assoc] at this
    rw [nearestGo_cons]
    exact this

theorem RMin_initState (D : Table) (n : Nat) (init : Option (List Nat)) :
    RMin D (initState D n init).dist (initState D n init).centers := by
  cases init with
  | none => exact RMin_nil D
  | some cs =>
    exact nearestGo_inv (fun pre d _ => RMin D d pre) (fun _ => True)
      (fun _ _ _ c _ h => RMin_step c h (fun _ => rfl)) cs [] _ _ (fun _ _ => trivial) (RMin_nil D)

theorem RMin_iterN {D : Table} {n : Nat} (init : Option (List Nat)) (j : Nat) (sj : St)
    (h : iterN D n false j (initState D n init) = .ok sj) : RMin D sj.dist sj.centers := by
  refine iterN_inv (fun s => RMin D s.dist s.centers) ?_ j _ sj (RMin_initState D n init) h
  intro s s' hP hs
  rw [iter_plain] at hs
  injection hs with hs
  exact hs ▸ RMin_iterPlain hP

end Ens.KC
