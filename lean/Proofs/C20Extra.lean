import Proofs.C20Hyst
/-!
The specification automaton is deterministic; whole-function statements about `rotamers`; with
a zero buffer the automaton is plain binning; gate avoidance from integrality, for the concrete examples
and the sharpness witness.
-/
namespace Ens.Rotamer

/-- hypotheses on one angle sequence (the property's quantifier) -/
def AnglesOK (hb : List Rat) (b : Rat) (angles : List Rat) : Prop :=
  ∀ a ∈ angles, 0 ≤ a ∧ a < 360 ∧ AvoidsGates hb b a

section
variable {hb : List Rat} {b a : Rat}

theorem specStep_det (hs : hb.Pairwise (· < ·)) {s s1 s2 : Nat}
    (h1 : SpecStep hb b s a s1) (h2 : SpecStep hb b s a s2) : s1 = s2 := by
  by_cases hin : InWidened hb b s a
  · rw [h1.1 hin, h2.1 hin]
  · exact isBasin_unique hs (h1.2 hin) (h2.2 hin)

theorem specFrom_det (hs : hb.Pairwise (· < ·)) (as : List Rat) :
    ∀ {s : Nat} {l1 l2 : List Nat}, SpecFrom hb b s as l1 → SpecFrom hb b s as l2 → l1 = l2 := by
  induction as with
  | nil =>
    intro s l1 l2 h1 h2
    cases l1 <;> cases l2 <;> simp_all [SpecFrom]
  | cons a as ih =>
    intro s l1 l2 h1 h2
    cases l1 with
    | nil => simp [SpecFrom] at h1
    | cons x1 t1 =>
      cases l2 with
      | nil => simp [SpecFrom] at h2
      | cons x2 t2 =>
        simp only [SpecFrom] at h1 h2
        have e := specStep_det hs h1.1 h2.1
        subst e
        rw [ih h1.2 h2.2]

theorem specRun_det (hs : hb.Pairwise (· < ·)) {angles : List Rat}
    {l1 l2 : List Nat} (h1 : SpecRun hb b angles l1) (h2 : SpecRun hb b angles l2) : l1 = l2 := by
  cases angles with
  | nil => simp [SpecRun] at h1
  | cons a0 as =>
    cases l1 with
    | nil => simp [SpecRun] at h1
    | cons x1 t1 =>
      cases l2 with
      | nil => simp [SpecRun] at h2
      | cons x2 t2 =>
        simp only [SpecRun] at h1 h2
        have e := isBasin_unique hs h1.1 h2.1
        subst e
        rw [specFrom_det hs as h1.2 h2.2]

theorem rotamers_cons_ok {a0 : Rat} {rest : List Rat} {tl : List Int}
    (hv : validate hb b = .ok ()) (e : loop hb b (firstFrame a0 hb) rest = .ok tl) :
    rotamers (a0 :: rest) hb b = .ok (firstFrame a0 hb :: tl) := by
  unfold rotamers
  rw [hv]
  show (loop hb b (firstFrame a0 hb) rest >>= fun tl => pure (firstFrame a0 hb :: tl)) = _
  rw [e]
  rfl

/-- `_rotamers` as a whole; validity needs neither the gate hypothesis nor `NoSelfWrap` -/
theorem rotamers_ok (hg : GoodSet hb = true) (hacc : Accepted hb b)
    {angles : List Rat} (hne : angles ≠ []) (hok : ∀ a ∈ angles, 0 ≤ a ∧ a < 360) :
    ∃ states : List Nat, rotamers angles hb b = .ok (states.map Int.ofNat) ∧
      states.length = angles.length ∧ (∀ t ∈ states, t + 1 < hb.length) ∧
      (NoSelfWrap hb b → (∀ a ∈ angles, AvoidsGates hb b a) → SpecRun hb b angles states) := by
  obtain ⟨_, hh, hl, _, _⟩ := goodSet_iff.1 hg
  cases angles with
  | nil => exact absurd rfl hne
  | cons a0 rest =>
    obtain ⟨⟨h0, h1⟩, hok'⟩ := List.forall_mem_cons.1 hok
    obtain ⟨i, e0, hi⟩ := firstFrame_isBasin hh hl h0 h1
    obtain ⟨ss, e1, hlen, hv, sp⟩ := loop_ok (b := b) hg rest hok' (isBasin_lt_length hi)
    rw [← e0] at e1
    refine ⟨i :: ss, ?_, congrArg (· + 1) hlen, List.forall_mem_cons.2 ⟨isBasin_lt_length hi, hv⟩,
      fun hns hav => ⟨hi, sp hacc hns (List.forall_mem_cons.1 hav).2⟩⟩
    rw [rotamers_cons_ok (validate_ok hg hacc) e1, e0]
    rfl

theorem rotamers_first {a0 : Rat} {rest : List Rat} {s0 : Int} {tl : List Int}
    (hg : GoodSet hb = true) (h0 : 0 ≤ a0) (h1 : a0 < 360)
    (h : rotamers (a0 :: rest) hb b = .ok (s0 :: tl)) :
    ∃ i : Nat, s0 = (i : Int) ∧ IsBasin hb i a0 := by
  obtain ⟨_, hh, hl, _, _⟩ := goodSet_iff.1 hg
  obtain ⟨i, e0, hi⟩ := firstFrame_isBasin hh hl h0 h1
  refine ⟨i, ?_, hi⟩
  unfold rotamers at h
  cases hv : validate hb b with
  | error e => rw [hv] at h; cases h
  | ok u =>
    rw [hv] at h
    change (loop hb b (firstFrame a0 hb) rest >>= fun tl => pure (firstFrame a0 hb :: tl)) = _ at h
    cases hlp : loop hb b (firstFrame a0 hb) rest with
    | error e => rw [hlp] at h; cases h
    | ok l => rw [hlp] at h; cases h; exact e0

theorem rotamers_rejects (angles : List Rat) (h2 : 2 ≤ hb.length)
    (hbad : ¬ Accepted hb b) : rotamers angles hb b = .error .dataInvalid := by
  rw [Accepted, not_and_or, not_le, not_lt] at hbad
  unfold rotamers validate
  have hn : ¬ ((hb.length : Int) - 1 = 0) := by omega
  simp only [hn, if_false, bind, Except.bind, pure, Except.pure]
  rw [if_pos hbad]
  rfl

theorem inWidened_zero_isBasin (hg : GoodSet hb = true) {s : Nat}
    (ha0 : 0 ≤ a) (ha : a < 360) (hav : AvoidsGates hb 0 a) (h : InWidened hb 0 s a) :
    IsBasin hb s a := by
  obtain ⟨lo, hi, h1, h2, h⟩ := h
  have bf := basinFacts hg h1 h2
  have g : AvoidsGate hi 0 a := hav hi (List.mem_of_getElem? h2)
  refine ⟨lo, hi, h1, h2, ?_⟩
  rcases inArc_inner ha0 ha (L := lo - 0) (U := hi + 0) (by rw [sub_zero]; exact bf.lo_nonneg)
    (by rw [add_zero]; exact bf.hi_le) h with ⟨h3, h4⟩ | ⟨k, hk⟩
  · rw [sub_zero] at h3
    exact ⟨h3, lt_of_le_of_ne h4 g.ne.2 |>.trans_eq (add_zero hi)⟩
  · exact absurd hk (g k).2

theorem specFrom_forall {P : Rat → Nat → Prop} (as : List Rat)
    (hP : ∀ a ∈ as, ∀ s s', SpecStep hb b s a s' → P a s') :
    ∀ {s : Nat} {ss : List Nat}, SpecFrom hb b s as ss →
      ∀ (n : Nat) (a : Rat) (t : Nat), as[n]? = some a → ss[n]? = some t → P a t := by
  induction as with
  | nil => exact fun _ n a t h1 => nomatch h1
  | cons x xs ih =>
    intro s ss h n a t h1 h2
    cases ss with
    | nil => exact h.elim
    | cons y ys =>
      cases n with
      | zero =>
        cases h1; cases h2
        exact (List.forall_mem_cons.1 hP).1 _ _ h.1
      | succ n => exact ih (List.forall_mem_cons.1 hP).2 h.2 n a t h1 h2

theorem specRun_forall {P : Rat → Nat → Prop} {angles : List Rat}
    (hP0 : ∀ a ∈ angles, ∀ t, IsBasin hb t a → P a t)
    (hP : ∀ a ∈ angles, ∀ s s', SpecStep hb b s a s' → P a s') {states : List Nat}
    (h : SpecRun hb b angles states) :
    ∀ (n : Nat) (a : Rat) (t : Nat), angles[n]? = some a → states[n]? = some t → P a t := by
  intro n a t h1 h2
  cases angles with
  | nil => exact h.elim
  | cons a0 rest =>
    cases states with
    | nil => exact h.elim
    | cons s0 ss =>
      cases n with
      | zero =>
        cases h1; cases h2
        exact (List.forall_mem_cons.1 hP0).1 _ h.1
      | succ n => exact specFrom_forall rest (List.forall_mem_cons.1 hP).2 h.2 n a t h1 h2

theorem specRun_zero_binning (hg : GoodSet hb = true) {angles : List Rat}
    (hok : AnglesOK hb 0 angles) {states : List Nat} (h : SpecRun hb 0 angles states) :
    ∀ (n : Nat) (a : Rat) (t : Nat), angles[n]? = some a → states[n]? = some t → IsBasin hb t a := by
  refine specRun_forall (P := fun a t => IsBasin hb t a) (fun _ _ _ ht => ht) (fun a ha s s' hs => ?_) h
  obtain ⟨h0, h1, hav⟩ := hok a ha
  by_cases hin : InWidened hb 0 s a
  · rw [hs.1 hin]
    exact inWidened_zero_isBasin hg h0 h1 hav hin
  · exact hs.2 hin

theorem accepted_zero (hg : GoodSet hb = true) : Accepted hb 0 := by
  obtain ⟨_, _, _, h3, _⟩ := goodSet_iff.1 hg
  exact ⟨le_refl _, div_pos (by norm_num) (Int.cast_pos.2 (by omega))⟩

theorem noSelfWrap_zero (hg : GoodSet hb = true) : NoSelfWrap hb 0 := by
  intro i lo hi h1 h2
  have bf := basinFacts hg h1 h2
  rw [mul_zero, add_zero]
  exact (sub_le_self hi bf.lo_nonneg).trans bf.hi_le

theorem avoidsGates_of_buffer_off_lattice {u : Rat} {m na : Int}
    (hu : (360 : Rat) = u * (m : Rat)) (ha : a = u * (na : Rat)) (hv : ∀ v ∈ hb, ∃ n : Int, v = u * (n : Rat))
    (hb' : ∀ j : Int, b ≠ u * (j : Rat)) : AvoidsGates hb b a := by
  intro v hv' k
  obtain ⟨n, rfl⟩ := hv v hv'
  subst ha
  constructor
  · intro h
    refine hb' (n - na - m * k) ?_
    push_cast
    rw [mul_sub, mul_sub, ← mul_assoc, ← hu, ← sub_add_eq_sub_sub, h]
    exact (sub_sub_cancel _ _).symm
  · intro h
    refine hb' (na + m * k - n) ?_
    push_cast
    rw [mul_sub, mul_add, ← mul_assoc, ← hu, h]
    exact (add_sub_cancel_left _ _).symm

theorem avoidsGates_of_not_int (hbi : ∃ m : Int, b = (m : Rat))
    (hvi : ∀ v ∈ hb, ∃ m : Int, v = (m : Rat)) (ha : ∀ j : Int, a ≠ (j : Rat)) : AvoidsGates hb b a := by
  obtain ⟨mb, rfl⟩ := hbi
  intro v hv k
  obtain ⟨mv, rfl⟩ := hvi v hv
  constructor
  · intro h
    exact ha (mv - mb - 360 * k) (by push_cast; exact eq_sub_of_add_eq h)
  · intro h
    exact ha (mv + mb - 360 * k) (by push_cast; exact eq_sub_of_add_eq h)

theorem quarter_not_int {n : Int} (hn : n % 4 ≠ 0) (j : Int) : (n : Rat) / 4 ≠ (j : Rat) := by
  intro h
  rw [div_eq_iff (by norm_num)] at h
  have : n = j * 4 := by exact_mod_cast h
  omega

end

/-- for the concrete examples: angles with a proper quarter part, integer boundaries, integer buffer -/
theorem anglesOK_quarter {hb : List Rat} {b : Rat} {angles : List Rat} (hbi : ∃ m : Int, b = (m : Rat))
    (hvi : ∀ v ∈ hb, ∃ m : Int, v = (m : Rat))
    (h : ∀ a ∈ angles, ∃ n : Int, a = (n : Rat) / 4 ∧ n % 4 ≠ 0 ∧ 0 ≤ n ∧ n < 1440) :
    AnglesOK hb b angles := by
  intro a ha
  obtain ⟨n, rfl, h4, h0, h1⟩ := h a ha
  have h1' : (n : Rat) < 360 * 4 := by
    norm_num
    exact_mod_cast h1
  exact ⟨div_nonneg (Int.cast_nonneg h0) (by norm_num), (div_lt_iff₀ (by norm_num)).2 h1',
    avoidsGates_of_not_int hbi hvi (quarter_not_int h4)⟩

end Ens.Rotamer
