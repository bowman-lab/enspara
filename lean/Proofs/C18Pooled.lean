import Proofs.C18Dtype
/-!
`mi_matrix`: the table accumulated over several trajectories (`jc += jc_i`) holds, in every cell,
the sum of the per-trajectory frame counts.  Core Lean only.
-/
namespace Ens.Info

/-- frame count of one trajectory pair (0 outside the feature ranges) -/
def trajCount (XY : TArr × TArr) (x y : Nat) (i j : Int) : Nat :=
  if x < XY.1.arr.F ∧ y < XY.2.arr.F then frameCount XY.1.arr XY.2.arr x y i j else 0

/-- one accumulation step of `mi_matrix` -/
def miStep (nx ny : Int) (acc : JC) (XY : TArr × TArr) : Except Err JC := do
  let ji ← jointCounts XY.1 (some XY.2) (some nx) (some ny)
  if ji.Fa ≠ acc.Fa ∨ ji.Fb ≠ acc.Fb then throw .dataInvalid
  pure (acc.add ji)

theorem miStep_ok (nx ny : Int) (acc : JC) (XY : TArr × TArr) (p : JC)
    (hv : XY.1.valid ∧ XY.2.valid) (h : miStep nx ny acc XY = .ok p) :
    ∀ x y i j, p.cnt x y i j = acc.cnt x y i j + trajCount XY x y i j := by
  unfold miStep at h
  obtain ⟨ji, hj, h⟩ := bind_eq_ok.1 h
  obtain ⟨_, h⟩ := ite_error_eq_ok.1 h
  cases h
  rw [jointCounts_eq XY.1 XY.2 hv.1 hv.2 nx ny ji hj]
  exact fun _ _ _ _ => rfl

theorem foldlM_miStep (nx ny : Int) (rest : List (TArr × TArr)) (acc p : JC)
    (hv : ∀ XY ∈ rest, XY.1.valid ∧ XY.2.valid)
    (h : rest.foldlM (miStep nx ny) acc = .ok p) :
    ∀ x y i j, p.cnt x y i j = acc.cnt x y i j + (rest.map fun XY => trajCount XY x y i j).sum := by
  induction rest generalizing acc with
  | nil => cases h; exact fun _ _ _ _ => rfl
  | cons XY rest ih =>
    rw [List.foldlM_cons] at h
    obtain ⟨acc', hs, h⟩ := bind_eq_ok.1 h
    intro x y i j
    rw [ih acc' (fun Z hZ => hv Z (List.mem_cons_of_mem _ hZ)) h,
      miStep_ok nx ny acc XY acc' (hv XY List.mem_cons_self) hs, List.map_cons, List.sum_cons, Nat.add_assoc]

end Ens.Info
