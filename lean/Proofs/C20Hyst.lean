import Proofs.C20Arc
import Proofs.C20List
/-!
On a boundary list that satisfies `GoodSet` the loop of `_rotamers` always succeeds with valid
basin indices, and refines the hysteresis automaton where the exit test agrees with `InWidened`.
-/
namespace Ens.Rotamer

variable {hb : List Rat} {b a lo hi : Rat} {s : Nat}

theorem goodSet_iff : GoodSet hb = true ↔
    hb.Pairwise (· < ·) ∧ hb.head? = some 0 ∧ hb.getLast? = some 360 ∧ 3 ≤ hb.length ∧
    ∀ p ∈ hb.zip hb.tail, p.1 = 0 ∨ p.2 = 360 ∨
      ((360 : Rat) / (((hb.length : Int) - 1 : Int) : Rat) ≤ p.1 ∧
        p.2 + (360 : Rat) / (((hb.length : Int) - 1 : Int) : Rat) ≤ 360) := by
  simp only [GoodSet, Bool.and_eq_true, decide_eq_true_eq, List.all_eq_true, Bool.or_eq_true, and_assoc,
    or_assoc]

theorem mem_zip_tail :
    (lo, hi) ∈ hb.zip hb.tail ↔ ∃ i, hb[i]? = some lo ∧ hb[i + 1]? = some hi := by
  simp only [List.mem_iff_getElem?, List.getElem?_zip_eq_some, List.getElem?_tail]

theorem noSelfWrap_iff_zip :
    NoSelfWrap hb b ↔ ∀ p ∈ hb.zip hb.tail, p.2 - p.1 + 2 * b ≤ 360 := by
  constructor
  · rintro h ⟨lo, hi⟩ hp
    obtain ⟨i, h1, h2⟩ := mem_zip_tail.1 hp
    exact h i lo hi h1 h2
  · intro h i lo hi h1 h2
    exact h (lo, hi) (mem_zip_tail.2 ⟨i, h1, h2⟩)

theorem mem_range_of_sorted (hs : hb.Pairwise (· < ·)) (hh : hb.head? = some 0)
    (hl : hb.getLast? = some 360) {v : Rat} (hv : v ∈ hb) : 0 ≤ v ∧ v ≤ 360 := by
  constructor
  · obtain ⟨tl, rfl⟩ := List.head?_eq_some_iff.1 hh
    rcases List.mem_cons.1 hv with rfl | h
    · exact le_rfl
    · exact ((List.pairwise_cons.1 hs).1 v h).le
  · obtain ⟨ys, rfl⟩ := List.getLast?_eq_some_iff.1 hl
    rcases List.mem_append.1 hv with h | h
    · exact ((List.pairwise_append.1 hs).2.2 v h 360 (List.mem_singleton_self _)).le
    · exact (List.mem_singleton.1 h).le

/-- what `GoodSet` says about one basin `(lo, hi) = (hb[i], hb[i+1])` -/
structure BasinFacts (hb : List Rat) (lo hi : Rat) : Prop where
  lo_nonneg : 0 ≤ lo
  lt : lo < hi
  hi_le : hi ≤ 360
  not_whole : ¬ (lo = 0 ∧ hi = 360)
  mid : lo ≠ 0 → hi ≠ 360 →
    (360 : Rat) / (((hb.length : Int) - 1 : Int) : Rat) ≤ lo ∧
      hi + (360 : Rat) / (((hb.length : Int) - 1 : Int) : Rat) ≤ 360

theorem basinFacts (hg : GoodSet hb = true) {i : Nat}
    (h1 : hb[i]? = some lo) (h2 : hb[i + 1]? = some hi) : BasinFacts hb lo hi := by
  obtain ⟨hs, hh, hl, h3, hz⟩ := goodSet_iff.1 hg
  obtain ⟨hi1, e1⟩ := List.getElem?_eq_some_iff.1 h1
  obtain ⟨hi2, e2⟩ := List.getElem?_eq_some_iff.1 h2
  have hpw := List.pairwise_iff_getElem.1 hs
  have hr : ∀ j (hj : j < hb.length), 0 ≤ hb[j] ∧ hb[j] ≤ 360 := fun j hj =>
    mem_range_of_sorted hs hh hl (List.getElem_mem hj)
  refine ⟨e1 ▸ (hr i hi1).1, ?_, e2 ▸ (hr (i + 1) hi2).2, ?_, fun hne0 hne360 => ?_⟩
  · rw [← e1, ← e2]
    exact hpw i (i + 1) hi1 hi2 (Nat.lt_succ_self i)
  · -- with a third boundary before `lo = 0` or after `hi = 360` the list would leave `[0, 360]`
    rintro ⟨rfl, rfl⟩
    cases i with
    | zero =>
      have := hpw 1 2 hi2 h3 (Nat.lt_succ_self 1)
      rw [e2] at this
      exact absurd (hr 2 h3).2 (not_le.2 this)
    | succ i =>
      have := hpw i (i + 1) (by omega) hi1 (Nat.lt_succ_self i)
      rw [e1] at this
      exact absurd (hr i (by omega)).1 (not_le.2 this)
  · rcases hz _ (mem_zip_tail.2 ⟨i, h1, h2⟩) with h | h | h
    · exact absurd h hne0
    · exact absurd h hne360
    · exact h

theorem validate_ok (hg : GoodSet hb = true) (hacc : Accepted hb b) :
    validate hb b = .ok () := by
  obtain ⟨_, hh, hl, h3, _⟩ := goodSet_iff.1 hg
  unfold validate
  have hn : ¬ ((hb.length : Int) - 1 = 0) := by omega
  have hc : ¬ (b < 0 ∨ b ≥ 360 / (((hb.length : Int) - 1 : Int) : Rat)) :=
    not_or.2 ⟨not_lt.2 hacc.1, not_le.2 hacc.2⟩
  have hd : ¬ (hb.head? ≠ some 0 ∨ hb.getLast? ≠ some 360) := not_or.2 ⟨not_not.2 hh, not_not.2 hl⟩
  simp only [hn, hc, hd, if_false]
  rfl

theorem inWidened_iff_inArc (h1 : hb[s]? = some lo) (h2 : hb[s + 1]? = some hi) :
    InWidened hb b s a ↔ InArc (lo - b) (hi + b) a := by
  constructor
  · rintro ⟨lo', hi', e1, e2, h⟩
    rw [h1] at e1; rw [h2] at e2
    cases e1; cases e2
    exact h
  · intro h
    exact ⟨lo, hi, h1, h2, h⟩

theorem exitTest_iff_not_inWidened (hg : GoodSet hb = true)
    (hacc : Accepted hb b) (hns : NoSelfWrap hb b) (ha0 : 0 ≤ a) (ha : a < 360) (hav : AvoidsGates hb b a)
    (h1 : hb[s]? = some lo) (h2 : hb[s + 1]? = some hi) :
    exitTest (gatesOf lo hi b) a = true ↔ ¬ InWidened hb b s a := by
  have bf := basinFacts hg h1 h2
  rw [inWidened_iff_inArc h1 h2]
  refine exit_iff_not_inArc ha0 ha hacc.1 bf.lt bf.not_whole (hns s _ _ h1 h2)
    (fun hn0 hn360 => ?_) (hav _ (List.mem_of_getElem? h1)) (hav _ (List.mem_of_getElem? h2))
  obtain ⟨m1, m2⟩ := bf.mid hn0 hn360
  exact ⟨hacc.2.le.trans m1, (add_le_add_right hacc.2.le hi).trans m2⟩

theorem isBufferedTransition_nat (h1 : hb[s]? = some lo) (h2 : hb[s + 1]? = some hi) :
    isBufferedTransition (s : Int) a hb b = .ok (exitTest (gatesOf lo hi b) a) := by
  unfold isBufferedTransition getGates
  rw [pyGet_nat h1, pyGet_nat_succ h2]
  rfl

theorem step_eq (hsort : hb.Pairwise (· < ·)) {s i : Nat}
    (h1 : hb[s]? = some lo) (h2 : hb[s + 1]? = some hi) (hi' : IsBasin hb i a) :
    step hb b (s : Int) a = .ok (if exitTest (gatesOf lo hi b) a = true then (i : Int) else (s : Int)) := by
  unfold step
  rw [isBufferedTransition_nat h1 h2, digitize_of_isBasin hsort hi']
  cases exitTest (gatesOf lo hi b) a
  · rfl
  · show Except.ok (((i + 1 : Nat) : Int) - 1) = Except.ok (i : Int)
    congr 1
    omega

/-- validity needs no hypothesis on the buffer or the gates (used for `state_valid`); the automaton's step
needs all three -/
theorem step_ok (hg : GoodSet hb = true) (ha0 : 0 ≤ a) (ha : a < 360)
    (hs : s + 1 < hb.length) :
    ∃ s' : Nat, step hb b (s : Int) a = .ok (s' : Int) ∧ s' + 1 < hb.length ∧
      (Accepted hb b → NoSelfWrap hb b → AvoidsGates hb b a → SpecStep hb b s a s') := by
  obtain ⟨hsort, hh, hl, _, _⟩ := goodSet_iff.1 hg
  obtain ⟨lo, h1⟩ : ∃ lo, hb[s]? = some lo := ⟨_, List.getElem?_eq_getElem (by omega)⟩
  obtain ⟨hi, h2⟩ : ∃ hi, hb[s + 1]? = some hi := ⟨_, List.getElem?_eq_getElem hs⟩
  obtain ⟨i, _, hi'⟩ := firstFrame_isBasin hh hl ha0 ha
  have e := step_eq (b := b) hsort h1 h2 hi'
  by_cases he : exitTest (gatesOf lo hi b) a = true
  · rw [if_pos he] at e
    refine ⟨i, e, isBasin_lt_length hi', fun hacc hns hav => ⟨fun hin => ?_, fun _ => hi'⟩⟩
    exact absurd hin ((exitTest_iff_not_inWidened hg hacc hns ha0 ha hav h1 h2).1 he)
  · rw [if_neg he] at e
    refine ⟨s, e, hs, fun hacc hns hav => ⟨fun _ => rfl, fun hn => ?_⟩⟩
    exact absurd ((exitTest_iff_not_inWidened hg hacc hns ha0 ha hav h1 h2).2 hn) he

theorem loop_cons_ok {as : List Rat} {s s' : Int} {tl : List Int}
    (e1 : step hb b s a = .ok s') (e2 : loop hb b s' as = .ok tl) :
    loop hb b s (a :: as) = .ok (s' :: tl) := by
  unfold loop
  rw [e1]
  show (loop hb b s' as >>= fun tl => pure (s' :: tl)) = _
  rw [e2]
  rfl

/-- the loop rotamer.py L84-93 -/
theorem loop_ok (hg : GoodSet hb = true) (as : List Rat)
    (hr : ∀ a ∈ as, 0 ≤ a ∧ a < 360) :
    ∀ {s : Nat}, s + 1 < hb.length →
    ∃ ss : List Nat, loop hb b (s : Int) as = .ok (ss.map Int.ofNat) ∧ ss.length = as.length ∧
      (∀ t ∈ ss, t + 1 < hb.length) ∧
      (Accepted hb b → NoSelfWrap hb b → (∀ a ∈ as, AvoidsGates hb b a) → SpecFrom hb b s as ss) := by
  induction as with
  | nil =>
    intro s _
    exact ⟨[], rfl, rfl, fun _ h => (List.not_mem_nil h).elim, fun _ _ _ => trivial⟩
  | cons a as ih =>
    intro s hs
    obtain ⟨⟨ha0, ha⟩, hr'⟩ := List.forall_mem_cons.1 hr
    obtain ⟨s', e1, hs', sp⟩ := step_ok (b := b) hg ha0 ha hs
    obtain ⟨ss, e2, hlen, hv, sp2⟩ := ih hr' hs'
    refine ⟨s' :: ss, loop_cons_ok e1 e2, congrArg (· + 1) hlen, List.forall_mem_cons.2 ⟨hs', hv⟩,
      fun hacc hns hav => ?_⟩
    obtain ⟨hav0, hav'⟩ := List.forall_mem_cons.1 hav
    exact ⟨sp hacc hns hav0, sp2 hacc hns hav'⟩

end Ens.Rotamer
