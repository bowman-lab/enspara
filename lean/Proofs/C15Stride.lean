import Model.Store
import Proofs.PySlice
import Proofs.Basic
/-!
C15, part 2: the strided selection `l[::s]`.
`strideSel s l` has `⌈|l|/s⌉ = (|l| + s - 1) / s` elements, its `i`-th element is `l[i*s]`,
it commutes with `map`, and it coincides with the shared CPython slice model `PySlice`.
Core Lean only.
-/
namespace Ens.Store

theorem strideAux_nil {α} (s k : Nat) : strideAux s k ([] : List α) = [] := by
  cases k <;> rfl

theorem strideAux_zero_cons {α} (s : Nat) (x : α) (xs : List α) :
    strideAux s 0 (x :: xs) = x :: strideAux s (s - 1) xs := rfl

theorem strideAux_succ_cons {α} (s k : Nat) (x : α) (xs : List α) :
    strideAux s (k + 1) (x :: xs) = strideAux s k xs := rfl

theorem strideAux_eq_drop {α} (s : Nat) : ∀ (k : Nat) (l : List α), strideAux s k l = strideAux s 0 (l.drop k)
  | 0, _ => rfl
  | _ + 1, [] => rfl
  | k + 1, _ :: xs => strideAux_eq_drop s k xs

theorem strideSel_cons {α} (s : Nat) (x : α) (xs : List α) :
    strideSel s (x :: xs) = x :: strideSel s (xs.drop (s - 1)) :=
  congrArg (x :: ·) (strideAux_eq_drop s (s - 1) xs)

theorem getElem?_strideSel {α} (s : Nat) (hs : 0 < s) : ∀ (l : List α) (i : Nat), (strideSel s l)[i]? = l[i * s]?
  | [], _ => List.getElem?_nil.trans List.getElem?_nil.symm
  | x :: xs, 0 => by rw [strideSel_cons, Nat.zero_mul]; rfl
  | x :: xs, i + 1 => by
    have e : (i + 1) * s = s - 1 + i * s + 1 := by
      rw [Nat.succ_mul, Nat.add_comm, Nat.add_right_comm, Nat.sub_add_cancel hs]
    rw [strideSel_cons, List.getElem?_cons_succ, getElem?_strideSel s hs _ i, List.getElem?_drop, e,
      List.getElem?_cons_succ]
termination_by _ i => i

theorem ceilDiv_le_iff {n s : Nat} (hs : 0 < s) (i : Nat) : ceilDiv n s ≤ i ↔ n ≤ i * s := by
  unfold ceilDiv
  rw [← Nat.lt_add_one_iff, Nat.div_lt_iff_lt_mul hs, Nat.add_mul, Nat.one_mul]
  omega

/-- **stride length**: `len(l[::s]) = (len(l) + s - 1) // s` -/
theorem length_strideSel {α} (s : Nat) (hs : 0 < s) (l : List α) :
    (strideSel s l).length = ceilDiv l.length s := by
  have h (i : Nat) : (strideSel s l).length ≤ i ↔ l.length ≤ i * s := by
    rw [← List.getElem?_eq_none_iff, getElem?_strideSel s hs, List.getElem?_eq_none_iff]
  exact Nat.le_antisymm ((h _).2 ((ceilDiv_le_iff hs _).1 (Nat.le_refl _)))
    ((ceilDiv_le_iff hs _).2 ((h _).1 (Nat.le_refl _)))

theorem strideSel_one {α} : ∀ (l : List α), strideSel 1 l = l
  | [] => rfl
  | x :: xs => (strideSel_cons 1 x xs).trans (congrArg (x :: ·) (strideSel_one xs))

theorem getElem?_strideAux {α} (s : Nat) (hs : 0 < s) (l : List α) (k i : Nat) :
    (strideAux s k l)[i]? = l[k + i * s]? := by
  rw [strideAux_eq_drop]
  exact (getElem?_strideSel s hs _ i).trans List.getElem?_drop

theorem length_strideAux {α} (s : Nat) (hs : 0 < s) (l : List α) (k : Nat) :
    (strideAux s k l).length = (l.length - k + s - 1) / s := by
  rw [strideAux_eq_drop]
  exact (length_strideSel s hs _).trans (by rw [List.length_drop]; rfl)

theorem strideAux_map {α γ} (f : α → γ) (s : Nat) :
    ∀ (l : List α) (k : Nat), strideAux s k (l.map f) = (strideAux s k l).map f
  | [], k => by rw [List.map_nil, strideAux_nil, strideAux_nil, List.map_nil]
  | x :: xs, 0 => congrArg (f x :: ·) (strideAux_map f s xs (s - 1))
  | x :: xs, k + 1 => strideAux_map f s xs k

theorem strideSel_map {α γ} (f : α → γ) (s : Nat) (l : List α) :
    strideSel s (l.map f) = (strideSel s l).map f := strideAux_map f s l 0

theorem strideSel_ne_nil {α} (s : Nat) {l : List α} (h : l ≠ []) : strideSel s l ≠ [] := by
  cases l with
  | nil => exact absurd rfl h
  | cons x xs => rw [strideSel_cons]; exact List.cons_ne_nil _ _

/-! ### agreement with the shared CPython slice model -/

/-- `range(*slice(None, None, s).indices(n))` = positions `0, s, 2s, …` -/
theorem pySlice_indices_stride (n s : Nat) (hs : 0 < s) :
    (PySlice.mk none none (some (s : Int))).indices n = some (strideSel s (List.range n)) := by
  rw [PySlice.indices_of_pos (lo := 0) (hi := n) hs rfl rfl rfl, show (n - 0 + s - 1) / s = ceilDiv n s from rfl]
  refine congrArg some (List.ext_getElem? fun i => ?_)
  rw [getElem?_strideSel s hs, List.getElem?_map]
  by_cases h : i * s < n
  · have hi : i < ceilDiv n s := Nat.lt_of_not_le fun hle => Nat.not_le.mpr h ((ceilDiv_le_iff hs i).1 hle)
    rw [List.getElem?_range h, List.getElem?_range hi]
    exact congrArg some (Nat.zero_add _)
  · have hi : ceilDiv n s ≤ i := (ceilDiv_le_iff hs i).2 (Nat.le_of_not_lt h)
    rw [List.getElem?_eq_none (by rw [List.length_range]; exact hi),
      List.getElem?_eq_none (by rw [List.length_range]; exact Nat.le_of_not_lt h)]
    rfl

/-- **`strideSel` is CPython's `l[::s]`** (the shared `PySlice` model, itself compared with
CPython exhaustively on a small scope in the correspondence). -/
theorem pySlice_apply_stride {α} [Inhabited α] (l : List α) (s : Nat) (hs : 0 < s) :
    (PySlice.mk none none (some (s : Int))).apply l = some (strideSel s l) := by
  unfold PySlice.apply
  rw [pySlice_indices_stride l.length s hs, Option.map_some, ← strideSel_map, map_range_getD l default fun x => x, List.map_id']

end Ens.Store
