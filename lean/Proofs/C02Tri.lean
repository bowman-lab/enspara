import Proofs.C02Run

/-! The triangle-inequality shortcut (`use_triangle_inequality=True`) computes the same thing
as the plain iteration when `D` is symmetric and obeys the triangle inequality on the frames. -/
namespace Ens.KC

/-- two states that cannot be told apart on the frames `0 … n-1` -/
def StAgree (n : Nat) (s t : St) : Prop :=
  s.ctrInds = t.ctrInds ∧ s.centers = t.centers ∧
  ∀ f, f < n → s.dist f = t.dist f ∧ s.assign f = t.assign f

theorem StAgree.refl (n : Nat) (s : St) : StAgree n s s := ⟨rfl, rfl, fun _ _ => ⟨rfl, rfl⟩⟩

/-- frame `f` carries the label of an entry of `cs` that is a frame, at exactly its recorded distance -/
def Labelled (D : Table) (n : Nat) (cs : List Nat) (d : Nat → ERat) (a : Nat → Int) (f : Nat) : Prop :=
  ∃ (k g : Nat), a f = (k : Int) ∧ cs[k]? = some g ∧ g < n ∧ d f = some (D f g)

theorem Labelled.step {D : Table} {n : Nat} {cs : List Nat} {d : Nat → ERat} {a : Nat → Int} {f c : Nat}
    (hc : c < n) (h : d f = none ∨ Labelled D n cs d a f) :
    Labelled D n (cs ++ [c]) (fun f => if ltE (some (D f c)) (d f) then some (D f c) else d f)
      (fun f => if ltE (some (D f c)) (d f) then (cs.length : Int) else a f) f := by
  unfold Labelled
  dsimp only
  split
  · exact ⟨cs.length, c, rfl, List.getElem?_concat_length, hc, rfl⟩
  · rename_i hlt
    rcases h with h | ⟨k, g, h1, h2, h3, h4⟩
    · rw [h] at hlt; exact absurd rfl hlt
    · exact ⟨k, g, h1, by rw [List.getElem?_append_left (List.getElem?_eq_some_iff.mp h2).1]; exact h2,
        h3, h4⟩

/-- the invariant under which the shortcut prunes correctly: every frame is labelled by `ctrInds` -/
def Lab (D : Table) (n : Nat) (s : St) : Prop :=
  ∀ f, f < n → Labelled D n s.ctrInds s.dist s.assign f

/-- nothing assigned yet (the cold start before its first iteration) -/
def ColdLike (n : Nat) (s : St) : Prop := ∀ f, f < n → s.assign f = -1 ∧ s.dist f = none

theorem ColdLike_cold (n : Nat) : ColdLike n St.cold := fun _ _ => ⟨rfl, rfl⟩

theorem allAssigned_iff (n : Nat) (a : Nat → Int) :
    allAssigned n a = true ↔ ∀ f, f < n → 0 ≤ a f := by
  rw [allAssigned, List.all_eq_true]
  simp only [List.mem_range, decide_eq_true_eq]

theorem guard_congr {n : Nat} (hn : 0 < n) {s t : St} (h : StAgree n s t) (nc : Option Int)
    (cut : ERat) : guard nc cut n s = guard nc cut n t := by
  unfold guard
  rw [h.1, radius_congr (fun f hf => (h.2.2 f hf).1) hn]

theorem Lab_iterPlain {D : Table} {n : Nat} (hn : 0 < n) {s : St} (h : ColdLike n s ∨ Lab D n s) :
    Lab D n (iterPlain D n s) := by
  intro f hf
  have := Labelled.step (D := D) (argmaxE_lt hn s.dist)
    (h.imp (fun h => (h f hf).2) (fun h => h f hf))
  simpa only [Labelled, iterPlain, update_dist, update_assign, update_ctrInds] using this

theorem update_agree {n : Nat} {s t : St} (h : StAgree n s t) (c : Nat) (cs ct : Nat → ERat)
    (hc : ∀ f, f < n →
      (if ltE (cs f) (s.dist f) then cs f else s.dist f) =
        (if ltE (ct f) (t.dist f) then ct f else t.dist f) ∧
      ltE (cs f) (s.dist f) = ltE (ct f) (t.dist f)) :
    StAgree n (update n s cs c) (update n t ct c) := by
  obtain ⟨h1, h2, h3⟩ := h
  refine ⟨congrArg (· ++ [c]) h1, congrArg (· ++ [c]) h2, ?_⟩
  intro f hf
  simp only [update_dist, update_assign]
  refine ⟨(hc f hf).1, ?_⟩
  rw [(hc f hf).2, h1, (h3 f hf).2]

theorem half_lt_of_le_add {a b c : ℚ} (h : a ≤ b + c) (hc : c < b) : a / 2 < b := by
  linarith only [h, hc]

/-- the pruning rule of the shortcut: a frame `f` whose center `g` is at least twice as far from the
new center `c` as from `f` is no closer to `c` than to `g` -/
theorem prune {D : Table} {n : Nat} (symm : ∀ x y, x < n → y < n → D x y = D y x)
    (tri : ∀ x y z, x < n → y < n → z < n → D x z ≤ D x y + D y z) {f g c : Nat}
    (hf : f < n) (hg : g < n) (hc : c < n) (h : ¬ D g c / 2 < D f g) : ¬ D f c < D f g := by
  refine fun hlt => h (half_lt_of_le_add ?_ hlt)
  rw [← symm g f hg hf]
  exact tri g f c hg hf hc

/-- on a labelled frame the candidate of the shortcut is written back exactly when the true distance
would be, and then it is the true distance -/
theorem triCand_spec {D : Table} {n : Nat} (symm : ∀ x y, x < n → y < n → D x y = D y x)
    (tri : ∀ x y z, x < n → y < n → z < n → D x z ≤ D x y + D y z) {s : St} {f c : Nat}
    (hf : f < n) (hc : c < n) (hlab : Labelled D n s.ctrInds s.dist s.assign f) :
    (if ltE (some (D f c)) (s.dist f) then some (D f c) else s.dist f) =
        (if ltE (triCand D s c f) (s.dist f) then triCand D s c f else s.dist f) ∧
      ltE (some (D f c)) (s.dist f) = ltE (triCand D s c f) (s.dist f) := by
  obtain ⟨k, g, h1, h2, h3, h4⟩ := hlab
  have hcand : triCand D s c f =
      if ltE (some (D g c / 2)) (some (D f g)) then some (D f c) else some (D f g) := by
    rw [triCand, h1, Int.toNat_natCast, h2, h4]
  rw [hcand, h4]
  by_cases hrec : ltE (some (D g c / 2)) (some (D f g)) = true
  · rw [if_pos hrec]; exact ⟨rfl, rfl⟩
  · rw [if_neg hrec]
    have hge := prune symm tri hf h3 hc (fun h => hrec ((ltE_some_some _ _).mpr h))
    have e1 : ltE (some (D f c)) (some (D f g)) = false :=
      Bool.eq_false_iff.mpr (fun h => hge ((ltE_some_some _ _).mp h))
    rw [e1, ltE_irrefl]
    exact ⟨rfl, rfl⟩

theorem iter_agree {D : Table} {n : Nat} (hn : 0 < n)
    (symm : ∀ x y, x < n → y < n → D x y = D y x)
    (tri : ∀ x y z, x < n → y < n → z < n → D x z ≤ D x y + D y z)
    {s t : St} (hag : StAgree n s t) (hinv : ColdLike n s ∨ Lab D n s) :
    ∃ t', iter D n true t = .ok t' ∧ StAgree n (iterPlain D n s) t' := by
  have hd : ∀ f, f < n → s.dist f = t.dist f := fun f hf => (hag.2.2 f hf).1
  have hce : argmaxE n s.dist = argmaxE n t.dist := argmaxE_congr n _ _ hd
  rw [iterPlain, hce]
  rcases hinv with hcold | hlab
  · -- nothing assigned: the shortcut is not taken
    have hna : allAssigned n t.assign = false := by
      rw [← Bool.not_eq_true, allAssigned_iff]
      intro hall
      have := hall 0 hn
      rw [← (hag.2.2 0 hn).2, (hcold 0 hn).1] at this
      exact absurd this (by decide)
    refine ⟨iterPlain D n t, by rw [iter, hna, Bool.and_false]; rfl, ?_⟩
    exact update_agree hag _ _ _ (fun f hf => by rw [hd f hf]; exact ⟨rfl, rfl⟩)
  · have hlabt : Lab D n t := fun f hf => by
      have := hlab f hf
      rwa [Labelled, hag.1, hd f hf, (hag.2.2 f hf).2] at this
    have hall : allAssigned n t.assign = true := by
      rw [allAssigned_iff]
      intro f hf
      obtain ⟨k, _, h1, _⟩ := hlabt f hf
      rw [h1]
      exact Int.natCast_nonneg k
    have hidx : ((List.range n).all fun f => decide (t.assign f < (t.ctrInds.length : Int))) = true := by
      rw [List.all_eq_true]
      intro f hf
      obtain ⟨k, g, h1, h2, _⟩ := hlabt f (List.mem_range.mp hf)
      rw [decide_eq_true_eq, h1]
      exact Int.ofNat_lt.mpr (List.getElem?_eq_some_iff.mp h2).1
    refine ⟨_, by rw [iter, hall, Bool.and_true, if_pos rfl, iterTri, if_pos hidx], ?_⟩
    exact update_agree hag _ _ _ (fun f hf => by
      rw [hd f hf]
      exact triCand_spec symm tri hf (argmaxE_lt hn t.dist) (hlabt f hf))

/-- outcome of two runs that cannot be told apart on the frames -/
def LoopAgree (n : Nat) :
    Except Err (St × List (Nat × ERat)) → Except Err (St × List (Nat × ERat)) → Prop
  | .ok (sf, tr), .ok (tf, tr') => StAgree n sf tf ∧ tr = tr'
  | .error e, .error e' => e = e'
  | _, _ => False

theorem LoopAgree.map_cons {n : Nat} (e : Nat × ERat) {x y : Except Err (St × List (Nat × ERat))}
    (h : LoopAgree n x y) :
    LoopAgree n (x.map fun p => (p.1, e :: p.2)) (y.map fun p => (p.1, e :: p.2)) := by
  rcases x with ex | ⟨a, b⟩ <;> rcases y with ey | ⟨a', b'⟩
  · exact h
  · exact h
  · exact h
  · exact ⟨h.1, congrArg (e :: ·) h.2⟩

theorem loop_agree {D : Table} {n : Nat} (hn : 0 < n)
    (symm : ∀ x y, x < n → y < n → D x y = D y x)
    (tri : ∀ x y z, x < n → y < n → z < n → D x z ≤ D x y + D y z)
    (nc : Option Int) (cut : ERat) :
    ∀ (fuel : Nat) (s t : St), StAgree n s t → (ColdLike n s ∨ Lab D n s) →
      LoopAgree n (loop D n false nc cut fuel s) (loop D n true nc cut fuel t) := by
  intro fuel
  induction fuel with
  | zero =>
    intro s t hag _
    have hgt := guard_congr hn hag nc cut
    cases hg : guard nc cut n s with
    | false => rw [loop_stop _ hg, loop_stop _ (hgt ▸ hg)]; exact ⟨hag, rfl⟩
    | true => rw [loop_zero hg, loop_zero (hgt ▸ hg)]; rfl
  | succ fuel ih =>
    intro s t hag hinv
    have hgt := guard_congr hn hag nc cut
    cases hg : guard nc cut n s with
    | false => rw [loop_stop _ hg, loop_stop _ (hgt ▸ hg)]; exact ⟨hag, rfl⟩
    | true =>
      obtain ⟨t', ht', hag'⟩ := iter_agree hn symm tri hag hinv
      have hd : ∀ f, f < n → s.dist f = t.dist f := fun f hf => (hag.2.2 f hf).1
      rw [loop_step _ hg (iter_plain D n s), loop_step _ (hgt ▸ hg) ht',
        ← argmaxE_congr n _ _ hd, ← radius_congr hd hn]
      exact (ih _ t' hag' (Or.inr (Lab_iterPlain hn hinv))).map_cons _

end Ens.KC
