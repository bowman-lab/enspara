import Model.Info
import Proofs.C18RealMI
import Proofs.BasicSum
import Mathlib.Data.Rat.Cast.Order
import Mathlib.Data.Rat.Cast.CharZero
import Mathlib.Data.Real.Basic
import Mathlib.Algebra.BigOperators.Field
/-!
Bridge between the executable term lists of `Model.Info` (what the driver prints, what the
correspondence check evaluates with libm) and the real-valued finite sums of `Proofs.C18RealMI`.
`termsVal l = Σ_{(c,x) ∈ l} c · log x`.
-/
namespace Ens.InfoR
open Finset Ens Ens.Info

noncomputable def termVal (t : Term) : ℝ := (t.1 : ℝ) * Real.log (t.2 : ℝ)
noncomputable def termsVal (l : List Term) : ℝ := (l.map termVal).sum

theorem sum_flatMap_range (n : ℕ) (f : ℕ → List ℝ) :
    ((List.range n).flatMap f).sum = ∑ u ∈ range n, (f u).sum := by
  induction n with
  | zero => simp
  | succ k ih =>
    rw [List.range_succ, List.flatMap_append, List.sum_append, ih, Finset.sum_range_succ]
    simp

theorem sum_filterMap_range (n : ℕ) (g : ℕ → Option ℝ) :
    ((List.range n).filterMap g).sum = ∑ v ∈ range n, (g v).getD 0 := by
  induction n with
  | zero => simp
  | succ k ih =>
    rw [List.range_succ, List.filterMap_append, List.sum_append, ih, Finset.sum_range_succ]
    cases h : g k <;> simp [h]

/-- probability table of a count table: `P_uv = c_uv / N` -/
noncomputable def probTable (c : ℕ → ℕ → ℕ) (nA nB : ℕ) : ℕ → ℕ → ℝ :=
  fun u v => (c u v : ℝ) / (total c nA nB : ℝ)

theorem gdiv_cast (k N : ℕ) : ((gdiv k N : ℚ) : ℝ) = (k : ℝ) / (N : ℝ) := by
  unfold gdiv
  by_cases h : N > 0
  · simp [h]
  · have : N = 0 := by omega
    subst this; simp

theorem rowS_probTable (c : ℕ → ℕ → ℕ) (nA nB u : ℕ) :
    rowS (probTable c nA nB) nB u = (rowSum c nB u : ℝ) / (total c nA nB : ℝ) := by
  unfold rowS probTable rowSum
  rw [← Finset.sum_div, sumTo_eq_sum, Nat.cast_sum]

theorem colS_probTable (c : ℕ → ℕ → ℕ) (nA nB v : ℕ) :
    colS (probTable c nA nB) nA v = (colSum c nA v : ℝ) / (total c nA nB : ℝ) := by
  unfold colS probTable colSum
  rw [← Finset.sum_div, sumTo_eq_sum, Nat.cast_sum]

theorem miCell_val (c : ℕ → ℕ → ℕ) (nA nB u v : ℕ) :
    ((miCell c nA nB u v).map termVal).getD 0
      = probTable c nA nB u v *
          Real.log (probTable c nA nB u v / (rowS (probTable c nA nB) nB u * colS (probTable c nA nB) nA v)) := by
  rw [rowS_probTable, colS_probTable]
  unfold miCell probTable
  simp only
  by_cases h : gdiv (c u v) (total c nA nB) = 0 ∨ gdiv (rowSum c nB u) (total c nA nB) = 0 ∨
      gdiv (colSum c nA v) (total c nA nB) = 0
  · rw [if_pos h]
    simp only [Option.map_none, Option.getD_none]
    have z : ∀ k N : ℕ, gdiv k N = 0 → (k : ℝ) / (N : ℝ) = 0 := fun k N e => by
      rw [← gdiv_cast, e, Rat.cast_zero]
    rcases h with h | h | h
    · rw [z _ _ h]; simp
    · rw [z _ _ h]; simp
    · rw [z _ _ h]; simp
  · rw [if_neg h]
    simp only [Option.map_some, Option.getD_some, termVal, Rat.cast_div, Rat.cast_mul, gdiv_cast]

theorem miTerms_val (c : ℕ → ℕ → ℕ) (nA nB : ℕ) :
    termsVal (miTerms c nA nB) = miF (probTable c nA nB) nA nB := by
  unfold termsVal miTerms miF
  rw [List.map_flatMap, sum_flatMap_range]
  apply Finset.sum_congr rfl; intro u _
  rw [List.map_filterMap, sum_filterMap_range]
  apply Finset.sum_congr rfl; intro v _
  exact miCell_val c nA nB u v

theorem probTable_nonneg (c : ℕ → ℕ → ℕ) (nA nB u v : ℕ) : 0 ≤ probTable c nA nB u v := by
  unfold probTable; positivity

theorem total_cast (c : ℕ → ℕ → ℕ) (nA nB : ℕ) :
    (total c nA nB : ℝ) = ∑ u ∈ range nA, ∑ v ∈ range nB, (c u v : ℝ) := by
  unfold total rowSum
  rw [sumTo_eq_sum, Nat.cast_sum]
  apply Finset.sum_congr rfl; intro u _
  rw [sumTo_eq_sum, Nat.cast_sum]

theorem probTable_mass (c : ℕ → ℕ → ℕ) (nA nB : ℕ) :
    ∑ u ∈ range nA, rowS (probTable c nA nB) nB u ≤ 1 := by
  unfold rowS probTable
  simp_rw [← Finset.sum_div]
  rw [← total_cast]
  exact div_self_le_one _

theorem miTerms_nonneg (c : ℕ → ℕ → ℕ) (nA nB : ℕ) : 0 ≤ termsVal (miTerms c nA nB) := by
  rw [miTerms_val]
  exact miF_nonneg _ nA nB (fun u _ v _ => probTable_nonneg c nA nB u v) (probTable_mass c nA nB)

end Ens.InfoR
