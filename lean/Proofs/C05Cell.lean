import Proofs.C05Basic
/-! The flat-offset arithmetic of one (row, column) pair refines the cell read on the list of rows.
Both sides are written through `posOf`, the position an integer index denotes. -/
namespace Ens.Ragged
open Ens

/-- the position an integer index denotes in a sequence of length `n` (one wrap of a negative index,
`IndexError` outside `[0, n)`): what `npIndex` and `convertOne` both compute before they read -/
def posOf (n : Nat) (i : Int) : Except Err Nat :=
  let j : Int := if i < 0 then i + n else i
  if j < 0 then .error .indexError else if j.toNat < n then .ok j.toNat else .error .indexError

theorem posOf_eq_ok {n : Nat} {i : Int} {k : Nat} (h : posOf n i = .ok k) :
    k < n ∧ ((0 ≤ i ∧ i = k) ∨ (i < 0 ∧ i + n = k)) := by
  simp only [posOf] at h
  generalize hj : (if i < 0 then i + (n : Int) else i) = j at h
  by_cases h1 : j < 0
  · rw [if_pos h1] at h; cases h
  · by_cases h2 : j.toNat < n
    · rw [if_neg h1, if_pos h2] at h; cases h; omega
    · rw [if_neg h1, if_neg h2] at h; cases h

theorem posOf_error {n : Nat} {i : Int} {e : Err} (h : posOf n i = .error e) : e = .indexError := by
  simp only [posOf] at h
  generalize (if i < 0 then i + (n : Int) else i) = j at h
  by_cases h1 : j < 0
  · rw [if_pos h1] at h; cases h; rfl
  · by_cases h2 : j.toNat < n
    · rw [if_neg h1, if_pos h2] at h; cases h
    · rw [if_neg h1, if_neg h2] at h; cases h; rfl

theorem posOf_oob {n : Nat} {i : Int} (h : i < -(n : Int) ∨ (n : Int) ≤ i) : posOf n i = .error .indexError := by
  simp only [posOf]
  generalize hj : (if i < 0 then i + (n : Int) else i) = j
  by_cases h1 : j < 0
  · rw [if_pos h1]
  · rw [if_neg h1, if_neg (by omega)]

theorem posOf_ofNat {n k : Nat} (h : k < n) : posOf n (k : Int) = .ok k := by
  have h0 : ¬ ((k : Int) < 0) := Int.not_lt.mpr (Int.natCast_nonneg k)
  simp only [posOf, h0, if_false, Int.toNat_natCast, h, if_true]

theorem getNat_of_lt {β} {l : List β} {k : Nat} (hk : k < l.length) : getNat l k = .ok l[k] := by
  simp only [getNat, List.getElem?_eq_getElem hk]

theorem getNat_eq_ok {β} {l : List β} {k : Nat} {x : β} : getNat l k = .ok x ↔ l[k]? = some x := by
  simp only [getNat]
  cases l[k]? <;> simp

theorem getNat_error {β} (l : List β) (k : Nat) (e : Err) (h : getNat l k = .error e) : e = .indexError := by
  simp only [getNat] at h
  split at h <;> cases h
  rfl

theorem npIndex_eq {β} (l : List β) (i : Int) : npIndex l i = bindE (posOf l.length i) (getNat l) := by
  simp only [npIndex, posOf]
  generalize (if i < 0 then i + (l.length : Int) else i) = j
  by_cases hj : j < 0
  · simp only [hj, if_true, bindE_error]
  · by_cases hl : j.toNat < l.length
    · simp only [hj, hl, if_false, if_true, bindE_ok, getNat]
    · simp only [hj, hl, if_false, bindE_error, List.getElem?_eq_none (Nat.le_of_not_lt hl)]

theorem npIndex_error {β} (l : List β) (i : Int) (e : Err) (h : npIndex l i = .error e) : e = .indexError := by
  rw [npIndex_eq] at h
  rcases bindE_eq_error h with h | ⟨k, _, h⟩
  · exact posOf_error h
  · exact getNat_error l k e h

theorem npIndex_ofNat {β} (l : List β) (k : Nat) : npIndex l (k : Int) = getNat l k := by
  rw [npIndex_eq]
  by_cases hk : k < l.length
  · rw [posOf_ofNat hk]; rfl
  · rw [posOf_oob (Or.inr (Int.ofNat_le.mpr (Nat.le_of_not_lt hk)))]
    simp only [getNat, List.getElem?_eq_none (Nat.le_of_not_lt hk)]; rfl

theorem convertOne_eq (lens : List Nat) (i j : Int) :
    convertOne lens (i, j) = bindE (posOf lens.length i) fun r =>
      bindE (posOf (lens.getD r 0) j) fun c => .ok ((lens.take r).sum + c) := by
  simp only [convertOne, posOf]
  generalize (if i < 0 then i + (lens.length : Int) else i) = i'
  split
  · rfl
  · by_cases hi : i'.toNat < lens.length
    · simp only [if_pos hi, bindE_ok, List.getElem?_eq_getElem hi, List.getD_eq_getElem?_getD,
        Option.getD_some, starts_getElem? lens _ hi]
      generalize (if j < 0 then j + (lens[i'.toNat] : Int) else j) = j'
      split
      · rfl
      · by_cases hj : j'.toNat < lens[i'.toNat]
        · rw [if_neg (by omega), if_pos hj]; rfl
        · rw [if_pos (by omega), if_neg hj]; rfl
    · rw [if_neg hi, List.getElem?_eq_none (Nat.le_of_not_lt hi)]; rfl

theorem convertOne_error (lens : List Nat) (p : Int × Int) (e : Err) (h : convertOne lens p = .error e) :
    e = .indexError := by
  rw [show p = (p.1, p.2) from rfl, convertOne_eq] at h
  rcases bindE_eq_error h with h | ⟨r, _, h⟩
  · exact posOf_error h
  · rcases bindE_eq_error h with h | ⟨c, _, h⟩
    · exact posOf_error h
    · cases h

theorem convertOne_col_oob (lens : List Nat) (i j : Int) (len : Nat)
    (hrow : npIndex lens i = .ok len) (hj : j < -(len : Int) ∨ (len : Int) ≤ j) :
    convertOne lens (i, j) = .error .indexError := by
  rw [npIndex_eq] at hrow
  obtain ⟨r, hr, hlen⟩ := bindE_eq_ok hrow
  rw [convertOne_eq, hr, bindE_ok, List.getD_eq_getElem?_getD, getNat_eq_ok.mp hlen, Option.getD_some,
    posOf_oob hj]; rfl

theorem convertOne_row_oob (lens : List Nat) (i j : Int)
    (hi : i < -(lens.length : Int) ∨ (lens.length : Int) ≤ i) :
    convertOne lens (i, j) = .error .indexError := by
  rw [convertOne_eq, posOf_oob hi]; rfl

theorem convertOne_nat (lens : List Nat) (i j len : Nat) (hi : lens[i]? = some len) (hj : j < len) :
    convertOne lens ((i : Int), (j : Int)) = .ok ((lens.take i).sum + j) := by
  have hil : i < lens.length := (List.getElem?_eq_some_iff.mp hi).1
  rw [convertOne_eq, posOf_ofNat hil, bindE_ok, List.getD_eq_getElem?_getD, hi, Option.getD_some,
    posOf_ofNat hj, bindE_ok]

theorem take_succ_sum (l : List Nat) (i x : Nat) (h : l[i]? = some x) :
    (l.take (i + 1)).sum = (l.take i).sum + x := by
  rw [List.take_add_one, h, List.sum_append, Option.toList_some, List.sum_singleton]

theorem take_sum_mono (l : List Nat) {a b : Nat} (hab : a ≤ b) : (l.take a).sum ≤ (l.take b).sum := by
  obtain ⟨d, rfl⟩ := Nat.exists_eq_add_of_le hab
  rw [List.take_add, List.sum_append]
  exact Nat.le_add_right _ _

theorem take_sum_add_le (l : List Nat) (i : Nat) (x : Nat) (h : l[i]? = some x) :
    (l.take i).sum + x ≤ l.sum := by
  have := take_sum_mono l (Nat.succ_le_of_lt (List.getElem?_eq_some_iff.mp h).1)
  rwa [take_succ_sum l i x h, List.take_length] at this

theorem rows_length {α} (ra : RA α) : (rows ra).length = ra.lengths.length := by
  simp [rows, partitionAux_length]

theorem rows_getElem? {α} (ra : RA α) (i : Nat) :
    (rows ra)[i]? = (ra.lengths[i]?).map fun len => (ra.data.drop ((ra.lengths.take i).sum)).take len := by
  simp [rows, partitionAux_getElem?]

theorem getElem?_take_drop {α} (l : List α) (a len j : Nat) :
    ((l.drop a).take len)[j]? = if j < len then l[a + j]? else none := by
  rw [List.getElem?_take]
  split <;> simp_all

/-- the heart of C05: `starts[i] + j` after the negative-index handling and the per-row bounds
check reads exactly `rows[i][j]`, and fails exactly when the read on the list of rows fails. -/
theorem convertOne_getNat {α} (ra : RA α) (h : WF ra) (p : Int × Int) :
    bindE (convertOne ra.lengths p) (getNat ra.data) = cell (rows ra) p := by
  obtain ⟨data, lens⟩ := ra
  obtain ⟨i, j⟩ := p
  simp only [WF] at h
  simp only [cell, convertOne_eq, npIndex_eq, rows_length, bindE_assoc, bindE_ok]
  apply bindE_congr
  intro r hr
  have hrl : r < lens.length := (posOf_eq_ok hr).1
  have hlen : lens[r]? = some lens[r] := List.getElem?_eq_getElem hrl
  have hsum := take_sum_add_le lens r _ hlen
  -- row `r` is the stretch of `lens[r]` cells that starts at the prefix sum
  simp only [getNat, rows_getElem?, hlen, Option.map_some, bindE_ok, List.getD_eq_getElem?_getD, Option.getD_some,
    List.length_take, List.length_drop, Nat.min_eq_left (show lens[r] ≤ data.length - (lens.take r).sum by omega)]
  apply bindE_congr
  intro c hc
  simp only [getNat, getElem?_take_drop, if_pos (posOf_eq_ok hc).1]

end Ens.Ragged
