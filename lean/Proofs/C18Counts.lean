import Model.Info
import Proofs.Sched
/-!
Counting lemmas for `Model.Info.matrixBincount2d` (core Lean only).
-/
namespace Ens.Info
open Ens.Sched

/-- the property's own words: the number of frames `t` with `a[t,x] = i` and `b[t,y] = j` -/
def frameCount (a b : Arr) (x y : Nat) (i j : Int) : Nat :=
  (List.range a.T).countP fun t => a.get t x = i ∧ b.get t y = j

theorem runSteps_nil {α} (s : α) : runSteps ([] : List (α → α)) s = s := rfl
theorem runSteps_append {α} (l₁ l₂ : List (α → α)) (s : α) :
    runSteps (l₁ ++ l₂) s = runSteps l₂ (runSteps l₁ s) :=
  Sched.runSteps_append l₁ l₂ s

/-- a list of `+= 1` steps adds, to every cell, the number of times the cell is named -/
theorem runSteps_bump (ws : List (Nat × Int × Int)) (s : Slab) (y : Nat) (i j : Int) :
    runSteps (ws.map fun w => bumpS w.1 w.2.1 w.2.2) s y i j = s y i j + ws.count (y, i, j) := by
  induction ws generalizing s with
  | nil => simp [runSteps_nil]
  | cons w ws ih =>
    rw [List.map_cons, runSteps_cons, ih, List.count_cons]
    by_cases h : w = (y, i, j)
    · subst h; simp [bumpS]; omega
    · have : ¬ (y = w.1 ∧ i = w.2.1 ∧ j = w.2.2) := fun ⟨e1, e2, e3⟩ => h (by rw [e1, e2, e3])
      simp [bumpS, h, this]

theorem count_inner (y' : Nat) (f g : Nat → Int) (T : Nat) (y : Nat) (i j : Int) :
    ((List.range T).map fun t => (y', f t, g t)).count (y, i, j)
      = if y' = y then (List.range T).countP (fun t => f t = i ∧ g t = j) else 0 := by
  rw [List.count_eq_countP, List.countP_map]
  by_cases h : y' = y
  · subst h; rw [if_pos rfl]; apply List.countP_congr; intro t _; simp
  · rw [if_neg h, List.countP_eq_zero]; intro t _; simp [h]

theorem count_writesOf_aux (a b : Arr) (x n : Nat) (y : Nat) (i j : Int) :
    ((List.range n).flatMap fun y' => (List.range a.T).map fun t => (y', a.get t x, b.get t y')).count (y, i, j)
      = if y < n then frameCount a b x y i j else 0 := by
  induction n with
  | zero => simp
  | succ n ih =>
    rw [List.range_succ, List.flatMap_append, List.count_append, ih]
    simp only [List.flatMap_cons, List.flatMap_nil, List.append_nil]
    rw [count_inner]
    by_cases h1 : y < n
    · have : ¬ n = y := by omega
      have : y < n + 1 := by omega
      simp [*]
    · by_cases h2 : n = y
      · subst h2; simp [frameCount]
      · have : ¬ y < n + 1 := by omega
        simp [*]

theorem count_writesOf (a b : Arr) (x y : Nat) (i j : Int) :
    (writesOf a b x).count (y, i, j) = if y < b.F then frameCount a b x y i j else 0 :=
  count_writesOf_aux a b x b.F y i j

theorem mem_writesOf (a b : Arr) (x : Nat) (w : Nat × Int × Int) :
    w ∈ writesOf a b x ↔ ∃ y, y < b.F ∧ ∃ t, t < a.T ∧ w = (y, a.get t x, b.get t y) := by
  simp [writesOf, List.mem_flatMap, List.mem_map, eq_comm]

theorem progOf_progs (a b : Arr) (x : Nat) :
    progOf (progs a b) x = if x < a.F then program a b x else [] := by
  unfold progOf progs
  by_cases h : x < a.F <;> simp [h, List.getD]

/-- what ANY interleaving of the prange iterations leaves in cell `(x, y, i, j)` -/
theorem run_interleaving_count (a b : Arr) (e : Exec Slab) (h : IsInterleaving (progs a b) e)
    (x y : Nat) (i j : Int) :
    run e (fun _ => zeroSlab) x y i j
      = if x < a.F ∧ y < b.F then frameCount a b x y i j else 0 := by
  rw [run_of_interleaving (progs a b) e _ h x, progOf_progs]
  by_cases hx : x < a.F
  · simp only [hx, if_true, program, true_and]
    rw [runSteps_bump, count_writesOf]; simp [zeroSlab]
  · simp [hx, runSteps_nil, zeroSlab]

end Ens.Info
