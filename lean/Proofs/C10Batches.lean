import Proofs.C10Assign
import Proofs.C10Partition
/-! Lemmas for C10: `compute_batches` and the bookkeeping of `batch_reassign`. -/
namespace Ens.Assign

def BState.all (s : BState) : List (List Nat) := s.done ++ [s.curIdx]

/-- a batch respects the limit: one trajectory, or combined length `< B` -/
def BatchFits (lens : List Nat) (B : Nat) (b : List Nat) : Prop :=
  b.length ≤ 1 ∨ (b.map fun t => lens.getD t 0).sum < B

/-- invariant of the `compute_batches` loop when the trajectories before `i` have been placed -/
structure BInv (lens : List Nat) (B : Nat) (s : BState) (i : Nat) : Prop where
  flat : s.all.flatten = List.range i
  sizes : s.curSizes = s.curIdx.map fun t => lens.getD t 0
  fits : ∀ b ∈ s.all, BatchFits lens B b
  closed : ∀ b ∈ s.done, b ≠ []
  cur : s.curIdx = [] → s.done = []   -- the open batch is empty only before the first trajectory

theorem batchStep_inv {lens : List Nat} {B : Nat} {s : BState} {i : Nat} (h : BInv lens B s i) :
    BInv lens B (batchStep B s i (lens.getD i 0)) (i + 1) := by
  obtain ⟨hflat, hs, hf, hc, hcur⟩ := h
  have hall {b : List Nat} : b ∈ s.all ↔ b ∈ s.done ∨ b = s.curIdx := by
    rw [BState.all, List.mem_append, List.mem_singleton]
  rw [BState.all, List.flatten_append, List.flatten_singleton] at hflat
  rw [batchStep]
  split
  · -- trajectory `i` joins the open batch
    rename_i hlt
    refine ⟨?_, ?_, fun b hb => ?_, hc, fun h => absurd h (List.append_ne_nil_of_right_ne_nil _ (List.cons_ne_nil _ _))⟩
    · rw [BState.all, List.flatten_append, List.flatten_singleton, ← List.append_assoc, hflat, List.range_succ]
    · show s.curSizes ++ [lens.getD i 0] = (s.curIdx ++ [i]).map _
      rw [List.map_append, hs]; rfl
    · rcases List.mem_append.mp hb with hb | hb
      · exact hf b (hall.mpr (.inl hb))
      · rw [List.mem_singleton.mp hb]
        rcases hlt with hemp | hlt
        · rw [hs, List.map_eq_nil_iff] at hemp
          exact .inl (by rw [hemp]; exact Nat.le_refl 1)
        · exact .inr (by rw [List.map_append, List.sum_append, ← hs]; exact hlt)
  · -- the open batch is closed, trajectory `i` opens the next one
    rename_i hge
    have hne : s.curIdx ≠ [] := fun h => hge (.inl (by rw [hs, h]; rfl))
    refine ⟨?_, rfl, fun b hb => ?_, fun b hb => ?_, fun h => nomatch h⟩
    · rw [BState.all, List.flatten_append, List.flatten_append, List.flatten_singleton, List.flatten_singleton,
        hflat, List.range_succ]
    · rcases List.mem_append.mp hb with hb | hb
      · exact hf b hb
      · rw [List.mem_singleton.mp hb]; exact .inl (Nat.le_refl 1)
    · rcases hall.mp hb with hb | hb
      · exact hc b hb
      · rw [hb]; exact hne

theorem batchLoop_inv {lens : List Nat} {B : Nat} : ∀ (ls : List Nat) (s : BState) (i : Nat),
    lens.drop i = ls → i ≤ lens.length → BInv lens B s i → BInv lens B (batchLoop B s i ls) lens.length
  | [], s, i, hls, hi, h => by
    rw [← Nat.le_antisymm hi (List.drop_eq_nil_iff.mp hls)]; exact h
  | l :: ls, s, i, hls, hi, h => by
    have hlt : i < lens.length := Nat.lt_of_le_of_ne hi fun e => by
      rw [e, List.drop_length] at hls; exact nomatch hls
    have hl : lens.getD i 0 = l := by
      rw [List.getD_eq_getElem?_getD, ← Nat.add_zero i, ← List.getElem?_drop, hls]; rfl
    have hd : lens.drop (i + 1) = ls := by rw [← List.drop_drop, hls]; rfl
    rw [batchLoop, ← hl]
    exact batchLoop_inv ls _ (i + 1) hd hlt (batchStep_inv h)

theorem computeBatches_inv (lens : List Nat) (B : Nat) :
    BInv lens B (batchLoop B ⟨[], [], []⟩ 0 lens) lens.length :=
  batchLoop_inv lens _ 0 rfl (Nat.zero_le _)
    ⟨rfl, rfl, fun b hb => .inl (by rw [List.mem_singleton.mp hb]; exact Nat.zero_le 1), fun _ h => (nomatch h),
      fun _ => rfl⟩

theorem computeBatches_flatten (lens : List Nat) (B : Nat) :
    (computeBatches lens B).flatten = List.range lens.length :=
  (computeBatches_inv lens B).flat

theorem computeBatches_fits (lens : List Nat) (B : Nat) :
    ∀ b ∈ computeBatches lens B, BatchFits lens B b :=
  (computeBatches_inv lens B).fits

theorem computeBatches_tail (lens : List Nat) (B : Nat) : ∀ b ∈ (computeBatches lens B).tail, b ≠ [] := by
  have h := computeBatches_inv lens B
  intro b hb
  rw [computeBatches] at hb
  cases hd : (batchLoop B ⟨[], [], []⟩ 0 lens).done with
  | nil => rw [hd] at hb; exact nomatch hb
  | cons d ds =>
    rw [hd, List.cons_append, List.tail_cons] at hb
    rcases List.mem_append.mp hb with hb | hb
    · exact h.closed b (hd ▸ List.mem_cons_of_mem d hb)
    · rw [List.mem_singleton.mp hb]
      exact fun e => nomatch hd.symm.trans (h.cur e)

theorem computeBatches_allne (lens : List Nat) (hne : lens ≠ []) (B : Nat) :
    ∀ b ∈ computeBatches lens B, b ≠ [] := by
  have h := computeBatches_inv lens B
  intro b hb
  rcases List.mem_append.mp hb with hb | hb
  · exact h.closed b hb
  · rw [List.mem_singleton.mp hb]
    intro e
    have hflat := h.flat
    rw [BState.all, h.cur e, e] at hflat
    exact hne (List.length_eq_zero_iff.mp (List.range_eq_nil.mp hflat.symm))

/-! ### `batch_reassign` -/

/-- label and distance of the whole-data sweep for every frame of trajectory `t` -/
def pieceOf (D : Nat → Nat → Rat) (lens : List Nat) (k t : Nat) : List (Nat × ERat) :=
  (List.range (lens.getD t 0)).map fun j =>
    ((sweep D k).lab (startOf lens t + j), (sweep D k).dist (startOf lens t + j))

theorem assignNearest_reindex (D : Nat → Nat → Rat) (g : Nat → Nat) (m k : Nat) (x : Bool) (p : Nat) :
    ((assignNearest (fun p c => D (g p) c) m k x).lab p, (assignNearest (fun p c => D (g p) c) m k x).dist p)
      = ((sweep D k).lab (g p), (sweep D k).dist (g p)) := by
  have h1 := assignNearest_eq_sweep (fun p c => D (g p) c) m k x p
  have h2 := sweep_pointwise (fun p c => D (g p) c) D p (g p) (fun _ => rfl) k
  rw [h1.1, h1.2, h2.1, h2.2]

theorem reassignBatch_ok (D : Nat → Nat → Rat) (lens : List Nat) (k : Nat) (x : Bool)
    (batch : List Nat) (hne : batch ≠ []) :
    reassignBatch D lens k x batch = .ok (batch.map (pieceOf D lens k)) := by
  cases batch with
  | nil => exact absurd rfl hne
  | cons b0 bs =>
    -- the loaded frames, labelled by the sweep, are the pieces of the batch's trajectories in order
    have hflat : (batchFrames lens (b0 :: bs)).map (fun g => ((sweep D k).lab g, (sweep D k).dist g)) =
        ((b0 :: bs).map (pieceOf D lens k)).flatten := by
      rw [batchFrames, List.map_flatten, List.map_map]
      exact congrArg List.flatten (List.map_congr_left fun t _ => List.map_map)
    have hlen : (b0 :: bs).map (fun t => lens.getD t 0) =
        ((b0 :: bs).map (pieceOf D lens k)).map List.length := by
      rw [List.map_map]
      exact List.map_congr_left fun t _ => by
        rw [Function.comp, pieceOf, List.length_map, List.length_range]
    rw [reassignBatch]
    simp only [tabulate, assignNearest_reindex]
    rw [map_range_getD (batchFrames lens (b0 :: bs)) 0 fun g => ((sweep D k).lab g, (sweep D k).dist g),
      hflat, hlen]
    exact partitionList_flatten_self _

theorem reassignBatches_ok (D : Nat → Nat → Rat) (lens : List Nat) (k : Nat) (x : Bool)
    (bs : List (List Nat)) (hne : ∀ b ∈ bs, b ≠ []) :
    reassignBatches D lens k x bs = .ok (bs.flatten.map (pieceOf D lens k)) := by
  induction bs with
  | nil => rfl
  | cons b bs ih =>
    simp only [reassignBatches, reassignBatch_ok D lens k x b (hne b (by simp)),
      ih (fun b' hb' => hne b' (by simp [hb'])), List.flatten_cons, List.map_append]

theorem le_foldl_max : ∀ (as : List Nat) (a : Nat), a ≤ as.foldl max a
  | [], _ => Nat.le_refl _
  | b :: bs, a => Nat.le_trans (Nat.le_max_left a b) (le_foldl_max bs (max a b))

theorem le_foldl_max_of_mem {l : Nat} : ∀ (as : List Nat) (a : Nat), l ∈ as → l ≤ as.foldl max a
  | b :: bs, a, h => by
    rcases List.mem_cons.mp h with rfl | h
    · exact Nat.le_trans (Nat.le_max_right a l) (le_foldl_max bs (max a l))
    · exact le_foldl_max_of_mem bs (max a b) h

theorem foldl_max_mem : ∀ (as : List Nat) (a : Nat), as.foldl max a ∈ a :: as
  | [], _ => List.mem_cons_self
  | b :: bs, a => by
    rcases List.mem_cons.mp (foldl_max_mem bs (max a b)) with h | h
    · rw [List.foldl_cons, h]
      rcases Nat.le_total a b with hab | hab
      · rw [Nat.max_eq_right hab]; exact List.mem_cons_of_mem a List.mem_cons_self
      · rw [Nat.max_eq_left hab]; exact List.mem_cons_self
    · exact List.mem_cons_of_mem a (List.mem_cons_of_mem b h)

theorem listMax_le (lens : List Nat) (m : Nat) (h : listMax lens = some m) :
    ∀ l ∈ lens, l ≤ m := by
  cases lens with
  | nil => exact nomatch h
  | cons a as =>
    cases h
    intro l hl
    rcases List.mem_cons.mp hl with rfl | hl
    · exact le_foldl_max as l
    · exact le_foldl_max_of_mem as a hl

theorem listMax_mem (lens : List Nat) (m : Nat) (h : listMax lens = some m) : m ∈ lens := by
  cases lens with
  | nil => exact nomatch h
  | cons a as => cases h; exact foldl_max_mem as a

end Ens.Assign
