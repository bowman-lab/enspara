import Mathlib.Analysis.SpecialFunctions.Log.Basic
import Mathlib.Algebra.BigOperators.Group.Finset.Basic
import Mathlib.Algebra.Order.BigOperators.Group.Finset
import Mathlib.Algebra.BigOperators.Ring.Finset
import Mathlib.Tactic.Ring
import Mathlib.Tactic.Linarith
/-!
Real-valued information-theoretic inequalities on finite sums (no model here).
Gibbs' inequality term by term, over a list, over a finite index set:
`klSum s p q = Σ_{i∈s} p i · log (p i / q i)` with Mathlib's conventions `log 0 = 0`, `x / 0 = 0`
(so cells with `p i = 0` contribute 0, as in the code; cells with `p i > 0 = q i` are excluded by
the absolute-continuity hypothesis — the code returns `inf` there).
-/
namespace Ens.InfoR
open Finset

noncomputable def klSum {ι : Type} (s : Finset ι) (p q : ι → ℝ) : ℝ :=
  ∑ i ∈ s, p i * Real.log (p i / q i)

/-- the strict Gibbs term inequality `p − q < p log (p/q)` for positive `p ≠ q`, from
`log x < x − 1` at `x = q/p ≠ 1` -/
theorem gibbs_term_lt (p q : ℝ) (hp : 0 < p) (hq : 0 < q) (hne : p ≠ q) :
    p - q < p * Real.log (p / q) := by
  have h1 : Real.log (q / p) < q / p - 1 :=
    Real.log_lt_sub_one_of_pos (div_pos hq hp) fun e => hne ((div_eq_one_iff_eq hp.ne').1 e).symm
  have h2 : Real.log (p / q) = - Real.log (q / p) := by rw [← Real.log_inv, inv_div]
  have h3 : p * (q / p - 1) = q - p := by rw [mul_sub, mul_one, mul_div_cancel₀ q hp.ne']
  have := mul_lt_mul_of_pos_left h1 hp
  rw [h3] at this
  rw [h2, mul_neg, lt_neg, neg_sub]
  exact this

theorem gibbs_term (p q : ℝ) (hp : 0 ≤ p) (hq : 0 ≤ q) (hac : 0 < p → 0 < q) :
    p - q ≤ p * Real.log (p / q) := by
  rcases hp.eq_or_lt with rfl | hpos
  · simpa using hq
  · rcases eq_or_ne p q with rfl | hne
    · rw [div_self hpos.ne', Real.log_one, mul_zero, sub_self]
    · exact (gibbs_term_lt p q hpos (hac hpos) hne).le

theorem gibbs_term_eq (p q : ℝ) (hp : 0 ≤ p) (hq : 0 ≤ q) (hac : 0 < p → 0 < q)
    (h : p * Real.log (p / q) = p - q) : p = q := by
  rcases hp.eq_or_lt with rfl | hpos
  · simp at h; linarith
  · by_contra hne
    exact (gibbs_term_lt p q hpos (hac hpos) hne).ne' h

theorem klList_ge {β : Type} (l : List β) (p q : β → ℝ)
    (h : ∀ x ∈ l, 0 ≤ p x ∧ 0 ≤ q x ∧ (0 < p x → 0 < q x)) :
    (l.map p).sum - (l.map q).sum ≤ (l.map fun x => p x * Real.log (p x / q x)).sum := by
  induction l with
  | nil => simp
  | cons x xs ih =>
    obtain ⟨h1, h2, h3⟩ := h x List.mem_cons_self
    have g := gibbs_term (p x) (q x) h1 h2 h3
    have := ih fun y hy => h y (List.mem_cons_of_mem _ hy)
    simp only [List.map_cons, List.sum_cons]
    rw [add_sub_add_comm]
    exact add_le_add g this

theorem klList_eq_iff {β : Type} (l : List β) (p q : β → ℝ)
    (h : ∀ x ∈ l, 0 ≤ p x ∧ 0 ≤ q x ∧ (0 < p x → 0 < q x)) :
    (l.map fun x => p x * Real.log (p x / q x)).sum = (l.map p).sum - (l.map q).sum ↔
      ∀ x ∈ l, p x = q x := by
  induction l with
  | nil => simp
  | cons x xs ih =>
    obtain ⟨h1, h2, h3⟩ := h x List.mem_cons_self
    have hxs := fun y hy => h y (List.mem_cons_of_mem _ hy)
    have g1 := gibbs_term (p x) (q x) h1 h2 h3
    have g2 := klList_ge xs p q hxs
    simp only [List.map_cons, List.sum_cons, List.forall_mem_cons]
    -- both summands are bounded below (`g1`, `g2`): the sums agree iff the summands do
    rw [add_sub_add_comm, eq_comm, add_eq_add_iff_eq_and_eq g1 g2]
    refine and_congr ⟨fun e => gibbs_term_eq _ _ h1 h2 h3 e.symm, fun e => ?_⟩ (eq_comm.trans (ih hxs))
    rw [← e, sub_self]
    rcases eq_or_ne (p x) 0 with h0 | h0
    · rw [h0, zero_mul]
    · rw [div_self h0, Real.log_one, mul_zero]

theorem klSum_nonneg {ι : Type} (s : Finset ι) (p q : ι → ℝ)
    (hp : ∀ i ∈ s, 0 ≤ p i) (hq : ∀ i ∈ s, 0 ≤ q i) (hac : ∀ i ∈ s, 0 < p i → 0 < q i)
    (hsum : ∑ i ∈ s, q i ≤ ∑ i ∈ s, p i) : 0 ≤ klSum s p q := by
  have := klList_ge s.toList p q fun i hi =>
    have hi := Finset.mem_toList.1 hi
    ⟨hp i hi, hq i hi, hac i hi⟩
  rw [Finset.sum_map_toList, Finset.sum_map_toList, Finset.sum_map_toList] at this
  exact le_trans (sub_nonneg.2 hsum) this

end Ens.InfoR
