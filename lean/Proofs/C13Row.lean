import Proofs.C13Arith
import Proofs.Sched
/-! What one row's program leaves in its `out` cell. -/
namespace Ens.Dist
open Ens.Sched

theorem runSteps_acc (terms : List Rat) (a : Rat) :
    runSteps (terms.map stepAcc) (.val a) = .val (a + terms.sum) := by
  induction terms generalizing a with
  | nil => simp [runSteps]
  | cons t ts ih =>
    have : runSteps ((t :: ts).map stepAcc) (.val a) = runSteps (ts.map stepAcc) (.val (a + t)) := rfl
    rw [this, ih, List.sum_cons]; congr 1; ring

theorem rowResult_eq (k : Kernel) (w : Nat) (terms : List Rat) (c : Cell) :
    rowResult k w terms c = runSteps (finish k w) (.val terms.sum) := by
  have : rowResult k w terms c = runSteps (terms.map stepAcc ++ finish k w) (.val 0) := rfl
  rw [this, runSteps_append, runSteps_acc, zero_add]

/-- the row result does not depend on what the cell held before (`out[i] = 0` comes first) -/
theorem rowResult_init (k : Kernel) (w : Nat) (terms : List Rat) (c c' : Cell) :
    rowResult k w terms c = rowResult k w terms c' := by
  rw [rowResult_eq k w terms c, rowResult_eq k w terms c']

theorem rowResult_euclidean (w : Nat) (terms : List Rat) (c : Cell) (h : 0 ≤ terms.sum) :
    rowResult .euclidean w terms c = .sqrt terms.sum := by
  rw [rowResult_eq]
  simp [finish, runSteps, stepSqrt, not_lt.mpr h]

theorem rowResult_euclidean_neg (w : Nat) (terms : List Rat) (c : Cell) (h : terms.sum < 0) :
    rowResult .euclidean w terms c = .nan := by
  rw [rowResult_eq]
  simp [finish, runSteps, stepSqrt, h]

theorem rowResult_manhattan (w : Nat) (terms : List Rat) (c : Cell) :
    rowResult .manhattan w terms c = .val terms.sum := by
  rw [rowResult_eq]; rfl

theorem rowResult_hamming (w : Nat) (terms : List Rat) (c : Cell) (hw : 0 < w) :
    rowResult .hamming w terms c = .val (terms.sum / (w : Rat)) := by
  rw [rowResult_eq]
  simp [finish, runSteps, stepDiv, Nat.pos_iff_ne_zero.mp hw]

/-- `n_features = 0`: the code computes `0.0 / 0` -/
theorem rowResult_hamming_zero (c : Cell) : rowResult .hamming 0 [] c = .nan := by
  rw [rowResult_eq]; simp [finish, runSteps, stepDiv]

/-- a row never leaves an untracked value: the result is a number, a square root or NaN -/
theorem rowResult_tracked (k : Kernel) (terms : List Rat) (c : Cell) (w : Nat) (hw : w = 0 → terms = []) :
    rowResult k w terms c ≠ .untracked := by
  rw [rowResult_eq]
  cases k
  · simp only [finish, runSteps, List.foldl, stepSqrt]; split <;> simp
  · simp [finish, runSteps]
  · simp only [finish, runSteps, List.foldl, stepDiv]
    by_cases h0 : w = 0
    · simp [h0, hw h0]
    · simp [h0]

end Ens.Dist
