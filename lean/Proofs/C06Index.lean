import Proofs.C06Step
import Proofs.PySlice
/-!
Index arithmetic for C06: CPython slice positions stay inside the axis; the cells addressed by
the list-of-rows model exist.
-/
namespace Ens.RaggedW
variable {α : Type}

theorem pyIndices_lt {n : Nat} {s : PySlice} {ix : List Nat} (h : pyIndices n s = .ok ix) :
    ∀ i ∈ ix, i < n := by
  unfold pyIndices at h
  cases hi : s.indices n with
  | none => rw [hi] at h; cases h
  | some ix' =>
    simp only [hi] at h
    injection h with h
    subst h
    exact PySlice.indices_lt hi

theorem mapE_normIdx_lt {n : Nat} {l : List Int} {ix : List Nat} (h : mapE (normIdx n) l = .ok ix) :
    ∀ i ∈ ix, i < n := by
  intro i hi
  obtain ⟨x, _, hx⟩ := (mapE_ok h).2 i hi
  exact normIdx_lt hx

theorem specColSel_lt {row : List α} {c : CSel} {cs : List Nat} (h : specColSel row c = .ok cs) :
    ∀ j ∈ cs, j < row.length := by
  cases c with
  | slice s => exact pyIndices_lt h
  | int j => exact mapE_normIdx_lt h
  | list l => exact mapE_normIdx_lt h

theorem specRowCells_valid {rows : Rows α} {c : CSel} {num : Int} {grp : List (Nat × Nat)}
    (h : specRowCells rows c num = .ok grp) : ValidTargets rows grp := by
  refine AllOk.of_eq (Q := ValidTargets rows) ?_ h
  unfold specRowCells
  cases normIdx rows.length num with
  | error e => trivial
  | ok i =>
    dsimp only
    cases hrow : rows[i]? with
    | none => trivial
    | some row =>
      dsimp only
      cases hc : specColSel row c with
      | error e => trivial
      | ok cs =>
        intro p hp
        obtain ⟨j, hj, rfl⟩ := List.mem_map.mp hp
        exact ⟨row, hrow, specColSel_lt hc j hj⟩

theorem specTargets_valid {rows : Rows α} {r : Sel} {c : CSel} {tg : List (Nat × Nat)}
    (h : specTargets rows r c = .ok tg) : ValidTargets rows tg := by
  refine AllOk.of_eq (Q := ValidTargets rows) ?_ h
  unfold specTargets
  split
  · trivial
  · trivial
  · cases specRowNums rows.length r with
    | error e => trivial
    | ok nums =>
      dsimp only
      cases hg : mapE (specRowCells rows c) nums with
      | error e => trivial
      | ok groups =>
        intro p hp
        obtain ⟨grp, hgrp, hpg⟩ := List.mem_flatten.mp hp
        obtain ⟨num, _, hnum⟩ := (mapE_ok hg).2 grp hgrp
        exact specRowCells_valid hnum p hpg

end Ens.RaggedW
