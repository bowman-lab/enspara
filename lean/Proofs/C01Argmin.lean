import Proofs.C01Find
/-!
C01: the per-frame `argmin` branch of `assign_to_nearest_center`, the warm
starts of `kcenters` and `kmedoids`.
-/
namespace Ens.Cluster

variable {D : Table} {n : Nat} {s : St}

theorem argminFrom_spec (g : Nat → Rat) : ∀ (cs pre : List Nat) (b : Nat × Rat), MinAt g pre b.1 b.2 →
    MinAt g (pre ++ cs) (argminFrom g cs pre.length b).1 (argminFrom g cs pre.length b).2 := by
  intro cs
  induction cs with
  | nil => intro pre b h; rw [List.append_nil]; exact h
  | cons c cs ih =>
    intro pre b h
    have key := ih (pre ++ [c]) (if g c < b.2 then (pre.length, g c) else b) (by
      by_cases hlt : g c < b.2
      · rw [if_pos hlt]; exact h.push_lt hlt
      · rw [if_neg hlt]; exact h.push_ge hlt)
    rw [List.length_append, List.append_assoc] at key
    exact key

/-- the `argmin` branch computes a nearest-center assignment as well -/
theorem RunMin.assignArgmin {cs : List Nat} {a : Arr}
    (h : assignArgmin D n cs = .ok a) (hne : cs ≠ []) : RunMin D n cs a := by
  cases cs with
  | nil => exact absurd rfl hne
  | cons c cs' =>
    simp only [Cluster.assignArgmin] at h
    injection h with h
    subst h
    refine RunMin.of_minAt (by simp) fun _ f hf => ?_
    rw [tab_dist _ _ _ hf, tab_assign _ _ _ hf]
    exact ⟨_, rfl, argminFrom_spec (D f) cs' [c] (0, D f c) (MinAt.single _ c)⟩

/-- `assign_to_nearest_center`, whichever branch runs -/
theorem RunMin.assignToNearestCenter {cs : List Nat} {xyz : Bool} {a : Arr}
    (h : assignToNearestCenter D n cs xyz = .ok a) (hne : cs ≠ []) : RunMin D n cs a := by
  unfold Cluster.assignToNearestCenter at h
  split at h
  · exact RunMin.assignArgmin h hne
  · injection h with h; subst h; exact RunMin.assignNearest D n cs

theorem kcentersWarm_ok (T : TableOK D n) {init : List Nat}
    (hne : init ≠ []) (hnd : init.Nodup) (hlt : ∀ c ∈ init, c < n) :
    kcentersWarm D n init = .ok { arr := assignNearest D n init, ctrInds := init, ctrFrames := init } := by
  unfold kcentersWarm
  have hany : (init.any fun c => decide (n ≤ c)) = false := by
    rw [List.any_eq_false]; intro c hc; simpa using hlt c hc
  have hcons := Consistent.of_runMin T (RunMin.assignNearest D n init) hne (Inj_of_nodup hnd) hlt
  have := findClusterCenters_eq T hcons
  simp only [hany] at *
  simp [this]

theorem KInv.start (T : TableOK D n) {init : Option (List Nat)} {s0 : St}
    (h0 : kcentersStart D n init = .ok s0)
    (hinit : ∀ cs, init = some cs → cs ≠ [] ∧ cs.Nodup ∧ ∀ c ∈ cs, c < n) : KInv D n s0 := by
  cases init with
  | none => cases h0; exact KInv.cold D n
  | some cs =>
    obtain ⟨hne, hnd, hlt⟩ := hinit cs rfl
    rw [kcentersStart, kcentersWarm_ok T hne hnd hlt] at h0
    cases h0
    exact { frames := rfl, inds_lt := hlt, inj := Inj_of_nodup hnd, rm := RunMin.assignNearest D n cs }

/-- what `kmedoids` may be started from: distinct frame indices (arrays are then computed), a full
consistent state, or the arrays of a consistent state (indices are then inferred) -/
def WarmOK (D : Table) (n : Nat) : Option (List Nat) → Option Arr → Prop
  | some ci, none => ci ≠ [] ∧ ci.Nodup ∧ ∀ c ∈ ci, c < n
  | some ci, some a => Consistent D n { arr := a, ctrInds := ci, ctrFrames := ci }
  | none, some a => ∃ ci, Consistent D n { arr := a, ctrInds := ci, ctrFrames := ci }
  | none, none => False

theorem kmedoidsStart_ok {ci : List Nat} {ad : Option Arr} (h : kmedoidsStart D n ci ad = .ok s) :
    s = { arr := startArr D n ci ad, ctrInds := ci, ctrFrames := ci } := by
  unfold kmedoidsStart at h
  simp only [] at h
  split_ifs at h with c1 c2
  injection h with h; exact h.symm

theorem kmedoids_start {nIters : Nat} (T : TableOK D n) {inds : Option (List Nat)}
    {ad : Option Arr} {props : Option (List Nat)} {orc : List Nat} {r : Run}
    (hw : WarmOK D n inds ad) (h : kmedoids D n nIters inds ad props orc = .ok r) :
    ∃ s, Consistent D n s ∧ kmedoidsIterations D n nIters s props orc = .ok r := by
  unfold kmedoids at h
  simp only [] at h
  split at h
  · cases h
  obtain ⟨ci, hc, h⟩ := bind_eq_ok.mp h
  obtain ⟨s, hs, h⟩ := bind_eq_ok.mp h
  refine ⟨s, ?_, h⟩
  rw [kmedoidsStart_ok hs]
  match inds, ad, hw, hc with
  | some ci', none, ⟨hne, hnd, hlt⟩, hc =>
    cases hc
    exact Consistent.of_runMin T (RunMin.assignNearest D n ci) hne (Inj_of_nodup hnd) hlt
  | some ci', some a, hw, hc => cases hc; exact hw
  | none, some a, ⟨ci0, hcons⟩, hc =>
    have hf : findClusterCenters n a = some ci0 := findClusterCenters_eq T hcons
    simp only [kmedoidsCenters, hf] at hc
    cases hc
    exact hcons

end Ens.Cluster
