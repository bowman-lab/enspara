import Proofs.C20Extra
/-!
Sharpness of the `NoSelfWrap` hypothesis for the two-basin list `[0, 180, 360]`:
for EVERY accepted buffer above the threshold 90 the two-frame sequence `0, 180` is admissible and
the code's output is not a run of the hysteresis automaton.
-/
namespace Ens.Rotamer

theorem phi_goodSet : GoodSet [0, 180, 360] = true := by decide +kernel

theorem phi_accepted {b : Rat} (h0 : 0 ≤ b) (h1 : b < 180) : Accepted [0, 180, 360] b := by
  refine ⟨h0, ?_⟩
  have e : (360 : Rat) / (((([0, 180, 360] : List Rat).length : Int) - 1 : Int) : Rat) = 180 := by
    norm_num
  rw [e]; exact h1

theorem phi_anglesOK {b : Rat} (h0 : 90 < b) (h1 : b < 180) : AnglesOK [0, 180, 360] b [0, 180] := by
  have key : ∀ j : Int, b ≠ 180 * (j : Rat) := by
    intro j hj
    rcases int_tri j with h | h | h
    · linarith
    · subst h; simp at hj; linarith
    · linarith
  have hv : ∀ v ∈ ([0, 180, 360] : List Rat), ∃ n : Int, v = 180 * (n : Rat) := by
    intro v hv
    simp only [List.mem_cons, List.not_mem_nil, or_false] at hv
    rcases hv with rfl | rfl | rfl
    · exact ⟨0, by norm_num⟩
    · exact ⟨1, by norm_num⟩
    · exact ⟨2, by norm_num⟩
  intro a ha
  simp only [List.mem_cons, List.not_mem_nil, or_false] at ha
  rcases ha with rfl | rfl
  · exact ⟨le_rfl, by norm_num,
      avoidsGates_of_buffer_off_lattice (m := 2) (na := 0) (by norm_num) (by norm_num) hv key⟩
  · exact ⟨by norm_num, by norm_num,
      avoidsGates_of_buffer_off_lattice (m := 2) (na := 1) (by norm_num) (by norm_num) hv key⟩

theorem phi_output {b : Rat} (h0 : 90 < b) (h1 : b < 180) :
    rotamers [0, 180] [0, 180, 360] b = .ok [0, 1] := by
  have hg := phi_goodSet
  obtain ⟨hsort, hh, hl, _, _⟩ := goodSet_iff.1 hg
  have b1 : IsBasin [0, 180, 360] 1 180 := ⟨180, 360, rfl, rfl, le_rfl, by norm_num⟩
  have hf : firstFrame 0 [0, 180, 360] = ((0 : Nat) : Int) := by
    obtain ⟨i, e, hi⟩ := firstFrame_isBasin hh hl le_rfl (by norm_num)
    rw [e, isBasin_unique (j := 0) hsort hi ⟨0, 180, rfl, rfl, le_rfl, by norm_num⟩]
  -- the gates `(360 - b, 180 + b)` have crossed, so the plain branch is taken, and `180 < 360 - b`
  have hexit : exitTest (gatesOf 0 180 b) 180 = true := by
    have e : gatesOf 0 180 b = (360 - b, 180 + b) := by
      unfold gatesOf
      rw [if_pos rfl, if_neg (by norm_num)]
    rw [e]
    exact (exit_inner (by linarith)).2 fun h => absurd h.1 (not_le.2 (by linarith))
  have hstep : step [0, 180, 360] b ((0 : Nat) : Int) 180 = .ok ((1 : Nat) : Int) := by
    rw [step_eq hsort (lo := 0) (hi := 180) rfl rfl b1, if_pos hexit]
  rw [rotamers_cons_ok (validate_ok hg (phi_accepted (by linarith) h1)) (hf ▸ loop_cons_ok hstep rfl)]
  rfl

theorem phi_not_specRun {b : Rat} (h0 : 90 < b) :
    ¬ SpecRun [0, 180, 360] b [0, 180] [0, 1] := by
  intro h
  have hb0 : (0 : Rat) ≤ b := le_trans (by norm_num) h0.le
  have hin : InWidened [0, 180, 360] b 0 180 :=
    ⟨0, 180, rfl, rfl, inArc_of_mem ((sub_nonpos.2 hb0).trans (by norm_num)) (le_add_of_nonneg_right hb0)⟩
  exact absurd (h.2.1.1 hin) Nat.one_ne_zero

end Ens.Rotamer
