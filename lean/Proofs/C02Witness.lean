import Proofs.C02Facts

/-! Concrete tables used as non-vacuity witnesses / counterexamples by `Props/C02.lean`, and the
observable `view` of a result (what the correspondence run compares). -/
namespace Ens.KC

/-- observable part of a result -/
structure View where
  centerIndices : List Nat
  centers : List Nat
  labels : List Int
  distances : List ERat
  trace : List (Nat × ERat)
  radius : ERat
  deriving DecidableEq

def view (n : Nat) (r : Except Err Result) : Option View :=
  match r with
  | .ok r => some ⟨r.st.ctrInds, r.st.centers, (List.range n).map r.st.assign,
      (List.range n).map r.st.dist, r.trace, r.radius⟩
  | .error _ => none

theorem view_eq_some {n : Nat} {r : Except Err Result} {v : View} (h : view n r = some v) :
    ∃ res, r = .ok res ∧ res.st.ctrInds = v.centerIndices ∧ res.radius = v.radius := by
  cases r with
  | error e => cases h
  | ok res => cases h; exact ⟨res, rfl, rfl, rfl⟩

theorem ResAgree_view {n : Nat} {a b : Except Err Result} (h : ResAgree n a b) :
    view n a = view n b := by
  cases a with
  | error e =>
    cases b with
    | error e' => rfl
    | ok r => exact h.elim
  | ok r1 =>
    cases b with
    | error e' => exact h.elim
    | ok r2 =>
      obtain ⟨⟨h1, h2, h3⟩, h4, h5⟩ := h
      simp only [view, Option.some.injEq, View.mk.injEq]
      refine ⟨h1, h2, ?_, ?_, h4, h5⟩
      · apply List.map_congr_left
        intro f hf; exact (h3 f (List.mem_range.mp hf)).2
      · apply List.map_congr_left
        intro f hf; exact (h3 f (List.mem_range.mp hf)).1

/-- points on a line: `D f c = |pos f - pos c|` -/
def lineTable (pos : Nat → Int) : Table := fun f c => ((Int.natAbs (pos f - pos c) : Nat) : Rat)

theorem lineTable_symm (pos : Nat → Int) (x y : Nat) : lineTable pos x y = lineTable pos y x := by
  unfold lineTable
  rw [← Int.natAbs_neg, neg_sub]

theorem lineTable_tri (pos : Nat → Int) (x y z : Nat) :
    lineTable pos x z ≤ lineTable pos x y + lineTable pos y z := by
  unfold lineTable
  rw [← sub_add_sub_cancel (pos x) (pos y) (pos z)]
  exact_mod_cast Int.natAbs_add_le _ _

/-- the 5-point line used as non-vacuity witness: frames at positions 0, 4, 1, 3, 2 -/
def pos5 : Nat → Int
  | 0 => 0 | 1 => 4 | 2 => 1 | 3 => 3 | _ => 2
def line5 : Table := lineTable pos5

theorem goodInit_line5 {cs : List Nat} (ne : cs ≠ []) (nodup : cs.Nodup) (frames : ∀ c ∈ cs, c < 5) :
    GoodInit line5 5 cs :=
  ⟨ne, nodup, frames, by decide +kernel,
   fun i j hi hj => (by decide +kernel : ∀ i, i < 5 → ∀ j, j < 5 → i ≠ j → 0 < line5 i j) i hi j hj⟩

/-- 4 points on a line at 0, 1, 3, 2: frames 0,1,2 are the data, point 3 (at 2) is an initial
center that is not a frame of the data -/
def posOff : Nat → Int
  | 0 => 0 | 1 => 1 | 2 => 3 | _ => 2
def lineOff : Table := lineTable posOff

end Ens.KC
