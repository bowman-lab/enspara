import Model.Builders
import Proofs.C04
import Proofs.C12Final

/-! Bridge between the two matrix representations (index functions of `Model.Builders`,
`Vector`s of `Model.Mle`) and the composition "builders.mle = prior, Prinz estimator, output". -/

set_option linter.unusedSectionVars false

namespace Ens.C04P
open Ens Ens.Builders Ens.Mle Ens.C12P

variable {K : Type} [Field K] [LinearOrder K] [IsStrictOrderedRing K] {n : Nat}

/-- a `Vector`-based matrix as an index function (0 outside the `n × n` block) -/
def matFn (X : Mle.Mat K n) : Builders.Mat K :=
  fun i j => if h : i < n ∧ j < n then mget X ⟨i, h.1⟩ ⟨j, h.2⟩ else 0

def vecFn (x : Mle.Vec K n) : Nat → K := fun i => if h : i < n then vget x ⟨i, h⟩ else 0

/-- the leading `n × n` block of an index function as a `Vector`-based matrix
(`C.copy().astype(float)` of the dense counts) -/
def matOfFn (n : Nat) (C : Builders.Mat K) : Mle.Mat K n :=
  Vector.ofFn fun i => Vector.ofFn fun j => C i.val j.val

/-- the estimator that `builders.mle` wraps: `_prinz_mle_py` on the dense counts -/
def prinzEst (P : Params K) (n : Nat) :
    Builders.Mat K → Except Mle.Err (Builders.Mat K × (Nat → K)) :=
  fun C' => match Mle.run P (matOfFn n C') with
    | .error e => .error e
    | .ok r => .ok (matFn r.T, vecFn r.pi)

theorem matFn_lt (X : Mle.Mat K n) {i j : Nat} (hi : i < n) (hj : j < n) :
    matFn X i j = mget X ⟨i, hi⟩ ⟨j, hj⟩ := by
  simp [matFn, hi, hj]

theorem vecFn_lt (x : Mle.Vec K n) {i : Nat} (hi : i < n) : vecFn x i = vget x ⟨i, hi⟩ := by
  simp [vecFn, hi]

theorem mget_matOfFn (C : Builders.Mat K) (i j : Fin n) : mget (matOfFn n C) i j = C i.val j.val :=
  mget_ofFn _ i j

/-- `sumTo n` as a sum over `Fin n`, for a summand known on the indices below `n` -/
theorem sumTo_eq_fin_sum {f : Nat → K} {g : Fin n → K} (h : ∀ i : Fin n, f i.val = g i) :
    sumTo n f = ∑ i : Fin n, g i := by
  rw [sumTo_eq_sum, Finset.sum_range]
  exact Finset.sum_congr rfl fun i _ => h i

end Ens.C04P
