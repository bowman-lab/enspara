import Proofs.C01Total
/-!
C01: the result arrays have one entry per frame (`size = n`).
-/
namespace Ens.Cluster

variable {D : Table} {n : Nat} {props : Option (List Nat)}

def Sized (n : Nat) (a : Arr) : Prop := a.distA.size = n ∧ a.assignA.size = n

theorem Sized.tab (n : Nat) (fr : Bool) (d : Nat → Rat) (l : Nat → Int) : Sized n (Arr.tab n fr d l) := by
  simp [Sized, Arr.tab]

theorem Sized.relax (a : Arr) (lbl : Int) (c : Nat) : Sized n (a.relax D n lbl c) :=
  Sized.tab n _ _ _

theorem Sized.assignLoop : ∀ (cs : List Nat) (i : Nat) {a : Arr}, Sized n a →
    Sized n (assignLoop D n cs i a) := by
  intro cs
  induction cs with
  | nil => intro i a h; simpa [Cluster.assignLoop] using h
  | cons c cs ih => intro i a _; simp only [Cluster.assignLoop]; exact ih (i+1) (Sized.relax a _ c)

theorem Sized.assignNearest (D : Table) (n : Nat) (cs : List Nat) : Sized n (assignNearest D n cs) :=
  Sized.assignLoop cs 0 (Sized.tab n _ _ _)

theorem kcentersLoop_sized {nClusters : Option Nat} {cutoff : Rat} (fuel : Nat) {s s' : St}
    (hs : Sized n s.arr) (h : kcentersLoop D n nClusters cutoff fuel s = .ok s') : Sized n s'.arr :=
  (kcentersLoop_induct (Sized n ·.arr) (fun _ _ => Sized.relax _ _ _) fuel hs h).1

theorem kcenters_sized {nClusters : Option Nat} {cutoff : Rat} {init : Option (List Nat)}
    {fuel : Nat} {s : St} (h : kcenters D n nClusters cutoff init fuel = .ok s) : Sized n s.arr := by
  obtain ⟨s0, h0, _, hl⟩ := kcenters_ok h
  refine kcentersLoop_sized fuel ?_ hl
  cases init with
  | none => cases h0; exact Sized.tab n _ _ _
  | some cs =>
    simp only [kcentersStart, kcentersWarm] at h0
    split at h0
    · cases h0
    · split at h0
      · cases h0
      · cases h0; exact Sized.assignNearest D n cs

theorem pamStep_sized {s : St} {cid p : Nat} {st : PamStep} (hs : Sized n s.arr)
    (h : pamStep D n s cid p = .ok st) : Sized n st.after.arr := by
  rcases pamStep_after_cases h with ⟨_, e⟩ | ⟨_, e, _⟩
  · rw [e]; exact hs
  · rw [e]; exact Sized.tab n _ _ _

theorem pamUpdate_sized {s s' : St} {orc orc' : List Nat} {tr : List PamStep} (hs : Sized n s.arr)
    (h : pamUpdate D n s props orc = .ok (s', orc', tr)) : Sized n s'.arr :=
  pamLoop_induct (Sized n ·.arr) (fun _ => True) (fun _ hx _ h2 => pamStep_sized hx h2) _ (fun _ _ => trivial)
    (s := { s with ctrFrames := s.ctrInds }) hs (pamUpdate_ok h).2.2.2.2.2

theorem sweepsFrom_sized (k : Nat) {s : St} {orc : List Nat} {r : Run} (hs : Sized n s.arr)
    (h : sweepsFrom D n props k s orc = .ok r) : Sized n r.final.arr :=
  (sweepsFrom_induct (Sized n ·.arr) pamUpdate_sized k hs h).1

end Ens.Cluster
