import Model.Rotamer
import Mathlib.Tactic.Linarith
/-!
`disorder.transitions`.  The wrapped difference of two in-range values is zero iff
they are equal; the 1-D result lists exactly the positions whose successor differs; the 2-D
result (when the ragged array can be built) is the list of the per-row 1-D results.
-/
namespace Ens.Rotamer

theorem modulus_pos (d : DType) : 0 < d.modulus := by
  unfold DType.modulus
  positivity

theorem eq_zero_of_emod {M v : Int} (h0 : v % M = 0) (h1 : -M < v) (h2 : v < M) : v = 0 := by
  have hd : M ∣ v := Int.dvd_of_emod_eq_zero h0
  apply Int.eq_zero_of_dvd_of_natAbs_lt_natAbs hd
  omega

theorem wrap_eq_zero_iff (d : DType) (v : Int) : d.wrap v = 0 ↔ v % d.modulus = 0 := by
  have hM := modulus_pos d
  unfold DType.wrap
  by_cases hs : d.signed = true
  · have e : d.modulus / 2 % d.modulus = d.modulus / 2 := Int.emod_eq_of_lt (by omega) (by omega)
    rw [if_pos hs, sub_eq_zero]
    conv_lhs => rhs; rw [← e]
    rw [Int.emod_eq_emod_iff_emod_sub_eq_zero, Int.add_sub_cancel]
  · rw [if_neg hs]

theorem inRange_sub_lt {d : DType} {x y : Int} (hx : d.InRange x) (hy : d.InRange y) :
    y - x < d.modulus := by
  unfold DType.InRange at hx hy
  by_cases hs : d.signed = true
  · rw [if_pos hs] at hx hy
    omega
  · rw [if_neg hs] at hx hy
    omega

theorem wrap_sub_eq_zero_iff (d : DType) {x y : Int} (hx : d.InRange x) (hy : d.InRange y) :
    d.wrap (y - x) = 0 ↔ x = y := by
  rw [wrap_eq_zero_iff]
  constructor
  · intro h
    have h1 := inRange_sub_lt hx hy
    have h2 := inRange_sub_lt hy hx
    have := eq_zero_of_emod h (by omega) h1
    omega
  · rintro rfl
    rw [Int.sub_self, Int.zero_emod]

theorem mem_nonzeroIdxFrom_cons {x : Int} {t : List Int} {k n : Nat} :
    n ∈ nonzeroIdxFrom k (x :: t) ↔ (n = k ∧ x ≠ 0) ∨ n ∈ nonzeroIdxFrom (k + 1) t := by
  rw [nonzeroIdxFrom]
  by_cases hx : x ≠ 0
  · rw [if_pos hx, List.mem_cons]
    exact or_congr_left ⟨fun h => ⟨h, hx⟩, fun h => h.1⟩
  · rw [if_neg hx]
    exact ⟨Or.inr, fun h => h.resolve_left fun h' => hx h'.2⟩

theorem mem_nonzeroIdxFrom {l : List Int} {k n : Nat} :
    n ∈ nonzeroIdxFrom k l ↔ ∃ j v, n = k + j ∧ l[j]? = some v ∧ v ≠ 0 := by
  induction l generalizing k with
  | nil => exact ⟨fun h => (nomatch h), fun ⟨_, _, _, h, _⟩ => (nomatch h)⟩
  | cons x t ih =>
    rw [mem_nonzeroIdxFrom_cons, ih]
    constructor
    · rintro (⟨rfl, hx⟩ | ⟨j, v, e, hv, hne⟩)
      · exact ⟨0, x, rfl, rfl, hx⟩
      · exact ⟨j + 1, v, by omega, hv, hne⟩
    · rintro ⟨j, v, e, hv, hne⟩
      cases j with
      | zero =>
        cases Option.some.inj hv
        exact Or.inl ⟨e, hne⟩
      | succ j => exact Or.inr ⟨j, v, by omega, hv, hne⟩

/-- positions are reported in increasing order, each once (numpy's `where` order) -/
theorem nonzeroIdxFrom_sorted (l : List Int) (k : Nat) : (nonzeroIdxFrom k l).Pairwise (· < ·) := by
  induction l generalizing k with
  | nil => simp [nonzeroIdxFrom]
  | cons x t ih =>
    unfold nonzeroIdxFrom
    by_cases hx : x ≠ 0
    · rw [if_pos hx, List.pairwise_cons]
      refine ⟨fun n hn => ?_, ih (k + 1)⟩
      obtain ⟨j, _, e, _⟩ := mem_nonzeroIdxFrom.1 hn
      omega
    · rw [if_neg hx]; exact ih (k + 1)

theorem getElem?_diffs (d : DType) (xs : List Int) (j : Nat) (v : Int) :
    (diffs d xs)[j]? = some v ↔ ∃ x y, xs[j]? = some x ∧ xs[j + 1]? = some y ∧ v = d.wrap (y - x) := by
  induction xs generalizing j with
  | nil => exact ⟨fun h => (nomatch h), fun ⟨_, _, h, _⟩ => (nomatch h)⟩
  | cons x t ih =>
    cases t with
    | nil => exact ⟨fun h => (nomatch h), fun ⟨_, _, _, h, _⟩ => (nomatch h)⟩
    | cons y t' =>
      rw [diffs]
      cases j with
      | zero =>
        constructor
        · intro h
          exact ⟨x, y, rfl, rfl, (Option.some.inj h).symm⟩
        · rintro ⟨_, _, h1, h2, h3⟩
          cases Option.some.inj h1
          cases Option.some.inj h2
          exact congrArg some h3.symm
      | succ j => exact ih j

/-- `transitions` (1-D) for arbitrary values -/
theorem mem_transitions1d_wrap (d : DType) (xs : List Int) (n : Nat) :
    n ∈ transitions1d d xs ↔ ∃ x y, xs[n]? = some x ∧ xs[n + 1]? = some y ∧ d.wrap (y - x) ≠ 0 := by
  unfold transitions1d
  rw [mem_nonzeroIdxFrom]
  constructor
  · rintro ⟨j, v, e, hv, hne⟩
    cases (Nat.zero_add j).symm.trans e.symm
    obtain ⟨x, y, h1, h2, rfl⟩ := (getElem?_diffs d xs n v).1 hv
    exact ⟨x, y, h1, h2, hne⟩
  · rintro ⟨x, y, h1, h2, hne⟩
    exact ⟨n, _, (Nat.zero_add n).symm, (getElem?_diffs d xs n _).2 ⟨x, y, h1, h2, rfl⟩, hne⟩

theorem mem_transitions1d (d : DType) (xs : List Int) (hr : ∀ x ∈ xs, d.InRange x) (n : Nat) :
    n ∈ transitions1d d xs ↔ ∃ x y, xs[n]? = some x ∧ xs[n + 1]? = some y ∧ x ≠ y := by
  rw [mem_transitions1d_wrap]
  exact exists_congr fun x => exists_congr fun y => and_congr_right fun h1 => and_congr_right fun h2 =>
    not_congr (wrap_sub_eq_zero_iff d (hr x (List.mem_of_getElem? h1)) (hr y (List.mem_of_getElem? h2)))

theorem wherePairs_snd (r : Nat) (dm : List (List Int)) :
    (wherePairsFrom r dm).map (·.2) = (dm.map (nonzeroIdxFrom 0)).flatten := by
  induction dm generalizing r with
  | nil => rfl
  | cons row t ih =>
    simp only [wherePairsFrom, List.map_append, List.map_map, List.map_cons, List.flatten_cons, ih]
    congr 1
    simp [Function.comp_def]

theorem wherePairs_fst_cons (r : Nat) (row : List Int) (t : List (List Int)) :
    (wherePairsFrom r (row :: t)).map (·.1) =
      List.replicate (nonzeroIdxFrom 0 row).length r ++ (wherePairsFrom (r + 1) t).map (·.1) := by
  rw [wherePairsFrom, List.map_append, List.map_map]
  exact congrArg (· ++ _) List.map_const'

theorem wherePairs_fst_bounds (r : Nat) (dm : List (List Int)) :
    ∀ x ∈ (wherePairsFrom r dm).map (·.1), r ≤ x ∧ x < r + dm.length := by
  induction dm generalizing r with
  | nil => exact fun x hx => (List.not_mem_nil hx).elim
  | cons row t ih =>
    intro x hx
    rw [wherePairs_fst_cons, List.mem_append] at hx
    rw [List.length_cons]
    rcases hx with hx | hx
    · cases List.eq_of_mem_replicate hx
      omega
    · have := ih (r + 1) x hx
      omega

theorem wherePairs_fst_count (r j : Nat) (dm : List (List Int)) :
    ((wherePairsFrom r dm).map (·.1)).count (r + j) =
      ((dm.map (nonzeroIdxFrom 0)).map List.length)[j]?.getD 0 := by
  induction dm generalizing r j with
  | nil => rfl
  | cons row t ih =>
    rw [wherePairs_fst_cons, List.count_append, List.count_replicate]
    cases j with
    | zero =>
      have h0 : ((wherePairsFrom (r + 1) t).map (·.1)).count r = 0 :=
        List.count_eq_zero.2 fun h => absurd (wherePairs_fst_bounds (r + 1) t r h).1 (Nat.not_succ_le_self r)
      rw [Nat.add_zero, h0, if_pos (beq_self_eq_true r)]
      rfl
    | succ j =>
      have hne : (r == r + (j + 1)) = false := beq_false_of_ne (by omega)
      rw [hne, if_neg Bool.false_ne_true, Nat.zero_add, ← Nat.add_assoc, Nat.add_right_comm r j 1]
      exact ih (r + 1) j

theorem bincount_of_lt (xs : List Nat) (m : Nat) (h : ∀ x ∈ xs, x < m) :
    bincount xs m = tabulate m (fun i => xs.count i) := by
  unfold bincount
  cases hm : xs.max? with
  | none => rfl
  | some mx =>
    have := h mx (List.max?_mem hm)
    have e : max m (mx + 1) = m := by omega
    simp only [e]

theorem bincount_wherePairs (dm : List (List Int)) :
    bincount ((wherePairsFrom 0 dm).map (·.1)) dm.length = (dm.map (nonzeroIdxFrom 0)).map List.length := by
  rw [bincount_of_lt _ _ fun x hx =>
    lt_of_lt_of_eq (wherePairs_fst_bounds 0 dm x hx).2 (Nat.zero_add _)]
  apply List.ext_getElem
  · simp [tabulate]
  · intro i h1 h2
    have := wherePairs_fst_count 0 i dm
    rw [Nat.zero_add, List.getElem?_eq_getElem h2, Option.getD_some] at this
    rw [← this]
    simp only [tabulate, List.getElem_map, List.getElem_range]

theorem partition_flatten (L : List (List Nat)) : partition L.flatten (L.map List.length) = L := by
  induction L with
  | nil => rfl
  | cons l t ih =>
    simp only [List.flatten_cons, List.map_cons, partition, List.take_left, List.drop_left, ih]

/-- the row-wise 1-D results -/
def perRow (d : DType) (rows : List (List Int)) : List (List Nat) := rows.map (transitions1d d)

theorem transitions2d_eq (guard : Bool) (d : DType) (rows : List (List Int)) :
    transitions2d guard d rows =
      if guard && (perRow d rows).flatten.isEmpty then .ok ((perRow d rows).map (fun _ => []))
      else mkRA (perRow d rows).flatten ((perRow d rows).map List.length) := by
  unfold transitions2d
  have e1 : (wherePairsFrom 0 (rows.map (diffs d))).map (·.2) = (perRow d rows).flatten := by
    rw [wherePairs_snd, List.map_map]; rfl
  have e2 : bincount ((wherePairsFrom 0 (rows.map (diffs d))).map (·.1)) rows.length =
      (perRow d rows).map List.length := by
    have := bincount_wherePairs (rows.map (diffs d))
    simp only [List.length_map] at this
    rw [this]; simp only [perRow, List.map_map]; rfl
  simp only [e1, e2, List.map_map]
  rfl

/-- some trajectory has a transition -/
def HasTransition (d : DType) (rows : List (List Int)) : Prop := (perRow d rows).flatten ≠ []

theorem transitions2d_ok (guard : Bool) (d : DType) (rows : List (List Int))
    (h : guard = true ∨ HasTransition d rows) :
    transitions2d guard d rows = .ok (perRow d rows) := by
  rw [transitions2d_eq]
  by_cases hne : (perRow d rows).flatten = []
  · have hg : guard = true := by
      rcases h with h | h
      · exact h
      · exact absurd hne h
    simp only [hg, hne, List.isEmpty_nil, Bool.and_self, if_true]
    have : ∀ l ∈ perRow d rows, (fun _ => []) l = id l := fun l hl =>
      (List.flatten_eq_nil_iff.1 hne l hl).symm
    rw [List.map_congr_left this, List.map_id]
  · have hemp : (perRow d rows).flatten.isEmpty = false := by
      cases hf : (perRow d rows).flatten with
      | nil => exact absurd hf hne
      | cons _ _ => rfl
    simp only [hemp, Bool.and_false, Bool.false_eq_true, if_false]
    unfold mkRA
    simp only [hemp, Bool.false_eq_true, if_false]
    have : ¬ ((List.map List.length (perRow d rows)).sum ≠ (perRow d rows).flatten.length) := by
      simp [List.length_flatten]
    rw [if_neg this, partition_flatten]

/-- without the guard in `transitions`, all-quiet input reaches `mkRA` with empty data, which the model
rejects: the failure the guard in the source prevents -/
theorem transitions2d_all_quiet_error (d : DType) (rows : List (List Int))
    (h : ¬ HasTransition d rows) : ∃ e, transitions2d false d rows = .error e := by
  rw [transitions2d_eq]
  have hne : (perRow d rows).flatten = [] := by
    unfold HasTransition at h
    exact Classical.not_not.1 h
  simp only [Bool.false_and, Bool.false_eq_true, if_false, hne]
  unfold mkRA
  simp only [List.isEmpty_nil, if_true]
  split
  · exact ⟨_, rfl⟩
  · exact ⟨_, rfl⟩

end Ens.Rotamer
