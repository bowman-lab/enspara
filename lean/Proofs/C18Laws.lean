import Proofs.C18Marg
import Proofs.C18KL
/-!
`mutual_information` on tables produced by `matrix_bincount2d`: `miVal_eq` turns `mi[x, y]` of a
successful call into `miF` of the empirical distribution `frameCount / T`, so that each law is the
law of `miF` (`Proofs.C18RealMI`) and a fact about `frameCount`.
-/
namespace Ens.InfoR
open Finset Ens Ens.Info

/-- value of `mi[x, y]` as computed from the table `j` -/
noncomputable def miVal (j : JC) (x y : Nat) : ℝ :=
  termsVal (miTerms (j.table x y) j.nA.toNat j.nB.toNat)

/-- the list of marginal counts handed to `shannon_entropy` -/
def countsList (k : ℕ → ℕ) (n : ℕ) : List ℚ := tabulate n fun u => (k u : ℚ)

theorem ratSum_countsList (k : ℕ → ℕ) (n : ℕ) :
    ((ratSum (countsList k n) : ℚ) : ℝ) = ∑ u ∈ range n, (k u : ℝ) := by
  rw [ratSum_eq_sum, Rat.cast_list_sum]
  unfold countsList tabulate
  rw [List.map_map, ← sumTo_eq_sum_map, sumTo_eq_sum]
  exact Finset.sum_congr rfl fun u _ => Rat.cast_natCast _

/-- `shannon_entropy(p, normalize=True)` in closed form: nan (here an error) for a zero sum, else
the terms of the positive entries of `p / Σ p` -/
theorem entropyTerms_norm (p : List ℚ) :
    entropyTerms p true = if ratSum p = 0 then .error .runtimeError
      else .ok ((p.map (· / ratSum p)).filterMap fun x => if x > 0 then some (-x, x) else none) := by
  unfold entropyTerms
  by_cases hz : ratSum p = 0
  · rw [if_pos hz, if_pos rfl, if_pos hz]; rfl
  · rw [if_neg hz, if_pos rfl, if_neg hz]; rfl

theorem entropy_term (q : ℚ) (hq : 0 ≤ q) :
    ((if q > 0 then some (-q, q) else none : Option Term).map termVal).getD 0
      = -((q : ℝ) * Real.log (q : ℝ)) := by
  by_cases hpos : q > 0
  · rw [if_pos hpos]
    simp only [Option.map_some, Option.getD_some, termVal, Rat.cast_neg, neg_mul]
  · rw [if_neg hpos, le_antisymm (not_lt.1 hpos) hq]
    simp

/-- `shannon_entropy(counts, normalize=True)` = `−Σ p log p` with `p = counts / Σ counts` -/
theorem entropyTerms_val (k : ℕ → ℕ) (n : ℕ) (ts : List Term)
    (h : entropyTerms (countsList k n) true = .ok ts) :
    termsVal ts = entF (fun u => (k u : ℝ) / ∑ w ∈ range n, (k w : ℝ)) n := by
  rw [entropyTerms_norm] at h
  split at h
  · cases h
  obtain rfl := Except.ok.inj h
  have hS := ratSum_countsList k n
  generalize ratSum (countsList k n) = S at hS ⊢
  have hS0 : 0 ≤ S := Rat.cast_nonneg.1 (hS ▸ Finset.sum_nonneg fun _ _ => Nat.cast_nonneg _)
  unfold countsList tabulate termsVal entF
  rw [List.map_map, List.filterMap_map, List.map_filterMap, sum_filterMap_range,
    ← Finset.sum_neg_distrib]
  apply Finset.sum_congr rfl
  intro u _
  simp only [Function.comp]
  rw [entropy_term _ (div_nonneg (Nat.cast_nonneg _) hS0), Rat.cast_div, hS, Rat.cast_natCast]

theorem entropy_ok (a : Arr) (x : Nat) (n : ℕ) (hT : 0 < a.T)
    (hr : ∀ t, t < a.T → 0 ≤ a.get t x ∧ a.get t x < (n : ℤ)) :
    ∃ ts, entropyTerms (countsList (fun u => margCount a x (u : ℤ)) n) true = .ok ts ∧
      termsVal ts = entF (fun u => (margCount a x (u : ℤ) : ℝ) / (a.T : ℝ)) n := by
  have hsum : ∑ u ∈ range n, ((margCount a x (u : ℤ) : ℕ) : ℝ) = (a.T : ℝ) := by
    rw [← Nat.cast_sum, sum_margCount a x n hr]
  have hne : ratSum (countsList (fun u => margCount a x (u : ℤ)) n) ≠ 0 := by
    intro e
    have := ratSum_countsList (fun u => margCount a x (u : ℤ)) n
    rw [e, hsum, Rat.cast_zero] at this
    exact hT.ne' (Nat.cast_eq_zero.1 this.symm)
  have hts := (entropyTerms_norm _).trans (if_neg hne)
  exact ⟨_, hts, by rw [entropyTerms_val _ _ _ hts, hsum]⟩

theorem ok_range (a b : Arr) (nA nB : ℤ) (h : guard a b nA nB = .ok ()) :
    a.T = b.T ∧ 0 < a.T ∧ ((nA.toNat : ℕ) : ℤ) = nA ∧ ((nB.toNat : ℕ) : ℤ) = nB ∧
    (∀ x, x < a.F → ∀ t, t < a.T → 0 ≤ a.get t x ∧ a.get t x < (nA.toNat : ℤ)) ∧
    (∀ y, y < b.F → ∀ t, t < a.T → 0 ≤ b.get t y ∧ b.get t y < (nB.toNat : ℤ)) := by
  obtain ⟨hT, hA, hB⟩ := guard_range a b nA nB h
  obtain ⟨_, _, ha, hb, _⟩ := (guard_ok_iff a b nA nB).1 h
  obtain ⟨hTa, hFa⟩ := (entries_ne_nil_iff a).1 ha
  obtain ⟨_, hFb⟩ := (entries_ne_nil_iff b).1 hb
  have cA : ((nA.toNat : ℕ) : ℤ) = nA := Int.toNat_of_nonneg (by have := hA 0 0 hTa hFa; omega)
  have cB : ((nB.toNat : ℕ) : ℤ) = nB := Int.toNat_of_nonneg (by have := hB 0 0 hTa hFb; omega)
  rw [cA, cB]
  exact ⟨hT, hTa, rfl, rfl, fun x hx t ht => hA t x ht hx, fun y hy t ht => hB t y ht hy⟩

/-- `mi[x, y]` of a successful call is the mutual information of the empirical joint distribution -/
theorem miVal_eq (a b : Arr) (nA nB : ℤ) (r : JC) (h : matrixBincount2d a b nA nB = .ok r)
    (x y : Nat) (hx : x < a.F) (hy : y < b.F) :
    miVal r x y = miF (fun (u v : ℕ) => (frameCount a b x y (u : ℤ) (v : ℤ) : ℝ) / (a.T : ℝ))
      nA.toNat nB.toNat := by
  obtain ⟨hg, rfl⟩ := (matrixBincount2d_ok_iff a b nA nB r).1 h
  obtain ⟨_, _, _, _, hra, hrb⟩ := ok_range a b nA nB hg
  have ht : (countTable a b nA nB).table x y = fun (u v : ℕ) => frameCount a b x y (u : ℤ) (v : ℤ) := by
    funext u v; exact if_pos ⟨hx, hy⟩
  show termsVal (miTerms ((countTable a b nA nB).table x y) nA.toNat nB.toNat) = _
  rw [ht, miTerms_val]
  unfold probTable
  rw [total_frameCount a b x y _ _ (hra x hx) (hrb y hy)]

theorem miVal_congr (j j' : JC) (hc : j.cnt = j'.cnt) (hA : j.nA = j'.nA) (hB : j.nB = j'.nB) (x y : Nat) :
    miVal j x y = miVal j' x y := by
  unfold miVal JC.table
  rw [hc, hA, hB]

theorem frameCount_comm (a b : Arr) (hT : a.T = b.T) (x y : Nat) (i j : ℤ) :
    frameCount a b x y i j = frameCount b a y x j i := by
  unfold frameCount; rw [hT]; apply List.countP_congr; intro t _; simp [and_comm]

theorem mi_symm (a b : Arr) (nA nB : ℤ) (r r' : JC) (h : matrixBincount2d a b nA nB = .ok r)
    (h' : matrixBincount2d b a nB nA = .ok r') (x y : Nat) (hx : x < a.F) (hy : y < b.F) :
    miVal r x y = miVal r' y x := by
  have hT := (guard_range a b nA nB ((matrixBincount2d_ok_iff a b nA nB r).1 h).1).1
  rw [miVal_eq a b nA nB r h x y hx hy, miVal_eq b a nB nA r' h' y x hy hx,
    ← miF_transpose (fun (u v : ℕ) => (frameCount b a y x (u : ℤ) (v : ℤ) : ℝ) / (b.T : ℝ))]
  congr 1
  funext u v
  rw [frameCount_comm a b hT x y, hT]

theorem frameCount_diag (a : Arr) (x : Nat) (u v : ℕ) :
    frameCount a a x x (u : ℤ) (v : ℤ) = if u = v then margCount a x (u : ℤ) else 0 := by
  unfold frameCount margCount
  by_cases huv : u = v
  · subst huv; rw [if_pos rfl]; apply List.countP_congr; intro t _; simp
  · rw [if_neg huv, List.countP_eq_zero]
    intro t _
    simp only [decide_eq_true_eq, not_and]
    exact fun e1 e2 => huv (Int.ofNat_inj.1 (e1.symm.trans e2))

theorem rowS_frameCount (a b : Arr) (x y : Nat) (nB u : ℕ)
    (hb : ∀ t, t < a.T → 0 ≤ b.get t y ∧ b.get t y < (nB : ℤ)) :
    rowS (fun (u v : ℕ) => (frameCount a b x y (u : ℤ) (v : ℤ) : ℝ) / (a.T : ℝ)) nB u
      = (margCount a x (u : ℤ) : ℝ) / (a.T : ℝ) := by
  unfold rowS
  rw [← Finset.sum_div, ← Nat.cast_sum, ← sumTo_eq_sum]
  exact congrArg (fun k : ℕ => (k : ℝ) / (a.T : ℝ)) (rowSum_frameCount a b x y nB u hb)

theorem colS_frameCount (a b : Arr) (x y : Nat) (nA v : ℕ) (hT : a.T = b.T)
    (ha : ∀ t, t < a.T → 0 ≤ a.get t x ∧ a.get t x < (nA : ℤ)) :
    colS (fun (u v : ℕ) => (frameCount a b x y (u : ℤ) (v : ℤ) : ℝ) / (a.T : ℝ)) nA v
      = (margCount b y (v : ℤ) : ℝ) / (b.T : ℝ) := by
  unfold colS
  rw [← Finset.sum_div, ← Nat.cast_sum, ← sumTo_eq_sum]
  refine (congrArg (fun k : ℕ => (k : ℝ) / (a.T : ℝ)) (colSum_frameCount a b x y nA v ha)).trans ?_
  unfold margCount
  rw [hT]

theorem relabelOn_toNat {π : ℤ → ℤ} {n : ℤ} (h : RelabelOn π n) (cn : ((n.toNat : ℕ) : ℤ) = n) :
    (∀ u < n.toNat, (π (u : ℤ)).toNat < n.toNat ∧ (((π (u : ℤ)).toNat : ℕ) : ℤ) = π (u : ℤ)) ∧
    (∀ u < n.toNat, ∀ u' < n.toNat, (π (u : ℤ)).toNat = (π (u' : ℤ)).toNat → u = u') := by
  have hlt : ∀ u < n.toNat, (u : ℤ) < n := fun u hu => cn ▸ Int.ofNat_lt.2 hu
  have hr : ∀ u < n.toNat, 0 ≤ π (u : ℤ) ∧ π (u : ℤ) < n := fun u hu =>
    h.1 (u : ℤ) (Int.natCast_nonneg u) (hlt u hu)
  have hc : ∀ u < n.toNat, (((π (u : ℤ)).toNat : ℕ) : ℤ) = π (u : ℤ) := fun u hu =>
    Int.toNat_of_nonneg (hr u hu).1
  refine ⟨fun u hu => ⟨Int.ofNat_lt.1 (by rw [hc u hu, cn]; exact (hr u hu).2), hc u hu⟩,
    fun u hu u' hu' e => ?_⟩
  have : π (u : ℤ) = π (u' : ℤ) := by rw [← hc u hu, ← hc u' hu', e]
  exact Int.ofNat_inj.1 (h.2 (u : ℤ) (u' : ℤ) (Int.natCast_nonneg u) (hlt u hu)
    (Int.natCast_nonneg u') (hlt u' hu') this)

end Ens.InfoR
