import Proofs.C13Spec
/-! From a successful `call` to the row results (composition of validation, dispatch and kernel). -/
namespace Ens.Dist
open Ens.Sched

/-- a successful call passed validation and dispatch and ran the kernel selected by the element type -/
theorem call_ok_kernelRun (k : Kernel) (Xm ym : Meta) (data : Data) (out : Option (Meta × Arr Cell))
    (choices : List Nat) (r : Result) (h : call k Xm ym data out choices = .ok r) :
    ∃ sh t, prepare Xm ym (out.map (·.1)) = .ok sh ∧
      dispatch k Xm ym ((out.map (·.1.writable)).getD true) = .ok t ∧
      ((∃ c X y, t.promote = some c ∧ data = .ints X y ∧
          kernelRun k (termInt intArith k c) X y (outArrOf out sh) choices = .ok r) ∨
       (∃ X y, t.promote = none ∧ data = .rats X y ∧
          kernelRun k (termRat k) X y (outArrOf out sh) choices = .ok r)) := by
  unfold call at h
  split at h
  · cases h
  rename_i sh hprep
  split at h
  · cases h
  rename_i t hdisp
  refine ⟨sh, t, hprep, hdisp, ?_⟩
  split at h
  · rename_i c X y hc
    exact Or.inl ⟨c, X, y, hc, rfl, h⟩
  · rename_i X y hc
    exact Or.inr ⟨X, y, hc, rfl, h⟩
  · cases h

/-- the returned view lists the row results, whatever the buffer held before -/
theorem kernelRun_values {ε} (k : Kernel) (term : ε → ε → Rat) (X y : Arr ε) (out : Arr Cell)
    (choices : List Nat) (r : Result) (h : kernelRun k term X y out choices = .ok r) :
    ∃ w rows ys, X.rows? r.n w = some rows ∧ y.elems? w = some ys ∧ rows.length = r.n ∧
      ys.length = w ∧ r.values = rows.map (fun xs => rowResult k w (rowTerms term xs ys) .nan) := by
  obtain ⟨n, w, so, rows, ys, s⟩ := kernelRun_spec k term X y out choices r h
  refine ⟨w, rows, ys, s.hn ▸ s.hrows, s.hys, s.hn ▸ s.hrowsLen, s.hysLen, ?_⟩
  unfold Result.values
  apply List.ext_getElem
  · simp [s.hn, s.hrowsLen]
  · intro i h1 h2
    have hi : i < rows.length := by simpa using h2
    obtain ⟨init, -, hr⟩ := s.hrow i rows[i] (List.getElem?_eq_getElem hi)
    simp only [List.getElem_map, List.getElem_range]
    rw [List.getD_eq_getElem?_getD, s.hoff, s.hstride, hr, Option.getD_some]
    exact rowResult_init k w _ init .nan

theorem traceOk_iff {wrapper kernel : String} :
    traceOk wrapper kernel = true ↔ (Gen.wrapperTraces.lookup wrapper).getD [] = modelledTrace kernel :=
  beq_iff_eq

end Ens.Dist
