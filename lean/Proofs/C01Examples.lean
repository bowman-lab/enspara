import Proofs.C01Sized
/-!
Concrete instance used by the non-vacuity `example`s of Props/C01.lean and Props/C09.lean:
six points on a line, `0 1 3 | 10 12 15`, distance = absolute difference; start state = nearest-center
assignment to the centers {frame 0, frame 5}.
-/
namespace Ens.Cluster.Ex

def pts : List Int := [0, 1, 3, 10, 12, 15]
def D6 : Table := fun f c => ((pts.getD f 0 - pts.getD c 0).natAbs : Nat)
def s6 : St := { arr := assignNearest D6 6 [0, 5], ctrInds := [0, 5], ctrFrames := [0, 5] }

theorem D6_ok : TableOK D6 6 := by
  have h1 : ∀ i, i < 6 → D6 i i = 0 := by decide +kernel
  have h2 : ∀ i, i < 6 → ∀ j, j < 6 → 0 ≤ D6 i j := by decide +kernel
  have h3 : ∀ i, i < 6 → ∀ j, j < 6 → D6 i j = 0 → i = j := by decide +kernel
  exact ⟨h1, fun i j hi hj => h2 i hi j hj, fun i j hi hj => h3 i hi j hj⟩

/-! A run that several `example`s of Props/C01.lean and Props/C09.lean look at is evaluated once, here. -/

theorem step_0_1 :
    (pamStep D6 6 s6 0 1).toOption.map (fun st => (st.dn, st.other, st.this, st.acc)) =
      some (2, 3, 1, true) ∧
    (pamStep D6 6 s6 0 1).toOption.map (fun st => (st.after.ctrInds, st.after.arr.assignA)) =
      some ([1, 5], #[0, 0, 0, 1, 1, 1]) := by decide +kernel

theorem step_0_2 :
    (pamStep D6 6 s6 0 2).toOption.map (fun st => (st.dn, st.other, st.this, st.acc, st.after == s6)) =
      some (1, 3, 2, false, true) ∧
    (pamStep D6 6 s6 0 2).toOption.map (fun st => (st.acc, st.oldCost, st.newCost, st.after == s6)) =
      some (false, 22/3, 47/6, true) := by decide +kernel

theorem hybrid_2 :
    (hybrid D6 6 (some 2) 0 none 8 2 [1, 1, 0, 2]).toOption.map
      (fun r => (r.final.ctrInds, r.final.arr.assignA, r.trace.map (fun st => (st.p, st.acc)))) =
      some ([1, 4], #[0, 0, 0, 1, 1, 1], [(1, true), (4, true), (0, false), (5, false)]) ∧
    (hybrid D6 6 (some 2) 0 none 8 2 [1, 1, 0, 2]).toOption.map (fun r => cost 6 r.final.arr.dist) = some 3 ∧
    (kcenters D6 6 (some 2) 0 none 8).toOption.map (fun s => cost 6 s.arr.dist) = some (22/3) := by
  decide +kernel

end Ens.Cluster.Ex
