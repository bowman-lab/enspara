import Proofs.C12Basic

/-! One diagonal / pair update of the Prinz iteration over an arbitrary linear ordered field `K`
with a square-root function, through the value `diagV` a diagonal step writes and the state
`setPair st i j v` a pair step leaves: both keep the invariant, the pair step writes the
non-negative root of its quadratic, and a step that changes nothing yields its Prinz equation
(`diag_fixed_eq`, `pair_fixed_eq`). -/

set_option linter.unusedSectionVars false

namespace Ens.C12P
open Ens Ens.Mle

variable {K : Type} [Field K] [LinearOrder K] [IsStrictOrderedRing K] {n : Nat}

/-- what the proofs need from `sqrt` (satisfied by `Real.sqrt`) -/
structure SqrtSpec (sqrt : K → K) : Prop where
  mul_self : ∀ x, 0 ≤ x → sqrt x * sqrt x = x
  nonneg : ∀ x, 0 ≤ x → 0 ≤ sqrt x

/-- the count matrix is non-negative and `C_rs` holds its row sums (`C_rs = C.sum(axis=1)`) -/
structure Data (C : Mat K n) (Crs : Vec K n) : Prop where
  nonneg : ∀ i j, 0 ≤ mget C i j
  crs : ∀ i, vget Crs i = ∑ j, mget C i j

/-- the loop invariant -/
structure Inv (st : St K n) : Prop where
  symm : ∀ i j, mget st.X i j = mget st.X j i
  nonneg : ∀ i j, 0 ≤ mget st.X i j
  rs : ∀ i, vget st.rs i = ∑ j, mget st.X i j

variable {sqrt : K → K} {C : Mat K n} {Crs : Vec K n} {st : St K n}

theorem Inv.le_rs (h : Inv st) (i j : Fin n) : mget st.X i j ≤ vget st.rs i := by
  rw [h.rs i]
  exact le_sum (fun j => mget st.X i j) (h.nonneg i) j

theorem Inv.rs_nonneg {st : St K n} (h : Inv st) (i : Fin n) : 0 ≤ vget st.rs i := by
  rw [h.rs i]; exact Finset.sum_nonneg (fun k _ => h.nonneg i k)

theorem Inv.rest_nonneg (h : Inv st) (i j : Fin n) :
    0 ≤ vget st.rs i - mget st.X i j ∧ 0 ≤ vget st.rs j - mget st.X i j :=
  ⟨sub_nonneg.2 (h.le_rs i j), by rw [h.symm i j]; exact sub_nonneg.2 (h.le_rs j i)⟩

theorem Data.le_crs (h : Data C Crs) (i j : Fin n) :
    mget C i j ≤ vget Crs i := by
  rw [h.crs i]
  exact le_sum (fun j => mget C i j) (h.nonneg i) j

/-- the value a diagonal step leaves in `X[i,i]` -/
def diagV (C : Mat K n) (Crs : Vec K n) (st : St K n) (i : Fin n) : K :=
  if 0 < vget Crs i - mget C i i then
    mget C i i * (vget st.rs i - mget st.X i i) / (vget Crs i - mget C i i)
  else mget st.X i i

theorem diagStep_X (C : Mat K n) (Crs : Vec K n) (st : St K n) (i a b : Fin n) :
    mget (diagStep C Crs st i).X a b = if a = i ∧ b = i then diagV C Crs st i else mget st.X a b := by
  unfold diagStep diagV
  dsimp only
  split
  · rw [mget_mset]
  · split
    · rename_i hab; rw [hab.1, hab.2]
    · rfl

theorem diagStep_rs (C : Mat K n) (Crs : Vec K n) (st : St K n) (i a : Fin n) :
    vget (diagStep C Crs st i).rs a
      = if a = i then vget st.rs i + (diagV C Crs st i - mget st.X i i) else vget st.rs a := by
  show vget (vset st.rs i (vget st.rs i + (mget (diagStep C Crs st i).X i i - mget st.X i i))) a = _
  rw [vget_vset, diagStep_X, if_pos (⟨rfl, rfl⟩ : i = i ∧ i = i)]

theorem diagStep_eq_self_iff {i : Fin n} :
    diagStep C Crs st i = st ↔ diagV C Crs st i = mget st.X i i := by
  constructor
  · intro h
    have := diagStep_X C Crs st i i i
    rwa [h, if_pos (⟨rfl, rfl⟩ : i = i ∧ i = i), eq_comm] at this
  · intro h
    refine st_ext (fun a b => ?_) (fun a => ?_)
    · rw [diagStep_X]
      split
      · rename_i hab; rw [h, hab.1, hab.2]
      · rfl
    · rw [diagStep_rs, h, sub_self, add_zero]
      split
      · rename_i ha; rw [ha]
      · rfl

theorem diagV_nonneg (hD : Data C Crs) (h : Inv st) (i : Fin n) : 0 ≤ diagV C Crs st i := by
  unfold diagV
  split
  · rename_i hden
    exact div_nonneg (mul_nonneg (hD.nonneg i i) (sub_nonneg.2 (h.le_rs i i))) hden.le
  · exact h.nonneg i i

theorem diagStep_inv (hD : Data C Crs) (h : Inv st) (i : Fin n) : Inv (diagStep C Crs st i) := by
  refine ⟨fun a b => ?_, fun a b => ?_, fun a => ?_⟩
  · rw [diagStep_X, diagStep_X, h.symm a b]
    exact if_congr and_comm rfl rfl
  · rw [diagStep_X]
    split
    · exact diagV_nonneg hD h i
    · exact h.nonneg a b
  · rw [diagStep_rs]
    simp only [diagStep_X]
    by_cases ha : a = i
    · subst ha
      simp only [if_true, true_and]
      rw [sum_update_one, h.rs a]
    · simp only [ha, if_false, false_and]
      exact h.rs a

/-- a diagonal step that leaves `X[i,i]` unchanged ⇒ the diagonal Prinz equation
`X_ii · C_rs_i = C_ii · X_rs_i` (`x_ii = c_ii x_i / c_i`) -/
theorem diag_fixed_eq (i : Fin n)
    (hden : 0 < vget Crs i - mget C i i) (hfix : diagV C Crs st i = mget st.X i i) :
    mget st.X i i * vget Crs i = mget C i i * vget st.rs i := by
  unfold diagV at hfix
  rw [if_pos hden, div_eq_iff hden.ne'] at hfix
  linear_combination -hfix

/-! The larger root of `a v² + b v + c`: `s` stands for `sqrt (b² - 4ac)`, of which only `0 ≤ s`
and `s² = b² - 4ac` are used. -/

section quad
variable {a b c s v : K}

theorem disc_nonneg (ha : 0 ≤ a) (hc : c ≤ 0) : 0 ≤ b * b - 4 * a * c :=
  sub_nonneg.2 (le_trans (mul_nonpos_of_nonneg_of_nonpos (mul_nonneg zero_le_four ha) hc)
    (mul_self_nonneg b))

theorem root_nonneg (ha : 0 < a) (hc : c ≤ 0) (hs : 0 ≤ s) (hsq : s * s = b * b - 4 * a * c) :
    0 ≤ (-b + s) / (2 * a) := by
  have hb : b ≤ s := by
    apply nonneg_le_nonneg_of_sq_le_sq hs
    rw [hsq, le_sub_self_iff]
    exact mul_nonpos_of_nonneg_of_nonpos (mul_nonneg zero_le_four ha.le) hc
  rw [neg_add_eq_sub]
  exact div_nonneg (sub_nonneg.2 hb) (mul_pos two_pos ha).le

theorem root_pos (ha : 0 < a) (h : c < 0 ∨ b < 0) (hs : 0 ≤ s)
    (hsq : s * s = b * b - 4 * a * c) : 0 < (-b + s) / (2 * a) := by
  have hb : b < s := by
    rcases h with h | h
    · apply lt_of_mul_self_lt_mul_self₀ hs
      rw [hsq, lt_sub_iff_add_lt, add_lt_iff_neg_left]
      exact mul_neg_of_pos_of_neg (mul_pos four_pos ha) h
    · exact lt_of_lt_of_le h hs
  rw [neg_add_eq_sub]
  exact div_pos (sub_pos.2 hb) (mul_pos two_pos ha)

theorem root_eq (ha : a ≠ 0) (hsq : s * s = b * b - 4 * a * c) (hv : v = (-b + s) / (2 * a)) :
    a * v * v + b * v + c = 0 := by
  have h2 : 2 * a * v = -b + s := by
    rw [hv]; exact mul_div_cancel₀ _ (mul_ne_zero two_ne_zero ha)
  have h4 : 4 * a * (a * v * v + b * v + c) = 0 := by
    linear_combination (2 * a * v + s + b) * h2 + hsq
  exact (mul_eq_zero.1 h4).resolve_left (mul_ne_zero four_ne_zero ha)

end quad

theorem coefA_comm (C : Mat K n) (Crs : Vec K n) (i j : Fin n) :
    coefA C Crs i j = coefA C Crs j i :=
  add_comm _ _

theorem coefA_nonneg (hD : Data C Crs) (i j : Fin n) :
    0 ≤ coefA C Crs i j :=
  add_nonneg (sub_nonneg.2 (hD.le_crs i j)) (sub_nonneg.2 (hD.le_crs j i))

theorem coefA_pos (hD : Data C Crs) {i j : Fin n}
    (ha : coefA C Crs i j ≠ 0) : 0 < coefA C Crs i j :=
  lt_of_le_of_ne (coefA_nonneg hD i j) (Ne.symm ha)

/-- `assert c <= 0` cannot fire -/
theorem coefC_nonpos (hD : Data C Crs) (h : Inv st) (i j : Fin n) : coefC C st i j ≤ 0 :=
  mul_nonpos_of_nonpos_of_nonneg
    (mul_nonpos_of_nonpos_of_nonneg
      (neg_nonpos.2 (add_nonneg (hD.nonneg i j) (hD.nonneg j i))) (h.rest_nonneg i j).1)
    (h.rest_nonneg i j).2

theorem newV_of_zero {i j : Fin n}
    (ha : coefA C Crs i j = 0) : newV sqrt C Crs st i j = mget st.X j i := by
  simp only [newV, ha, beq_self_eq_true, if_true]

theorem newV_of_ne {i j : Fin n} (ha : coefA C Crs i j ≠ 0) :
    newV sqrt C Crs st i j
      = (-coefB C Crs st i j + sqrt (coefB C Crs st i j * coefB C Crs st i j
          - 4 * coefA C Crs i j * coefC C st i j)) / (2 * coefA C Crs i j) := by
  simp only [newV, beq_eq_false_iff_ne.2 ha, Bool.false_eq_true, if_false]

theorem newV_spec (hs : SqrtSpec sqrt)
    (hD : Data C Crs) (h : Inv st) (i j : Fin n) (ha : coefA C Crs i j ≠ 0) :
    ∃ s, 0 ≤ s ∧
      s * s = coefB C Crs st i j * coefB C Crs st i j - 4 * coefA C Crs i j * coefC C st i j ∧
      newV sqrt C Crs st i j = (-coefB C Crs st i j + s) / (2 * coefA C Crs i j) :=
  have hd := disc_nonneg (b := coefB C Crs st i j) (coefA_nonneg hD i j) (coefC_nonpos hD h i j)
  ⟨_, hs.nonneg _ hd, hs.mul_self _ hd, newV_of_ne ha⟩

theorem newV_nonneg (hs : SqrtSpec sqrt) (hD : Data C Crs) (h : Inv st) (i j : Fin n) :
    0 ≤ newV sqrt C Crs st i j := by
  by_cases ha : coefA C Crs i j = 0
  · rw [newV_of_zero ha]
    exact h.nonneg j i
  · obtain ⟨s, hs0, hsq, hv⟩ := newV_spec hs hD h i j ha
    rw [hv]
    exact root_nonneg (coefA_pos hD ha) (coefC_nonpos hD h i j) hs0 hsq

theorem newV_root (hs : SqrtSpec sqrt)
    (hD : Data C Crs) (h : Inv st) (i j : Fin n) (ha : coefA C Crs i j ≠ 0) :
    coefA C Crs i j * newV sqrt C Crs st i j * newV sqrt C Crs st i j
      + coefB C Crs st i j * newV sqrt C Crs st i j + coefC C st i j = 0 := by
  obtain ⟨s, _, hsq, hv⟩ := newV_spec hs hD h i j ha
  exact root_eq ha hsq hv

/-- the rounding guard never fires when `c ≤ 0` (i.e. never in exact arithmetic) -/
theorem guardC_of_nonpos (i j : Fin n) {c : K} (hc : c ≤ 0) :
    guardC C st i j c = c := by
  unfold guardC
  split
  · exact if_neg fun h => not_lt.2 hc h.1
  · rfl

theorem newVWith_coefC {sqrt : K → K} {C : Mat K n} {Crs : Vec K n} {st : St K n} (i j : Fin n) :
    newVWith sqrt C Crs st i j (coefC C st i j) = newV sqrt C Crs st i j := rfl

/-- the state after a pair step that writes `v` -/
def setPair (st : St K n) (i j : Fin n) (v : K) : St K n :=
  { X := mset (mset st.X i j v) j i v
    rs := vset (vset st.rs i (vget st.rs i + (v - mget st.X i j))) j
      (vget (vset st.rs i (vget st.rs i + (v - mget st.X i j))) j + (v - mget st.X j i)) }

theorem pairStep_eq {st st' : St K n}
    {i j : Fin n} (hst : pairStep sqrt C Crs st i j = .ok st') : ∃ v, st' = setPair st i j v := by
  unfold pairStep at hst
  dsimp only at hst
  split at hst
  · injection hst with hst
    exact ⟨_, hst.symm⟩
  · cases hst

theorem pairStep_ok (hD : Data C Crs) (h : Inv st) (i j : Fin n) :
    pairStep sqrt C Crs st i j = .ok (setPair st i j (newV sqrt C Crs st i j)) := by
  unfold pairStep
  simp only [guardC_of_nonpos i j (coefC_nonpos hD h i j), coefC_nonpos hD h i j, if_true,
    newVWith_coefC, setPair]

theorem setPair_X (st : St K n) (i j : Fin n) (v : K) (a b : Fin n) :
    mget (setPair st i j v).X a b
      = if (a = i ∧ b = j) ∨ (a = j ∧ b = i) then v else mget st.X a b := by
  simp only [setPair, mget_mset]
  by_cases h1 : a = j ∧ b = i
  · rw [if_pos h1, if_pos (Or.inr h1)]
  · rw [if_neg h1]
    exact if_congr ⟨Or.inl, fun h => h.resolve_right h1⟩ rfl rfl

theorem setPair_rs (st : St K n) {i j : Fin n} (hij : i ≠ j) (v : K) (a : Fin n) :
    vget (setPair st i j v).rs a
      = if a = j then vget st.rs j + (v - mget st.X j i)
        else if a = i then vget st.rs i + (v - mget st.X i j) else vget st.rs a := by
  simp only [setPair, vget_vset, hij.symm, if_false]

theorem setPair_inv (h : Inv st) {i j : Fin n} (hij : i ≠ j) {v : K}
    (hv : 0 ≤ v) : Inv (setPair st i j v) := by
  refine ⟨fun a b => ?_, fun a b => ?_, fun a => ?_⟩
  · rw [setPair_X, setPair_X, h.symm a b]
    exact if_congr (or_comm.trans (or_congr and_comm and_comm)) rfl rfl
  · rw [setPair_X]
    split
    · exact hv
    · exact h.nonneg a b
  · rw [setPair_rs st hij]
    simp only [setPair_X]
    by_cases ha : a = j
    · subst ha
      simp only [if_true, true_and, hij.symm, false_and, false_or]
      rw [sum_update_one, h.rs a]
    · by_cases ha2 : a = i
      · subst ha2
        simp only [ha, if_false, false_and, or_false, if_true, true_and]
        rw [sum_update_one, h.rs a]
      · simp only [ha, ha2, if_false, false_and, or_self]
        exact h.rs a

theorem setPair_self {i j : Fin n} (hsym : mget st.X i j = mget st.X j i)
    (hij : i ≠ j) : setPair st i j (mget st.X i j) = st := by
  refine st_ext (fun a b => ?_) (fun a => ?_)
  · rw [setPair_X]
    split
    · rename_i hab
      rcases hab with ⟨rfl, rfl⟩ | ⟨rfl, rfl⟩
      · rfl
      · exact hsym
    · rfl
  · rw [setPair_rs st hij, ← hsym, sub_self, add_zero, add_zero]
    split
    · rename_i ha; rw [ha]
    · split
      · rename_i ha; rw [ha]
      · rfl

theorem pairStep_eq_self (hD : Data C Crs) (h : Inv st) {i j : Fin n} (hij : i ≠ j)
    (hv : newV sqrt C Crs st i j = mget st.X i j) :
    pairStep sqrt C Crs st i j = .ok st := by
  rw [pairStep_ok hD h, hv, setPair_self (h.symm i j) hij]

/-- A pair step that leaves `X[i,j]` unchanged, with `a ≠ 0` ⇒ the Prinz self-consistency
equation for the pair:
`(C_ij + C_ji) · X_rs_i · X_rs_j = X_ij · (C_rs_i · X_rs_j + C_rs_j · X_rs_i)`,
i.e. `x_ij = (c_ij + c_ji) / (c_i/x_i + c_j/x_j)`. -/
theorem pair_fixed_eq (hs : SqrtSpec sqrt) (hD : Data C Crs) (h : Inv st) (i j : Fin n)
    (ha : coefA C Crs i j ≠ 0)
    (hfix : newV sqrt C Crs st i j = mget st.X i j) :
    (mget C i j + mget C j i) * vget st.rs i * vget st.rs j
      = mget st.X i j * (vget Crs i * vget st.rs j + vget Crs j * vget st.rs i) := by
  have hroot := newV_root hs hD h i j ha
  rw [hfix] at hroot
  unfold coefA coefB coefC at hroot
  -- at `v = X_ij` the quadratic `a v² + b v + c` is, as a polynomial, right side minus left side
  linear_combination -hroot

end Ens.C12P
