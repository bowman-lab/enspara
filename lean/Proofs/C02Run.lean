import Proofs.C02Loop
import Mathlib.Data.Finset.Card
import Mathlib.Order.Interval.Finset.Nat

/-! Whole calls: the checks before the loop, a successful call as a `Run` from `initState`, and the two
measures that bound the number of iterations. -/
namespace Ens.KC

theorem guard_iff (nc : Option Int) (cut : ERat) (n : Nat) (s : St) :
    guard nc cut n s = true ↔
      (∀ k, nc = some k → (s.ctrInds.length : Int) < k) ∧ toWT cut < toWT (radius n s) := by
  unfold guard
  rw [Bool.and_eq_true, ltE_iff]
  cases nc with
  | none => exact and_congr_left' ⟨fun _ _ hk => (nomatch hk), fun _ => rfl⟩
  | some k =>
    exact and_congr_left' ⟨fun h _ hk => Option.some.inj hk ▸ of_decide_eq_true h,
      fun h => decide_eq_true (h k rfl)⟩

theorem guard_false_iff (nc : Option Int) (cut : ERat) (n : Nat) (s : St) :
    guard nc cut n s = false ↔
      (∃ k, nc = some k ∧ k ≤ (s.ctrInds.length : Int)) ∨ toWT (radius n s) ≤ toWT cut := by
  rw [← Bool.not_eq_true, guard_iff, not_and_or, not_lt]
  simp only [not_forall, not_lt, exists_prop]

theorem normalise_error {nc : NCl} {cut : Cut} {e : Err} (h : normalise nc cut = .error e) :
    e = .improperlyConfigured := by
  unfold normalise at h
  split at h
  · cases h; rfl
  · split at h <;> cases h; rfl

/-- A call either fails the checks before the loop (kcenters.py L177-193, L216), with an error that
depends neither on `tri` nor on the fuel and is not `outOfFuel`, or it is the loop from `initState`
under the normalised criteria. -/
theorem kcentersFuel_cases (D : Table) (n : Nat) (cfg : Cfg) :
    (∃ e, e ≠ .outOfFuel ∧ ∀ tri fuel, kcentersFuel D n { cfg with tri := tri } fuel = .error e) ∨
    (∃ nc cut, normalise cfg.nClusters cfg.cutoff = .ok (nc, cut) ∧ 0 < n ∧ ∀ tri fuel,
      kcentersFuel D n { cfg with tri := tri } fuel =
        (loop D n tri nc cut (fuel.getD (fuelFor n nc (initState D n cfg.init)))
          (initState D n cfg.init)).map (fun p => ⟨p.1, p.2, radius n p.1⟩)) := by
  unfold kcentersFuel
  dsimp only
  cases hnorm : normalise cfg.nClusters cfg.cutoff with
  | error e => exact Or.inl ⟨e, by rw [normalise_error hnorm]; nofun, fun _ _ => rfl⟩
  | ok p =>
    obtain ⟨nc, cut⟩ := p
    dsimp only
    by_cases hrf : cfg.randomFirst = true
    · exact Or.inl ⟨.notImplemented, nofun, fun _ _ => if_pos hrf⟩
    · by_cases hn : n = 0
      · exact Or.inl ⟨.valueError, nofun, fun _ _ => by rw [if_neg hrf, if_pos hn]⟩
      · refine Or.inr ⟨nc, cut, rfl, Nat.pos_of_ne_zero hn, fun tri fuel => ?_⟩
        rw [if_neg hrf, if_neg hn]
        rcases loop D n tri nc cut _ (initState D n cfg.init) with e | ⟨sf, tr⟩ <;> rfl

theorem kcenters_run {D : Table} {n : Nat} {cfg : Cfg} {res : Result}
    (h : kcenters D n cfg = .ok res) :
    ∃ nc cut, normalise cfg.nClusters cfg.cutoff = .ok (nc, cut) ∧ 0 < n ∧
      Run D n cfg.tri nc cut (initState D n cfg.init) res.st res.trace ∧
      res.radius = radius n res.st := by
  have h' : kcentersFuel D n { cfg with tri := cfg.tri } none = .ok res := h
  rcases kcentersFuel_cases D n cfg with ⟨e, _, he⟩ | ⟨nc, cut, hnorm, hn, hl⟩
  · rw [he] at h'; cases h'
  · rw [hl] at h'
    cases hloop : loop D n cfg.tri nc cut _ (initState D n cfg.init) with
    | error e => rw [hloop] at h'; cases h'
    | ok q =>
      rw [hloop] at h'
      cases h'
      exact ⟨nc, cut, hnorm, hn, loop_ok_run _ hloop, rfl⟩

theorem loop_ne_outOfFuel_fin {D : Table} {n : Nat} {tri : Bool} {cut : ERat} (k : Int) (fuel : Nat) (s : St)
    (hf : (k - (s.ctrInds.length : Int)).toNat ≤ fuel) :
    loop D n tri (some k) cut fuel s ≠ .error .outOfFuel := by
  refine loop_ne_outOfFuel (fun s => (k - (s.ctrInds.length : Int)).toNat) ?_ ?_ fuel s hf
  · intro s hg
    exact Int.lt_toNat.mpr (Int.sub_pos_of_lt (((guard_iff _ _ _ _).mp hg).1 k rfl))
  · intro s s' hg hi
    have hlt := ((guard_iff _ _ _ _).mp hg).1 k rfl
    rw [iter_ctrInds hi, List.length_append, List.length_singleton, Nat.cast_succ]
    exact (Int.toNat_lt_toNat (Int.sub_pos_of_lt hlt)).mpr (Int.sub_lt_sub_left (Int.lt_succ_self _) k)

/-- number of frames still farther than the cutoff from every center -/
def farCount (n : Nat) (cut : ERat) (s : St) : Nat :=
  ((Finset.range n).filter (fun f => toWT cut < toWT (s.dist f))).card

theorem farCount_le (n : Nat) (cut : ERat) (s : St) : farCount n cut s ≤ n := by
  unfold farCount
  exact le_trans (Finset.card_filter_le _ _) (by simp)

theorem farCount_iterPlain {D : Table} {n : Nat} (hn : 0 < n) {q : ℚ}
    (hdiag : ∀ c, c < n → D c c ≤ q) (s : St) (hg : toWT (some q) < toWT (radius n s)) :
    farCount n (some q) (iterPlain D n s) < farCount n (some q) s := by
  unfold farCount
  apply Finset.card_lt_card
  have hc := argmaxE_lt hn s.dist
  rw [Finset.ssubset_iff_of_subset]
  · refine ⟨argmaxE n s.dist, ?_, ?_⟩
    · simp only [Finset.mem_filter, Finset.mem_range]
      exact ⟨hc, hg⟩
    · simp only [Finset.mem_filter, Finset.mem_range, not_and, not_lt]
      intro _
      unfold iterPlain
      rw [update_dist_min]
      apply le_trans (min_le_left _ _)
      simp only [toWT_some, WithTop.coe_le_coe]
      exact hdiag _ hc
  · intro f
    simp only [Finset.mem_filter, Finset.mem_range]
    rintro ⟨hf, hlt⟩
    refine ⟨hf, lt_of_lt_of_le hlt ?_⟩
    unfold iterPlain
    exact update_dist_le _ _ _ _ _

theorem loop_ne_outOfFuel_cut {D : Table} {n : Nat} (hn : 0 < n) {q : ℚ}
    (hdiag : ∀ c, c < n → D c c ≤ q) {nc : Option Int} (fuel : Nat) (s : St)
    (hf : farCount n (some q) s ≤ fuel) :
    loop D n false nc (some q) fuel s ≠ .error .outOfFuel := by
  refine loop_ne_outOfFuel (farCount n (some q)) ?_ ?_ fuel s hf
  · intro s hg
    exact Finset.card_pos.mpr ⟨argmaxE n s.dist, Finset.mem_filter.mpr
      ⟨Finset.mem_range.mpr (argmaxE_lt hn s.dist), ((guard_iff _ _ _ _).mp hg).2⟩⟩
  · intro s s' hg hi
    rw [iter_plain] at hi
    injection hi with hi
    exact hi ▸ farCount_iterPlain hn hdiag s ((guard_iff _ _ _ _).mp hg).2

end Ens.KC
