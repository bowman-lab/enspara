import Model.MpiPam
import Proofs.C01Sweep
import Proofs.C01Sized
import Proofs.C14Layout
/-!
C14, distributed PAM: one distributed step is the serial step seen through the layout.
-/
namespace Ens.MpiPam
open Ens Ens.Cluster Ens.Mpi

variable {lay : Layout} {N : Nat} {D : Table} {ms : PState} {ss : St}

theorem arr_tabulate (w : Nat) (f : Nat → Arr) (c : List (Nat × Nat)) (co : List Nat) {r : Nat}
    (hr : r < w) : (PState.mk (tabulate w f) c co).arr r = f r :=
  getD_tabulate w f _ hr

/-- the entry of a frame after the relaxations depends only on that frame's row of the table and
    on its entry before: frames `f`, `f'` with equal rows and equal entries stay equal -/
theorem assignLoop_pt {D' : Table} {n n' : Nat} (cs : List Nat) :
    ∀ (i0 : Nat) (a a' : Arr) {f f' : Nat}, f < n → f' < n' → (∀ c, D f c = D' f' c) →
      a.fresh = a'.fresh → a.dist f = a'.dist f' → a.assign f = a'.assign f' →
      (assignLoop D n cs i0 a).dist f = (assignLoop D' n' cs i0 a').dist f' ∧
      (assignLoop D n cs i0 a).assign f = (assignLoop D' n' cs i0 a').assign f' := by
  induction cs with
  | nil => intro i0 a a' f f' _ _ _ _ hd ha; exact ⟨hd, ha⟩
  | cons c cs ih =>
    intro i0 a a' f f' hf hf' hD hfr hd ha
    simp only [assignLoop]
    apply ih (i0 + 1) _ _ hf hf' hD
    · rfl
    · rw [relax_dist a _ c hf, relax_dist a' _ c hf', hfr, hd, hD c]
    · rw [relax_assign a _ c hf, relax_assign a' _ c hf', hfr, hd, ha, hD c]

theorem assignNearest_pt {D' : Table} {n n' : Nat} (cs : List Nat) {f f' : Nat} (hf : f < n)
    (hf' : f' < n') (hD : ∀ c, D f c = D' f' c) :
    (assignNearest D n cs).dist f = (assignNearest D' n' cs).dist f' ∧
    (assignNearest D n cs).assign f = (assignNearest D' n' cs).assign f' := by
  unfold assignNearest
  apply assignLoop_pt cs 0 _ _ hf hf' hD
  · rfl
  · unfold Arr.init0; rw [tab_dist _ _ _ hf, tab_dist _ _ _ hf']
  · unfold Arr.init0; rw [tab_assign _ _ _ hf, tab_assign _ _ _ hf']

/-- `ms` is the serial state `ss` dealt to the ranks of `lay`: every rank holds the distances
    and labels of its frames (arrays of exactly its local length), the medoid pairs point at
    the serial center frames, the broadcast coordinates are the serial coordinates -/
structure Striped (lay : Layout) (ms : PState) (ss : St) : Prop where
  sfresh : ss.arr.fresh = false
  mfresh : ∀ r, r < lay.w → (ms.arr r).fresh = false
  sizeD : ∀ r, r < lay.w → (ms.arr r).distA.size = lay.m r
  sizeA : ∀ r, r < lay.w → (ms.arr r).assignA.size = lay.m r
  dist : ∀ r i, r < lay.w → i < lay.m r → (ms.arr r).dist i = ss.arr.dist (lay.X r i)
  assign : ∀ r i, r < lay.w → i < lay.m r → (ms.arr r).assign i = ss.arr.assign (lay.X r i)
  ctrs : ms.ctrs.map (fun p => lay.X p.1 p.2) = ss.ctrInds
  valid : ∀ p ∈ ms.ctrs, p.1 < lay.w ∧ p.2 < lay.m p.1
  coords : ms.coords = ss.ctrFrames

theorem Striped.resetFrames (hr : Striped lay ms ss) :
    Striped lay { ms with coords := ss.ctrInds } { ss with ctrFrames := ss.ctrInds } :=
  { sfresh := hr.sfresh, mfresh := hr.mfresh, sizeD := hr.sizeD, sizeA := hr.sizeA, dist := hr.dist,
    assign := hr.assign, ctrs := hr.ctrs, valid := hr.valid, coords := rfl }

theorem Striped.len_ctrs (hr : Striped lay ms ss) :
    ms.ctrs.length = ss.ctrInds.length := by
  rw [← hr.ctrs, List.length_map]

theorem Striped.inds_lt (hb : LayoutBij lay N) (hr : Striped lay ms ss) : ∀ c ∈ ss.ctrInds, c < N := by
  intro c hc
  rw [← hr.ctrs] at hc
  obtain ⟨p, hp, rfl⟩ := List.mem_map.mp hc
  exact hb.lt _ _ (hr.valid p hp).1 (hr.valid p hp).2

/-- the global mean of a per-frame quantity is what `striped_array_mean` computes on the layout -/
def MeanOK (lay : Layout) (N : Nat) : Prop :=
  ∀ f : Nat → Rat, stripedMean lay.w (fun r => tabulate (lay.m r) (fun i => f (lay.X r i))) =
    .ok (sumTo N f / (N : Rat))

theorem localData_getElem? (lay : Layout) (r i : Nat) :
    (localData lay r)[i]? = if i < lay.m r then some (lay.X r i) else none :=
  getElem?_tabulate _ _ i

theorem distributeFrame_ok {β : Type} {w : Nat} {data : Nat → List β} {idx owner : Nat} {y : β}
    (h : distributeFrame w data idx owner = .ok y) : owner < w ∧ (data owner)[idx]? = some y := by
  unfold distributeFrame at h
  by_cases h1 : w ≤ owner
  · simp [h1] at h
  · simp only [h1, if_false] at h
    split at h
    · cases h
    · split at h
      · rename_i f hf
        injection h with h; subst h
        exact ⟨by omega, hf⟩
      · cases h

/-- whenever the broadcast succeeds the pair is a frame of its owner, and the frame received
    is that frame (no hypothesis on the layout) -/
theorem distribute_ok {p : Nat × Nat} {y : Nat} (h : distribute lay p = .ok y) :
    p.1 < lay.w ∧ p.2 < lay.m p.1 ∧ y = lay.X p.1 p.2 := by
  unfold distribute at h
  cases hdf : distributeFrame lay.w (localData lay) p.2 p.1 with
  | error e => rw [hdf] at h; cases h
  | ok y' =>
    rw [hdf] at h
    injection h with h; subst h
    obtain ⟨h1, hf⟩ := distributeFrame_ok hdf
    rw [localData_getElem?] at hf
    by_cases h2 : p.2 < lay.m p.1
    · rw [if_pos h2] at hf; injection hf with hf
      exact ⟨h1, h2, hf.symm⟩
    · rw [if_neg h2] at hf; cases hf

theorem distribute_of_valid (hb : LayoutBij lay N) {p : Nat × Nat}
    (h1 : p.1 < lay.w) (h2 : p.2 < lay.m p.1) : distribute lay p = .ok (lay.X p.1 p.2) := by
  unfold distribute distributeFrame
  have hn : ¬ lay.w ≤ p.1 := by omega
  have he : firstErr lay.w (fun r => if r ≠ p.1 ∧ (localData lay r).isEmpty then some Mpi.Err.indexError else none) = none := by
    rw [firstErr_eq_none]
    intro r hr
    have := hb.nonempty r hr
    have hne : (localData lay r).isEmpty = false :=
      List.isEmpty_eq_false_iff.mpr (List.ne_nil_of_length_pos (by rw [localData, length_tabulate]; exact this))
    simp [hne]
  simp only [hn, if_false, he, localData_getElem?, if_pos h2]

theorem rankCand_dist (hb : LayoutBij lay N) (D : Table)
    (hr : Striped lay ms ss) (cid y : Nat) {r i : Nat} (h1 : r < lay.w) (h2 : i < lay.m r) :
    (rankCandidate lay D ms r cid y).dist i = (pamCandidate D N ss cid y).arr.dist (lay.X r i) ∧
    (rankCandidate lay D ms r cid y).assign i = (pamCandidate D N ss cid y).arr.assign (lay.X r i) := by
  have hx := hb.lt r i h1 h2
  unfold rankCandidate
  rw [cand_dist _ _ cid y h2, cand_assign _ _ cid y h2, cand_dist D ss cid y hx, cand_assign D ss cid y hx]
  simp only [hr.dist r i h1 h2, hr.assign r i h1 h2, hr.coords]
  obtain ⟨e1, e2⟩ := assignNearest_pt (D := locD lay D r) (D' := D) (n := lay.m r) (n' := N)
    (ss.ctrFrames.set cid y) h2 hx (fun c => rfl)
  rw [e1, e2]
  exact ⟨rfl, rfl⟩

theorem rankCand_sizes (lay : Layout) (D : Table) (ms : PState) (r cid y : Nat) :
    (rankCandidate lay D ms r cid y).fresh = false ∧ Sized (lay.m r) (rankCandidate lay D ms r cid y) :=
  ⟨rfl, Sized.tab _ _ _ _⟩

theorem Striped.of_tabulate {f : Nat → Arr} {ctrs : List (Nat × Nat)} {coords : List Nat}
    (hfr : ss.arr.fresh = false)
    (h : ∀ r, r < lay.w → (f r).fresh = false ∧ Sized (lay.m r) (f r) ∧
      ∀ i, i < lay.m r → (f r).dist i = ss.arr.dist (lay.X r i) ∧ (f r).assign i = ss.arr.assign (lay.X r i))
    (hc : ctrs.map (fun p => lay.X p.1 p.2) = ss.ctrInds) (hv : ∀ p ∈ ctrs, p.1 < lay.w ∧ p.2 < lay.m p.1)
    (hco : coords = ss.ctrFrames) : Striped lay ⟨tabulate lay.w f, ctrs, coords⟩ ss where
  sfresh := hfr
  mfresh := fun r hr => by rw [arr_tabulate _ _ _ _ hr]; exact (h r hr).1
  sizeD := fun r hr => by rw [arr_tabulate _ _ _ _ hr]; exact (h r hr).2.1.1
  sizeA := fun r hr => by rw [arr_tabulate _ _ _ _ hr]; exact (h r hr).2.1.2
  dist := fun r i hr hi => by rw [arr_tabulate _ _ _ _ hr]; exact ((h r hr).2.2 i hi).1
  assign := fun r i hr hi => by rw [arr_tabulate _ _ _ _ hr]; exact ((h r hr).2.2 i hi).2
  ctrs := hc
  valid := hv
  coords := hco

theorem cand_striped (hb : LayoutBij lay N) (D : Table)
    (hr : Striped lay ms ss) (cid : Nat) {p : Nat × Nat} (h1 : p.1 < lay.w) (h2 : p.2 < lay.m p.1) :
    Striped lay
      { arrs := tabulate lay.w (fun r => rankCandidate lay D ms r cid (lay.X p.1 p.2))
        ctrs := ms.ctrs.set cid p
        coords := ms.coords.set cid (lay.X p.1 p.2) }
      (pamCandidate D N ss cid (lay.X p.1 p.2)) := by
  refine Striped.of_tabulate rfl (fun r hr' => ?_) ?_ ?_ (by rw [hr.coords]; rfl)
  · obtain ⟨a, b⟩ := rankCand_sizes lay D ms r cid (lay.X p.1 p.2)
    exact ⟨a, b, fun i hi => rankCand_dist hb D hr cid _ hr' hi⟩
  · show (ms.ctrs.set cid p).map (fun p => lay.X p.1 p.2) = ss.ctrInds.set cid (lay.X p.1 p.2)
    rw [List.map_set, hr.ctrs]
  · intro q hq
    rcases List.mem_or_eq_of_mem_set hq with h | h
    · exact hr.valid q h
    · subst h; exact ⟨h1, h2⟩

theorem mpiCost_eq (hb : LayoutBij lay N) (hm : MeanOK lay N) (arr : Nat → Arr) (d : Nat → Rat)
    (h : ∀ r i, r < lay.w → i < lay.m r → (arr r).dist i = d (lay.X r i)) :
    mpiCost lay arr = .ok (cost N d) := by
  have e : stripedMean lay.w (fun r => tabulate (lay.m r) (fun i => (arr r).dist i * (arr r).dist i)) =
      .ok (cost N d) := by
    rw [stripedMean_congr lay.w hb.wpos _ (fun r => tabulate (lay.m r) (fun i => d (lay.X r i) * d (lay.X r i)))]
    · exact hm (fun g => d g * d g)
    · intro r hr
      exact tabulate_congr fun i hi => by rw [h r i hr hi]
  unfold mpiCost
  rw [e]

theorem assert_iff (hb : LayoutBij lay N) (arr : Nat → Arr) (a : Arr)
    (hd : ∀ r i, r < lay.w → i < lay.m r → (arr r).dist i = a.dist (lay.X r i))
    (ha : ∀ r i, r < lay.w → i < lay.m r → (arr r).assign i = a.assign (lay.X r i)) :
    ((List.range lay.w).any (fun r => (List.range (lay.m r)).any fun i =>
        decide ((arr r).assign i < 0) || decide ((arr r).dist i < 0))) =
    ((List.range N).any (fun f => decide (a.assign f < 0) || decide (a.dist f < 0))) := by
  rw [Bool.eq_iff_iff]
  simp only [List.any_eq_true, List.mem_range]
  constructor
  · rintro ⟨r, hr, i, hi, h⟩
    refine ⟨lay.X r i, hb.lt r i hr hi, ?_⟩
    rw [← hd r i hr hi, ← ha r i hr hi]; exact h
  · rintro ⟨f, hf, h⟩
    obtain ⟨r, i, hr, hi, hx⟩ := hb.surj f hf
    refine ⟨r, hr, i, hi, ?_⟩
    rw [hd r i hr hi, ha r i hr hi, hx]; exact h

/-- One distributed PAM step on a striped state, for a proposal that is a frame of its owner:
    either both the distributed and the serial step (on the proposal's global frame) succeed,
    with the same costs and the same decision, and the resulting states are again striped
    views of each other; or both trip the assert. -/
theorem step_refines {lay : Layout} {N : Nat} (hb : LayoutBij lay N) (hm : MeanOK lay N) (D : Table)
    {ms : PState} {ss : St} (hr : Striped lay ms ss) (cid : Nat) {p : Nat × Nat}
    (h1 : p.1 < lay.w) (h2 : p.2 < lay.m p.1) :
    (∃ mst sst, mpiPamStep lay D ms cid p = .ok mst ∧ pamStep D N ss cid (lay.X p.1 p.2) = .ok sst ∧
        mst.cid = cid ∧ mst.p = p ∧ mst.y = lay.X p.1 p.2 ∧
        mst.oldCost = sst.oldCost ∧ mst.newCost = sst.newCost ∧ mst.acc = sst.acc ∧
        Striped lay mst.after sst.after) ∨
    (mpiPamStep lay D ms cid p = .error (.mpi .assertion) ∧
        pamStep D N ss cid (lay.X p.1 p.2) = .error .assertion) := by
  have hc := cand_striped hb D hr cid h1 h2
  have hassert := assert_iff hb _ _ hc.dist hc.assign
  have hold := mpiCost_eq hb hm ms.arr ss.arr.dist hr.dist
  have hnew := mpiCost_eq hb hm _ _ hc.dist
  unfold mpiPamStep pamStep
  rw [distribute_of_valid hb h1 h2]
  simp only []
  rw [hassert]
  by_cases ha : ((List.range N).any fun f =>
      decide ((pamCandidate D N ss cid (lay.X p.1 p.2)).arr.assign f < 0) ||
        decide ((pamCandidate D N ss cid (lay.X p.1 p.2)).arr.dist f < 0)) = true
  · right
    rw [if_pos ha, if_pos ha]
    exact ⟨rfl, rfl⟩
  · left
    rw [if_neg ha, if_neg ha, hold, hnew]
    refine ⟨_, _, rfl, rfl, rfl, rfl, rfl, rfl, rfl, rfl, ?_⟩
    simp only []
    by_cases hacc : cost N (pamCandidate D N ss cid (lay.X p.1 p.2)).arr.dist < cost N ss.arr.dist
    · simp only [hacc, decide_true, if_true]; exact hc
    · simp only [hacc, decide_false]; exact hr

end Ens.MpiPam
