import Proofs.C18Bridge
/-!
`kl_divergence`: the result of a successful call in closed form; the value of the term list is
`Σ p log (p/q)` over the pairs of the two vectors; non-negativity and the equality case.
-/
namespace Ens.InfoR
open Finset Ens Ens.Info

theorem ratSum_eq_sum (l : List ℚ) : ratSum l = l.sum := List.sum_eq_foldl.symm

theorem klTerms_ok (P Q : List ℚ) (r : KL) (h : klTerms P Q = .ok r) :
    P.length = Q.length ∧ (∀ p ∈ P, 0 ≤ p) ∧ (∀ q ∈ Q, 0 ≤ q) ∧
    r = if (P.zip Q).any (fun x => decide (x.1 > 0 ∧ x.2 = 0)) then .inf
        else .terms ((P.zip Q).filterMap fun x => if x.1 > 0 then some (x.1, x.1 / x.2) else none) := by
  unfold klTerms at h
  obtain ⟨h1, h⟩ := ite_not_error_eq_ok.1 h
  obtain ⟨h2, h⟩ := ite_error_eq_ok.1 h
  refine ⟨h1, ?_, ?_, ?_⟩
  · exact fun p hp => not_lt.1 fun hlt => h2 (Or.inl (List.any_eq_true.2 ⟨p, hp, decide_eq_true hlt⟩))
  · exact fun q hq => not_lt.1 fun hlt => h2 (Or.inr (List.any_eq_true.2 ⟨q, hq, decide_eq_true hlt⟩))
  · exact (Except.ok.inj ((apply_ite Except.ok _ _ _).trans h)).symm

theorem klTerms_terms (P Q : List ℚ) (ts : List Term) (h : klTerms P Q = .ok (.terms ts)) :
    (∀ x ∈ P.zip Q, 0 < x.1 → x.2 ≠ 0) ∧
    ts = (P.zip Q).filterMap fun x => if x.1 > 0 then some (x.1, x.1 / x.2) else none := by
  have hr := (klTerms_ok P Q _ h).2.2.2
  split at hr
  · cases hr
  · next h3 =>
    exact ⟨fun x hx hpos h0 => h3 (List.any_eq_true.2 ⟨x, hx, decide_eq_true ⟨hpos, h0⟩⟩), by injection hr⟩

theorem kl_member (P Q : List ℚ) (ts : List Term) (h : klTerms P Q = .ok (.terms ts)) (x : ℚ × ℚ)
    (hx : x ∈ P.zip Q) : (0 : ℝ) ≤ x.1 ∧ (0 : ℝ) ≤ x.2 ∧ ((0 : ℝ) < x.1 → (0 : ℝ) < x.2) := by
  obtain ⟨_, hP, hQ, _⟩ := klTerms_ok P Q _ h
  obtain ⟨hac, _⟩ := klTerms_terms P Q ts h
  have hq := hQ x.2 (List.of_mem_zip hx).2
  refine ⟨Rat.cast_nonneg.2 (hP x.1 (List.of_mem_zip hx).1), Rat.cast_nonneg.2 hq, fun hpos => ?_⟩
  exact Rat.cast_pos.2 (lt_of_le_of_ne hq (Ne.symm (hac x hx (Rat.cast_pos.1 hpos))))

theorem termsVal_klList (l : List (ℚ × ℚ)) (h0 : ∀ x ∈ l, 0 ≤ x.1) :
    termsVal (l.filterMap fun x => if x.1 > 0 then some (x.1, x.1 / x.2) else none)
      = (l.map fun x => (x.1 : ℝ) * Real.log ((x.1 : ℝ) / (x.2 : ℝ))).sum := by
  induction l with
  | nil => simp [termsVal]
  | cons x xs ih =>
    have ih' := ih (fun y hy => h0 y (List.mem_cons_of_mem _ hy))
    have hx := h0 x List.mem_cons_self
    unfold termsVal at ih' ⊢
    by_cases hpos : x.1 > 0
    · simp only [List.filterMap_cons, hpos, if_true, List.map_cons, List.sum_cons, ih']
      simp [termVal, Rat.cast_div]
    · have : x.1 = 0 := le_antisymm (not_lt.1 hpos) hx
      simp only [List.filterMap_cons, hpos, if_false, List.map_cons, List.sum_cons, ih']
      simp [this]

theorem klTerms_val (P Q : List ℚ) (ts : List Term) (h : klTerms P Q = .ok (.terms ts)) :
    termsVal ts = ((P.zip Q).map fun x => (x.1 : ℝ) * Real.log ((x.1 : ℝ) / (x.2 : ℝ))).sum := by
  obtain ⟨_, hP, _⟩ := klTerms_ok P Q _ h
  obtain ⟨_, rfl⟩ := klTerms_terms P Q ts h
  exact termsVal_klList _ fun x hx => hP x.1 (List.of_mem_zip hx).1

theorem sum_cast_map {β : Type} (l : List β) (g : β → ℚ) :
    (l.map fun x => ((g x : ℚ) : ℝ)).sum = ((ratSum (l.map g) : ℚ) : ℝ) := by
  rw [ratSum_eq_sum, Rat.cast_list_sum, List.map_map]
  rfl

theorem sum_zip (P Q : List ℚ) (hl : P.length = Q.length) :
    ((P.zip Q).map fun x => (x.1 : ℝ)).sum = ((ratSum P : ℚ) : ℝ) ∧
    ((P.zip Q).map fun x => (x.2 : ℝ)).sum = ((ratSum Q : ℚ) : ℝ) := by
  rw [sum_cast_map _ Prod.fst, sum_cast_map _ Prod.snd, List.map_fst_zip (by omega),
    List.map_snd_zip (by omega)]
  exact ⟨rfl, rfl⟩

theorem kl_nonneg_core (P Q : List ℚ) (ts : List Term) (h : klTerms P Q = .ok (.terms ts))
    (hsum : ratSum Q ≤ ratSum P) : 0 ≤ termsVal ts := by
  obtain ⟨hl, _⟩ := klTerms_ok P Q _ h
  have := klList_ge (P.zip Q) (fun x => (x.1 : ℝ)) (fun x => (x.2 : ℝ)) (kl_member P Q ts h)
  rw [(sum_zip P Q hl).1, (sum_zip P Q hl).2] at this
  rw [klTerms_val P Q ts h]
  exact le_trans (sub_nonneg.2 (Rat.cast_le.2 hsum)) this

theorem kl_eq_zero_iff_core (P Q : List ℚ) (ts : List Term) (h : klTerms P Q = .ok (.terms ts))
    (hsum : ratSum Q = ratSum P) : termsVal ts = 0 ↔ P = Q := by
  obtain ⟨hl, _⟩ := klTerms_ok P Q _ h
  have := klList_eq_iff (P.zip Q) (fun x => (x.1 : ℝ)) (fun x => (x.2 : ℝ)) (kl_member P Q ts h)
  rw [(sum_zip P Q hl).1, (sum_zip P Q hl).2, hsum, sub_self] at this
  rw [klTerms_val P Q ts h, this]
  constructor
  · intro hall
    apply List.ext_getElem hl
    intro i h1 h2
    have hi : i < (P.zip Q).length := by rw [List.length_zip]; omega
    have := hall _ (List.getElem_mem hi)
    rw [List.getElem_zip] at this
    exact Rat.cast_injective this
  · rintro rfl x hx
    rw [(mem_zip_self.1 hx).1]

end Ens.InfoR
