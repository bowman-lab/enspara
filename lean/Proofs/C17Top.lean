/- C17 helper: invariants of the `top_path` search loop. -/
import Proofs.C17Sum

namespace Ens.Paths
open Ens

/-- number of visited states `< n` -/
def nvis (n : Nat) (vis : Nat → Bool) : Nat := sumTo n (fun i => if vis i = true then 1 else 0)

theorem nvis_le (n : Nat) (vis : Nat → Bool) : nvis n vis ≤ n :=
  Nat.le_trans (sumTo_le_mul n 1 _ fun i _ => by split <;> decide) (Nat.le_of_eq (Nat.mul_one n))

/-- edges of a walk are positive -/
def Adj (F : Nat → Nat → Nat) : List Nat → Prop
  | a :: b :: t => 0 < F a b ∧ Adj F (b :: t)
  | _ => True

/-- bottleneck of a walk: minimum flux over its edges (`+inf` for a single state) -/
def bneck (F : Nat → Nat → Nat) : List Nat → Ext
  | a :: b :: t => min (Ext.fin (F a b)) (bneck F (b :: t))
  | _ => Ext.pinf

/-- state after `queue.pop(argmax)` and `visited[u] = True` -/
def popSt (st : St) (k u : Nat) : St :=
  { st with queue := st.queue.eraseIdx k, visited := fun x => if x = u then true else st.visited x }

/-- state after the relaxation of the edges leaving `u` -/
def relaxSt (n : Nat) (F : Nat → Nat → Nat) (st : St) (k u : Nat) : St :=
  let visited : Nat → Bool := fun x => if x = u then true else st.visited x
  let ind := improved n F visited st.lab u
  { queue := st.queue.eraseIdx k ++ ind
    visited := visited
    prev := fun j => if ind.contains j then some u else st.prev j
    lab := fun j => if ind.contains j then relax (F u j) (st.lab u) else st.lab j }

theorem loop_succ (n : Nat) (F : Nat → Nat → Nat) (T : List Nat) (fuel : Nat) (st : St) :
    loop n F T (fuel + 1) st =
      match best st.lab st.queue with
      | none => some st
      | some (k, u) =>
        if T.all (popSt st k u).visited then some (popSt st k u)
        else if neighbors n F u = [] then loop n F T fuel (popSt st k u)
        else loop n F T fuel (relaxSt n F st k u) := rfl

section
variable (n : Nat) (F : Nat → Nat → Nat) (S : List Nat)

/-- holds of every state of the search, also after the early exit.  `rank`: visited states are
numbered in visiting order and every unvisited state carries the next number; back pointers go down in
rank, so the chain of back pointers is simple and has at most `n + 1` states -/
structure InvW (st : St) : Prop where
  vis_lt : ∀ v, st.visited v = true → v < n
  prev_spec : ∀ v u, st.prev v = some u →
    st.visited u = true ∧ 0 < F u v ∧ st.lab v = relax (F u v) (st.lab u) ∧ v ∉ S ∧ v < n
  src_lab : ∀ v, v ∈ S → st.lab v = Ext.pinf
  none_lab : ∀ v, st.prev v = none → v ∉ S → st.lab v = Ext.ninf
  rank : ∃ rank : Nat → Nat,
    (∀ v, st.visited v = true → rank v < nvis n st.visited) ∧
    (∀ v, st.visited v = false → rank v = nvis n st.visited) ∧
    (∀ v u, st.prev v = some u → rank u < rank v)
  vis_lab : ∀ v, st.visited v = true → st.lab v ≠ Ext.ninf

/-- holds while the search goes on: labelled unvisited states are queued, visited labels dominate
unvisited ones, edges out of visited states are relaxed -/
structure InvS (st : St) : Prop extends InvW n F S st where
  q_lt : ∀ z ∈ st.queue, z < n ∧ st.lab z ≠ Ext.ninf
  q_mem : ∀ z, st.visited z = false → st.lab z ≠ Ext.ninf → z ∈ st.queue
  mono : ∀ y z, st.visited y = true → st.visited z = false → st.lab z ≤ st.lab y
  fix : ∀ x y, st.visited x = true → y < n → 0 < F x y → relax (F x y) (st.lab x) ≤ st.lab y

variable {n F S}

theorem InvW.set_queue {st : St} (h : InvW n F S st) (q : List Nat) :
    InvW n F S { st with queue := q } :=
  ⟨h.vis_lt, h.prev_spec, h.src_lab, h.none_lab, h.rank, h.vis_lab⟩

theorem mem_improved (vis : Nat → Bool) (lab : Nat → Ext) (u j : Nat) :
    j ∈ improved n F vis lab u ↔
      j < n ∧ 0 < F u j ∧ vis j = false ∧ lab j < relax (F u j) (lab u) := by
  simp only [improved, neighbors, List.mem_filter, List.mem_range, Bool.and_eq_true,
    Bool.not_eq_eq_eq_not, Bool.not_true, decide_eq_true_eq]
  constructor
  · rintro ⟨⟨a, b⟩, c, d⟩; exact ⟨a, b, c, d⟩
  · rintro ⟨a, b, c, d⟩; exact ⟨⟨a, b⟩, c, d⟩

theorem improved_length_le (vis : Nat → Bool) (lab : Nat → Ext) (u : Nat) :
    (improved n F vis lab u).length ≤ n := by
  unfold improved neighbors
  calc _ ≤ ((List.range n).filter _).length := List.length_filter_le _ _
    _ ≤ (List.range n).length := List.length_filter_le _ _
    _ = n := List.length_range

theorem improved_stale {st : St} (h : InvS n F S st) (u : Nat) (hu : st.visited u = true)
    (vis : Nat → Bool) : improved n F vis st.lab u = [] := by
  apply List.eq_nil_iff_forall_not_mem.2
  intro j hj
  have hj' := (mem_improved vis st.lab u j).1 hj
  exact absurd hj'.2.2.2 (not_lt.2 (h.fix u j hu hj'.1 hj'.2.1))

theorem nvis_fresh (st : St) (u : Nat) (hun : u < n) (hu : st.visited u = false) :
    nvis n (fun x => if x = u then true else st.visited x) = nvis n st.visited + 1 := by
  have := sumTo_update n (fun i => if st.visited i = true then 1 else 0)
    (fun i => if (if i = u then true else st.visited i) = true then 1 else 0) u hun
    (fun i _ hne => by rw [if_neg hne])
  rw [if_pos rfl, if_pos rfl, hu, if_neg Bool.false_ne_true] at this
  exact this

theorem visit_stale (vis : Nat → Bool) (u : Nat) (hu : vis u = true) :
    (fun x => if x = u then true else vis x) = vis :=
  funext fun x => by
    split
    · next e => rw [e, hu]
    · rfl

theorem popSt_visited (st : St) (k u x : Nat) :
    (popSt st k u).visited x = true ↔ x = u ∨ st.visited x = true := by
  show (if x = u then true else st.visited x) = true ↔ _
  split
  · next e => exact ⟨fun _ => Or.inl e, fun _ => rfl⟩
  · next e => exact ⟨Or.inr, fun h => h.resolve_left e⟩

theorem popSt_invW {st : St} (h : InvS n F S st) (k u : Nat) (hu : u ∈ st.queue) :
    InvW n F S (popSt st k u) := by
  cases hvu : st.visited u with
  | true =>
    rw [popSt, visit_stale _ u hvu]
    exact h.toInvW.set_queue _
  | false =>
    have hun := (h.q_lt u hu).1
    have hvis := popSt_visited st k u
    have hnv : nvis n (popSt st k u).visited = nvis n st.visited + 1 := nvis_fresh st u hun hvu
    obtain ⟨rank, r1, r2, r3⟩ := h.rank
    refine ⟨fun v hv => ((hvis v).1 hv).elim (fun e => e ▸ hun) (h.vis_lt v),
      fun v w hp => ⟨(hvis w).2 (Or.inr (h.prev_spec v w hp).1), (h.prev_spec v w hp).2⟩,
      h.src_lab, h.none_lab, ?_,
      fun v hv => ((hvis v).1 hv).elim (fun e => e ▸ (h.q_lt u hu).2) (h.vis_lab v)⟩
    -- `u` keeps the rank it had as an unvisited state, the other unvisited states move one up
    refine ⟨fun x => if (popSt st k u).visited x = true then rank x else nvis n st.visited + 1,
      fun v hv => ?_, fun v hv => ?_, fun v w hp => ?_⟩
    · show (if (popSt st k u).visited v = true then rank v else _) < _
      rw [if_pos hv, hnv]
      rcases (hvis v).1 hv with rfl | hv'
      · rw [r2 v hvu]; exact Nat.lt_succ_self _
      · exact Nat.lt_succ_of_lt (r1 v hv')
    · show (if (popSt st k u).visited v = true then rank v else _) = _
      rw [if_neg (hv ▸ Bool.false_ne_true), hnv]
    · have hw := (h.prev_spec v w hp).1
      show (if (popSt st k u).visited w = true then rank w else _) <
        (if (popSt st k u).visited v = true then rank v else _)
      rw [if_pos ((hvis w).2 (Or.inr hw))]
      split
      · exact r3 v w hp
      · exact Nat.lt_succ_of_lt (r1 w hw)

theorem pop_facts {st : St} (h : InvS n F S st) (k u : Nat)
    (hb : best st.lab st.queue = some (k, u)) :
    u ∈ st.queue ∧ u < n ∧ st.lab u ≠ Ext.ninf ∧
      (∀ z, z ∈ st.queue → z ≠ u → z ∈ st.queue.eraseIdx k) := by
  have hu := best_mem st.lab st.queue k u hb
  refine ⟨hu, (h.q_lt u hu).1, (h.q_lt u hu).2, fun z hz hne => ?_⟩
  obtain ⟨i, hi, rfl⟩ := List.getElem_of_mem hz
  refine List.mem_eraseIdx_iff_getElem.2 ⟨i, hi, fun hik => ?_, rfl⟩
  subst hik
  have := (best_spec st.lab st.queue i u hb).1
  rw [List.getElem?_eq_getElem hi] at this
  exact hne (Option.some.inj this)

theorem pop_max {st : St} (h : InvS n F S st) (k u : Nat)
    (hb : best st.lab st.queue = some (k, u)) (z : Nat) (hz : st.visited z = false) :
    st.lab z ≤ st.lab u := by
  by_cases hl : st.lab z = Ext.ninf
  · rw [hl]; exact Ext.ninf_le _
  · exact (best_spec st.lab st.queue k u hb).2 z (h.q_mem z hz hl)

theorem relaxSt_stale {st : St} (h : InvS n F S st) (k u : Nat) (hvu : st.visited u = true) :
    relaxSt n F st k u = { st with queue := st.queue.eraseIdx k } := by
  simp only [relaxSt, visit_stale _ u hvu, improved_stale h u hvu, List.append_nil,
    List.contains_nil, Bool.false_eq_true, if_false]

theorem relaxSt_invS {st : St} (h : InvS n F S st) (k u : Nat)
    (hb : best st.lab st.queue = some (k, u)) : InvS n F S (relaxSt n F st k u) := by
  obtain ⟨hu, hun, hul, hq⟩ := pop_facts h k u hb
  cases hvu : st.visited u with
  | true =>
    rw [relaxSt_stale h k u hvu]
    exact { toInvW := h.toInvW.set_queue _
            q_lt := fun z hz => h.q_lt z (List.mem_of_mem_eraseIdx hz)
            q_mem := fun z hz hl => hq z (h.q_mem z hz hl) fun e => by
              rw [e, hvu] at hz; cases hz
            mono := h.mono
            fix := h.fix }
  | false =>
  have hmax := pop_max h k u hb
  have hW := popSt_invW h k u hu
  let vis' : Nat → Bool := fun x => if x = u then true else st.visited x
  let ind := improved n F vis' st.lab u
  have hvis' : ∀ x, vis' x = true ↔ x = u ∨ st.visited x = true := popSt_visited st k u
  have hvisu : vis' u = true := (hvis' u).2 (Or.inl rfl)
  have hunvis : ∀ z, vis' z = false → st.visited z = false := fun z hz => by
    cases hc : st.visited z with
    | false => rfl
    | true => rw [(hvis' z).2 (Or.inr hc)] at hz; cases hz
  have hind : ∀ j, j ∈ ind ↔ j < n ∧ 0 < F u j ∧ vis' j = false ∧
      st.lab j < relax (F u j) (st.lab u) := fun j => mem_improved vis' st.lab u j
  have hnv : ∀ x, vis' x = true → x ∉ ind := fun x hx hmem =>
    Bool.false_ne_true (((hind x).1 hmem).2.2.1.symm.trans hx)
  have hlab : ∀ j, (relaxSt n F st k u).lab j =
      if j ∈ ind then relax (F u j) (st.lab u) else st.lab j := by
    intro j; simp only [relaxSt, List.contains_iff_mem]; rfl
  have hprev : ∀ j, (relaxSt n F st k u).prev j = if j ∈ ind then some u else st.prev j := by
    intro j; simp only [relaxSt, List.contains_iff_mem]; rfl
  have hvisE : (relaxSt n F st k u).visited = vis' := rfl
  have hqE : (relaxSt n F st k u).queue = st.queue.eraseIdx k ++ ind := rfl
  have hlab_vis : ∀ x, vis' x = true → (relaxSt n F st k u).lab x = st.lab x := fun x hx => by
    rw [hlab, if_neg (hnv x hx)]
  have hlab_ge : ∀ x, st.lab x ≤ (relaxSt n F st k u).lab x := fun x => by
    rw [hlab]; split
    · next hx => exact le_of_lt ((hind x).1 hx).2.2.2
    · exact le_refl _
  have hsrc_ind : ∀ v, v ∈ S → v ∉ ind := fun v hv hvi =>
    Ext.not_pinf_lt _ (h.src_lab v hv ▸ ((hind v).1 hvi).2.2.2)
  refine { vis_lt := hW.vis_lt, prev_spec := ?_, src_lab := ?_, none_lab := ?_, rank := ?_,
           q_lt := ?_, q_mem := ?_, mono := ?_, fix := ?_, vis_lab := ?_ }
  · intro v w hp
    rw [hprev] at hp
    rw [hvisE]
    by_cases hv : v ∈ ind
    · rw [if_pos hv] at hp
      cases hp
      have hv' := (hind v).1 hv
      refine ⟨hvisu, hv'.2.1, ?_, fun hs => hsrc_ind v hs hv, hv'.1⟩
      rw [hlab, if_pos hv, hlab_vis u hvisu]
    · rw [if_neg hv] at hp
      obtain ⟨h1, h2, h3, h4, h5⟩ := hW.prev_spec v w hp
      refine ⟨h1, h2, ?_, h4, h5⟩
      rw [hlab, if_neg hv, hlab_vis w h1]
      exact h3
  · intro v hv
    rw [hlab, if_neg (hsrc_ind v hv)]
    exact h.src_lab v hv
  · intro v hp hs
    rw [hprev] at hp
    by_cases hv : v ∈ ind
    · rw [if_pos hv] at hp; cases hp
    · rw [if_neg hv] at hp
      rw [hlab, if_neg hv]
      exact h.none_lab v hp hs
  · obtain ⟨rank, r1, r2, r3⟩ := hW.rank
    refine ⟨rank, r1, r2, fun v w hp => ?_⟩
    rw [hprev] at hp
    by_cases hv : v ∈ ind
    · rw [if_pos hv] at hp
      cases hp
      exact r2 v ((hind v).1 hv).2.2.1 ▸ r1 u hvisu
    · rw [if_neg hv] at hp
      exact r3 v w hp
  · intro v hv
    rw [hvisE] at hv
    rw [hlab_vis v hv]
    exact ((hvis' v).1 hv).elim (fun e => e ▸ hul) (h.vis_lab v)
  · intro z hz
    rw [hqE, List.mem_append] at hz
    rcases hz with hz | hz
    · have := h.q_lt z (List.mem_of_mem_eraseIdx hz)
      exact ⟨this.1, fun he => this.2 ((Ext.le_ninf_iff _).1 (he ▸ hlab_ge z))⟩
    · refine ⟨((hind z).1 hz).1, ?_⟩
      rw [hlab, if_pos hz]
      exact relax_ne_ninf _ _ hul
  · intro z hz hl
    rw [hvisE] at hz
    rw [hqE, List.mem_append]
    by_cases hzi : z ∈ ind
    · exact Or.inr hzi
    · rw [hlab, if_neg hzi] at hl
      exact Or.inl (hq z (h.q_mem z (hunvis z hz) hl) fun e => by rw [e, hvisu] at hz; cases hz)
  · intro y z hy hz
    rw [hvisE] at hy hz
    rw [hlab_vis y hy, hlab]
    have huy : st.lab u ≤ st.lab y :=
      ((hvis' y).1 hy).elim (fun e => e ▸ le_refl _) fun hyv => h.mono y u hyv hvu
    split
    · exact le_trans (relax_le_left _ _) huy
    · exact ((hvis' y).1 hy).elim (fun e => e ▸ hmax z (hunvis z hz)) fun hyv =>
        h.mono y z hyv (hunvis z hz)
  · intro x y hx hy hpos
    rw [hvisE] at hx
    rw [hlab_vis x hx]
    rcases (hvis' x).1 hx with rfl | hxv
    · -- the state just relaxed: `y` is in `ind`, or its label was large enough, or it is visited
      rw [hlab]
      split
      · exact le_refl _
      · next hyi =>
        by_cases hlt : st.lab y < relax (F x y) (st.lab x)
        · cases hc : vis' y with
          | false => exact absurd ((hind y).2 ⟨hy, hpos, hc, hlt⟩) hyi
          | true =>
            rcases (hvis' y).1 hc with rfl | hyv
            · exact relax_le_left _ _
            · exact le_trans (relax_le_left _ _) (h.mono y x hyv hvu)
        · exact not_lt.1 hlt
    · exact le_trans (h.fix x y hxv hy hpos) (hlab_ge y)

/-- `if len(neighbors) == 0: continue` is the relaxation step with nothing to relax -/
theorem popSt_eq_relaxSt (st : St) (k u : Nat) (hn : neighbors n F u = []) :
    popSt st k u = relaxSt n F st k u := by
  have hi : ∀ vis, improved n F vis st.lab u = [] := by
    intro vis; simp [improved, hn]
  simp only [popSt, relaxSt, hi, List.append_nil, List.contains_nil]
  rfl

theorem walk_bound {st : St} (h : InvS n F S st) (u : Nat)
    (hmax : ∀ z, st.visited z = false → st.lab z ≤ st.lab u) (q : List Nat) (a : Nat)
    (hh : q.head? = some a) (hva : st.visited a = true) (hl : q.getLast? = some u) (hadj : Adj F q)
    (hlt : ∀ x ∈ q, x < n) : min (st.lab a) (bneck F q) ≤ st.lab u := by
  induction q generalizing a with
  | nil => cases hh
  | cons x q ih =>
    cases Option.some.inj hh
    cases q with
    | nil =>
      cases Option.some.inj hl
      exact min_le_left _ _
    | cons y rest =>
      have hfix := h.fix x y hva (hlt y (List.mem_cons_of_mem _ List.mem_cons_self)) hadj.1
      rw [relax_eq] at hfix
      show min (st.lab x) (min (Ext.fin (F x y)) (bneck F (y :: rest))) ≤ _
      rw [← min_assoc]
      cases hvy : st.visited y with
      | true =>
        exact le_trans (min_le_min_right _ hfix) (ih y rfl hvy (List.getLast?_cons_cons.symm.trans hl)
          hadj.2 fun z hz => hlt z (List.mem_cons_of_mem _ hz))
      | false => exact le_trans (min_le_left _ _) (le_trans hfix (hmax y hvy))

/-- `lab u` dominates the bottleneck of every walk from a source to `u` -/
def Opt (n : Nat) (F : Nat → Nat → Nat) (S : List Nat) (lab : Nat → Ext) (u : Nat) : Prop :=
  ∀ (q : List Nat) (s : Nat), q.head? = some s → s ∈ S → q.getLast? = some u → Adj F q →
    (∀ x ∈ q, x < n) → bneck F q ≤ lab u

theorem opt_of_max {st : St} (h : InvS n F S st) (u : Nat)
    (hmax : ∀ z, st.visited z = false → st.lab z ≤ st.lab u) : Opt n F S st.lab u := by
  intro q s hh hs hl hadj hlt
  cases hvs : st.visited s with
  | true =>
    have := walk_bound h u hmax q s hh hvs hl hadj hlt
    rwa [h.src_lab s hs, Ext.pinf_min] at this
  | false =>
    have := hmax s hvs
    rw [h.src_lab s hs, Ext.pinf_le_iff] at this
    rw [this]; exact Ext.le_pinf _

theorem loop_spec (T : List Nat) (fuel : Nat) (st st' : St) (h : InvS n F S st)
    (hl : loop n F T fuel st = some st') : InvW n F S st' ∧ ∀ t ∈ T, Opt n F S st'.lab t := by
  induction fuel generalizing st st' with
  | zero => cases hl
  | succ fuel ih =>
    rw [loop_succ] at hl
    split at hl
    · next hb =>
      -- queue empty: every unvisited state still carries `-inf`
      cases hl
      have hq := (best_eq_none _ _).1 hb
      refine ⟨h.toInvW, fun t _ => opt_of_max h t fun z hz => ?_⟩
      by_cases hlz : st.lab z = Ext.ninf
      · rw [hlz]; exact Ext.ninf_le _
      · exact absurd (h.q_mem z hz hlz) (hq ▸ List.not_mem_nil)
    · next k u hb =>
      split at hl
      · next hall =>
        cases hl
        refine ⟨popSt_invW h k u (best_mem st.lab st.queue k u hb), fun t ht => ?_⟩
        rcases (popSt_visited st k u t).1 (List.all_eq_true.1 hall t ht) with rfl | hvt
        · exact opt_of_max h t (pop_max h k t hb)
        · exact opt_of_max h t fun z hz => h.mono t z hvt hz
      · split at hl
        · next hn =>
          rw [popSt_eq_relaxSt st k u hn] at hl
          exact ih _ _ (relaxSt_invS h k u hb) hl
        · exact ih _ _ (relaxSt_invS h k u hb) hl

/-- `(n+1)`·(number of unvisited states) + queue length: a pop of a fresh state visits it and pushes
at most `n` states, a pop of a stale one only shortens the queue -/
def measure (n : Nat) (st : St) : Nat := (n - nvis n st.visited) * (n + 1) + st.queue.length

theorem measure_arith (a m l i : Nat) (hl : 0 < l) (hi : i ≤ m) :
    a * (m + 1) + (l - 1 + i) < (a + 1) * (m + 1) + l := by
  rw [Nat.succ_mul]; omega

theorem measure_relaxSt {st : St} (h : InvS n F S st) (k u : Nat)
    (hb : best st.lab st.queue = some (k, u)) :
    measure n (relaxSt n F st k u) < measure n st := by
  have hun := (pop_facts h k u hb).2.1
  have hk : k < st.queue.length :=
    (List.getElem?_eq_some_iff.1 (best_spec st.lab st.queue k u hb).1).1
  cases hvu : st.visited u with
  | true =>
    rw [relaxSt_stale h k u hvu]
    show _ + (st.queue.eraseIdx k).length < _ + st.queue.length
    rw [List.length_eraseIdx, if_pos hk]
    exact Nat.add_lt_add_left (Nat.sub_lt (Nat.zero_lt_of_lt hk) Nat.one_pos) _
  | false =>
    have hil := improved_length_le (n := n) (F := F) (relaxSt n F st k u).visited st.lab u
    have hle := nvis_le n (relaxSt n F st k u).visited
    have hnv : nvis n (relaxSt n F st k u).visited = nvis n st.visited + 1 :=
      nvis_fresh st u hun hvu
    rw [hnv] at hle
    show (n - nvis n (relaxSt n F st k u).visited) * (n + 1) +
      (st.queue.eraseIdx k ++ improved n F (relaxSt n F st k u).visited st.lab u).length < _
    rw [hnv, List.length_append, List.length_eraseIdx, if_pos hk]
    unfold measure
    rw [← Nat.succ_pred_eq_of_pos (Nat.sub_pos_of_lt hle)]
    exact measure_arith _ n _ _ (Nat.zero_lt_of_lt hk) hil

theorem loop_isSome (T : List Nat) (fuel : Nat) (st : St) (h : InvS n F S st)
    (hm : measure n st < fuel) : ∃ st', loop n F T fuel st = some st' := by
  induction fuel generalizing st with
  | zero => exact absurd hm (Nat.not_lt_zero _)
  | succ fuel ih =>
    rw [loop_succ]
    split
    · exact ⟨st, rfl⟩
    · next k u hb =>
      have hlt := Nat.lt_of_lt_of_le (measure_relaxSt h k u hb) (Nat.le_of_lt_succ hm)
      split
      · exact ⟨_, rfl⟩
      · split
        · next hn =>
          rw [popSt_eq_relaxSt st k u hn]
          exact ih _ (relaxSt_invS h k u hb) hlt
        · exact ih _ (relaxSt_invS h k u hb) hlt

end
end Ens.Paths
