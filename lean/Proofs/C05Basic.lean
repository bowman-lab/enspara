import Model.Ragged
/-! Basic lemmas for C05: `mapE`, `partitionAux`, `starts`. Core Lean only. -/
namespace Ens.Ragged
open Ens

@[simp] theorem bindE_ok {α β ε} (v : α) (f : α → Except ε β) : bindE (.ok v) f = f v := rfl
@[simp] theorem bindE_error {α β ε} (e : ε) (f : α → Except ε β) : bindE (.error e) f = .error e := rfl

theorem bindE_assoc {α β γ ε} (x : Except ε α) (f : α → Except ε β) (g : β → Except ε γ) :
    bindE (bindE x f) g = bindE x (fun a => bindE (f a) g) := by
  cases x <;> rfl

theorem bindE_congr {α β ε} {x : Except ε α} {f g : α → Except ε β} (h : ∀ a, x = .ok a → f a = g a) :
    bindE x f = bindE x g := by
  cases x with
  | error e => rfl
  | ok a => exact h a rfl

theorem bindE_eq_error {α β ε} {x : Except ε α} {f : α → Except ε β} {e : ε} (h : bindE x f = .error e) :
    x = .error e ∨ ∃ a, x = .ok a ∧ f a = .error e := by
  cases x with
  | error e' => cases h; exact Or.inl rfl
  | ok a => exact Or.inr ⟨a, rfl, h⟩

theorem bindE_eq_ok {α β ε} {x : Except ε α} {f : α → Except ε β} {b : β} (h : bindE x f = .ok b) :
    ∃ a, x = .ok a ∧ f a = .ok b := by
  cases x with
  | error e => cases h
  | ok a => exact ⟨a, rfl, h⟩

@[simp] theorem mapE_nil {α β ε} (f : α → Except ε β) : mapE f [] = .ok [] := rfl

theorem mapE_cons {α β ε} (f : α → Except ε β) (x : α) (xs : List α) :
    mapE f (x :: xs) = bindE (f x) fun y => bindE (mapE f xs) fun ys => .ok (y :: ys) := rfl

theorem mapE_congr {α β ε} {f g : α → Except ε β} {l : List α} (h : ∀ x ∈ l, f x = g x) :
    mapE f l = mapE g l := by
  induction l with
  | nil => rfl
  | cons x xs ih =>
    rw [mapE_cons, mapE_cons, h x (by simp), ih (fun y hy => h y (by simp [hy]))]

theorem mapE_ok_of_forall {α β ε} {f : α → Except ε β} {g : α → β} {l : List α}
    (h : ∀ x ∈ l, f x = .ok (g x)) : mapE f l = .ok (l.map g) := by
  induction l with
  | nil => rfl
  | cons x xs ih =>
    rw [mapE_cons, h x (by simp), ih (fun y hy => h y (by simp [hy]))]; rfl

theorem mapE_map {α β γ ε} (f : β → Except ε γ) (g : α → β) (l : List α) :
    mapE f (l.map g) = mapE (fun x => f (g x)) l := by
  induction l with
  | nil => rfl
  | cons x xs ih => simp only [List.map_cons, mapE_cons, ih]

theorem mapE_cons_ok {α β ε} {f : α → Except ε β} {x : α} {xs : List α} {r : List β}
    (h : mapE f (x :: xs) = .ok r) : ∃ y ys, f x = .ok y ∧ mapE f xs = .ok ys ∧ r = y :: ys := by
  rw [mapE_cons] at h
  obtain ⟨y, hx, h⟩ := bindE_eq_ok h
  obtain ⟨ys, hm, h⟩ := bindE_eq_ok h
  cases h
  exact ⟨y, ys, hx, hm, rfl⟩

theorem mapE_length {α β ε} {f : α → Except ε β} {l : List α} {r : List β} (h : mapE f l = .ok r) :
    r.length = l.length := by
  induction l generalizing r with
  | nil => cases h; rfl
  | cons x xs ih =>
    obtain ⟨y, ys, _, hm, rfl⟩ := mapE_cons_ok h
    rw [List.length_cons, List.length_cons, ih hm]

theorem mapE_ok_mem {α β ε} {f : α → Except ε β} {l : List α} {r : List β} (h : mapE f l = .ok r)
    {y : β} (hy : y ∈ r) : ∃ x ∈ l, f x = .ok y := by
  induction l generalizing r with
  | nil => cases h; cases hy
  | cons x xs ih =>
    obtain ⟨v, vs, hx, hm, rfl⟩ := mapE_cons_ok h
    rcases List.mem_cons.mp hy with rfl | hy
    · exact ⟨x, List.mem_cons_self, hx⟩
    · obtain ⟨x', hx', hfx⟩ := ih hm hy
      exact ⟨x', List.mem_cons_of_mem _ hx', hfx⟩

theorem mapE_inner_lengths {β γ δ ε} {f : β → γ → Except ε δ} {cols : β → List γ} {X : List β}
    {rs : List (List δ)} (h : mapE (fun x => mapE (f x) (cols x)) X = .ok rs) :
    rs.map List.length = X.map (fun x => (cols x).length) := by
  induction X generalizing rs with
  | nil => cases h; rfl
  | cons x xs ih =>
    obtain ⟨y, ys, hx, hm, rfl⟩ := mapE_cons_ok h
    rw [List.map_cons, List.map_cons, ih hm, mapE_length hx]

theorem mapE_append {α β ε} (f : α → Except ε β) (l₁ l₂ : List α) :
    mapE f (l₁ ++ l₂) = bindE (mapE f l₁) fun r₁ => bindE (mapE f l₂) fun r₂ => .ok (r₁ ++ r₂) := by
  induction l₁ with
  | nil => simp only [List.nil_append, mapE_nil, bindE_ok]; cases mapE f l₂ <;> rfl
  | cons x xs ih =>
    simp only [List.cons_append, mapE_cons, ih]
    cases f x with
    | error e => rfl
    | ok y =>
      cases mapE f xs with
      | error e => rfl
      | ok ys => cases mapE f l₂ <;> rfl

theorem mapE_flatMap {α β γ ε} (f : β → Except ε γ) (h : α → List β) (l : List α) :
    mapE f (l.flatMap h) = bindE (mapE (fun x => mapE f (h x)) l) fun rs => .ok rs.flatten := by
  induction l with
  | nil => rfl
  | cons x xs ih =>
    simp only [List.flatMap_cons, mapE_append, mapE_cons, ih]
    cases mapE f (h x) with
    | error e => rfl
    | ok y =>
      cases mapE (fun x => mapE f (h x)) xs with
      | error e => rfl
      | ok ys => simp

theorem mapE_error_same {α β ε} {f : α → Except ε β} {e0 : ε} (hf : ∀ x e, f x = .error e → e = e0)
    {l : List α} {e : ε} (h : mapE f l = .error e) : e = e0 := by
  induction l with
  | nil => cases h
  | cons x xs ih =>
    rw [mapE_cons] at h
    rcases bindE_eq_error h with hx | ⟨y, _, h⟩
    · exact hf x _ hx
    · rcases bindE_eq_error h with hm | ⟨ys, _, h⟩
      · exact ih hm
      · cases h

/-- Two passes (`f` over the whole list, then `g`) against one pass (`g` after `f`, element by element): they report
different failures when an early element fails in `g` and a later one in `f`, so the two agree only if a single
error value is possible. -/
theorem mapE_comp_same {α β γ ε} {f : α → Except ε β} {g : β → Except ε γ} {e0 : ε}
    (hf : ∀ x e, f x = .error e → e = e0) (hg : ∀ y e, g y = .error e → e = e0) (l : List α) :
    bindE (mapE f l) (mapE g) = mapE (fun x => bindE (f x) g) l := by
  induction l with
  | nil => rfl
  | cons x xs ih =>
    simp only [mapE_cons]
    cases hx : f x with
    | error e => rfl
    | ok y =>
      simp only [bindE_ok]
      cases hm : mapE f xs with
      | error e =>
        simp only [bindE_error]
        have he := mapE_error_same hf hm
        rw [hm] at ih
        cases hy : g y with
        | error e' => simp only [bindE_error]; rw [hg y e' hy, he]
        | ok z => simp only [bindE_ok]; rw [← ih]; rfl
      | ok ys =>
        simp only [bindE_ok, mapE_cons]
        rw [hm] at ih
        simp only [bindE_ok] at ih
        rw [ih]

theorem mapE_bind_const {α β γ ε} (x : Except ε α) (g : α → β → Except ε γ) {l : List β} (hl : l ≠ []) :
    mapE (fun j => bindE x (fun r => g r j)) l = bindE x (fun r => mapE (g r) l) := by
  cases x with
  | ok r => rfl
  | error e =>
    cases l with
    | nil => exact absurd rfl hl
    | cons y ys => rfl

theorem partitionAux_append_flatten {α} (pre : List α) (rs : List (List α)) (post : List α) :
    partitionAux (pre ++ rs.flatten ++ post) pre.length (rs.map List.length) = rs := by
  induction rs generalizing pre with
  | nil => rfl
  | cons r rest ih =>
    simp only [List.map_cons, partitionAux, List.flatten_cons]
    congr 1
    · simp [List.append_assoc]
    · have := ih (pre ++ r)
      simpa [List.append_assoc] using this

theorem rows_ofRows' {α} (rs : List (List α)) : rows (ofRows rs) = rs := by
  have := partitionAux_append_flatten ([] : List α) rs []
  simpa [rows, ofRows] using this

theorem partitionAux_length {α} (l : List α) (s : Nat) (lens : List Nat) :
    (partitionAux l s lens).length = lens.length := by
  induction lens generalizing s with
  | nil => rfl
  | cons n ns ih => simp [partitionAux, ih]

theorem partitionAux_map_length {α} (l : List α) (s : Nat) (lens : List Nat)
    (h : s + lens.sum ≤ l.length) : (partitionAux l s lens).map List.length = lens := by
  induction lens generalizing s with
  | nil => rfl
  | cons n ns ih =>
    rw [List.sum_cons] at h
    rw [partitionAux, List.map_cons, ih (s + n) (by omega), List.length_take, List.length_drop,
      Nat.min_eq_left (by omega)]

theorem partitionAux_flatten {α} (l : List α) (s : Nat) (lens : List Nat) :
    (partitionAux l s lens).flatten = (l.drop s).take lens.sum := by
  induction lens generalizing s with
  | nil => simp [partitionAux]
  | cons n ns ih =>
    simp only [partitionAux, List.flatten_cons, List.sum_cons, ih]
    rw [List.take_add, ← List.drop_drop]

theorem lengths_eq {α} (ra : RA α) (h : WF ra) : ra.lengths = (rows ra).map List.length :=
  (partitionAux_map_length _ _ _ (by rw [Nat.zero_add]; exact Nat.le_of_eq h)).symm

theorem ofRows_rows' {α} (ra : RA α) (h : WF ra) : ofRows (rows ra) = ra := by
  cases ra with
  | mk data lengths =>
    simp only [ofRows, RA.mk.injEq]
    refine ⟨?_, (lengths_eq _ h).symm⟩
    simp only [WF] at h
    rw [rows, partitionAux_flatten]; simp [h]

theorem partitionAux_getElem? {α} (l : List α) (s : Nat) (lens : List Nat) (i : Nat) :
    (partitionAux l s lens)[i]? =
      (lens[i]?).map fun len => (l.drop (s + (lens.take i).sum)).take len := by
  induction lens generalizing s i with
  | nil => simp [partitionAux]
  | cons n ns ih =>
    cases i with
    | zero => simp [partitionAux]
    | succ i =>
      simp only [partitionAux, List.getElem?_cons_succ, ih, List.take_succ_cons, List.sum_cons]
      congr; funext len; congr 2; omega

theorem cumsumFrom_getElem? (acc : Nat) (l : List Nat) (i : Nat) (h : i < l.length) :
    (cumsumFrom acc l)[i]? = some (acc + (l.take (i + 1)).sum) := by
  induction l generalizing acc i with
  | nil => simp at h
  | cons x xs ih =>
    cases i with
    | zero => simp [cumsumFrom]
    | succ i =>
      simp only [cumsumFrom, List.getElem?_cons_succ, List.take_succ_cons, List.sum_cons]
      rw [ih (acc + x) i (by simpa using h)]
      simp; omega

theorem cumsumFrom_length (acc : Nat) (l : List Nat) : (cumsumFrom acc l).length = l.length := by
  induction l generalizing acc with
  | nil => rfl
  | cons x xs ih => simp [cumsumFrom, ih]

theorem starts_getElem? (lens : List Nat) (i : Nat) (h : i < lens.length) :
    (starts lens)[i]? = some (lens.take i).sum := by
  cases i with
  | zero => simp [starts]
  | succ i =>
    simp only [starts, List.getElem?_cons_succ]
    rw [List.getElem?_dropLast]
    have hl := cumsumFrom_length 0 lens
    rw [if_pos (by omega), cumsumFrom_getElem? 0 lens i (by omega)]
    simp

theorem starts_length (lens : List Nat) (h : lens ≠ []) : (starts lens).length = lens.length := by
  simp [starts, cumsumFrom_length]
  cases lens with
  | nil => exact absurd rfl h
  | cons x xs => simp

end Ens.Ragged
