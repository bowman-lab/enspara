import Model.Rotamer
import Mathlib.Tactic.Linarith
import Mathlib.Tactic.NormNum
import Mathlib.Algebra.Order.Field.Rat
/-!
Arithmetic of arcs.  Seen from `[0, 360)` an arc of the circle is a piece `[L, U]` of `[0, 360]` or,
through the seam, two end pieces; the two comparison branches of `is_buffered_transition` test these two
shapes, and on the gates of `get_gates` they decide membership in the widened basin, as long as it does not
wrap onto itself and the angle avoids the gate values.
-/
namespace Ens.Rotamer

/-- some representative of the angle lies in `[L, U]` -/
def InArc (L U a : Rat) : Prop :=
  ∃ k : Int, L ≤ a + 360 * (k : Rat) ∧ a + 360 * (k : Rat) ≤ U

/-- the angle is not a gate value `v ± b (mod 360)` -/
def AvoidsGate (v b a : Rat) : Prop :=
  ∀ k : Int, a + 360 * (k : Rat) ≠ v - b ∧ a + 360 * (k : Rat) ≠ v + b

theorem AvoidsGate.ne {v b a : Rat} (g : AvoidsGate v b a) : a ≠ v - b ∧ a ≠ v + b := by
  have := g 0
  rwa [Int.cast_zero, mul_zero, add_zero] at this

theorem AvoidsGate.ne_sub_add {v b a : Rat} (g : AvoidsGate v b a) : a ≠ v - b + 360 := fun h =>
  (g (-1)).1 (by rw [h, Int.cast_neg, Int.cast_one, mul_neg, mul_one, add_neg_cancel_right])

theorem AvoidsGate.ne_add_sub {v b a : Rat} (g : AvoidsGate v b a) : a ≠ v + b - 360 := fun h =>
  (g 1).2 (by rw [h, Int.cast_one, mul_one, sub_add_cancel])

theorem int_tri (k : Int) : (k : Rat) ≤ -1 ∨ k = 0 ∨ (1 : Rat) ≤ (k : Rat) := by
  rcases lt_trichotomy k 0 with h | h | h
  · left
    have : k ≤ -1 := by omega
    exact_mod_cast this
  · right; left; exact h
  · right; right
    have : 1 ≤ k := by omega
    exact_mod_cast this

theorem rep_cases (a : Rat) (k : Int) :
    a + 360 * (k : Rat) ≤ a - 360 ∨ k = 0 ∨ a + 360 ≤ a + 360 * (k : Rat) := by
  rcases int_tri k with h | h | h
  · left; linarith
  · right; left; exact h
  · right; right; linarith

theorem inArc_of_mem {L U a : Rat} (h1 : L ≤ a) (h2 : a ≤ U) : InArc L U a :=
  ⟨0, by rw [Int.cast_zero, mul_zero, add_zero]; exact h1, by rw [Int.cast_zero, mul_zero, add_zero]; exact h2⟩

theorem inArc_shift {L U a : Rat} : InArc (L + 360) (U + 360) a ↔ InArc L U a := by
  constructor
  · rintro ⟨k, h1, h2⟩
    have e : a + 360 * ((k - 1 : Int) : Rat) = a + 360 * (k : Rat) - 360 := by
      rw [Int.cast_sub, Int.cast_one, mul_sub, mul_one, add_sub_assoc]
    exact ⟨k - 1, by rw [e]; exact le_sub_iff_add_le.2 h1, by rw [e]; exact sub_le_iff_le_add.2 h2⟩
  · rintro ⟨k, h1, h2⟩
    have e : a + 360 * ((k + 1 : Int) : Rat) = a + 360 * (k : Rat) + 360 := by
      rw [Int.cast_add, Int.cast_one, mul_add, mul_one, add_assoc]
    exact ⟨k + 1, by rw [e]; exact add_le_add_left h1 360, by rw [e]; exact add_le_add_left h2 360⟩

theorem inArc_wrap {L U a : Rat} (ha0 : 0 ≤ a) (ha : a < 360) (hL : L ≤ 0) (hU : 0 ≤ U) :
    InArc L U a ↔ a ≤ U ∨ L + 360 ≤ a := by
  constructor
  · rintro ⟨k, hk1, hk2⟩
    rcases rep_cases a k with hk | rfl | hk
    · exact Or.inr (le_sub_iff_add_le.1 (hk1.trans hk))
    · rw [Int.cast_zero, mul_zero, add_zero] at hk2
      exact Or.inl hk2
    · exact Or.inl ((le_add_of_nonneg_right (by norm_num)).trans (hk.trans hk2))
  · rintro (h | h)
    · exact inArc_of_mem (hL.trans ha0) h
    · exact inArc_shift.1 (inArc_of_mem h (ha.le.trans (le_add_of_nonneg_left hU)))

theorem inArc_inner {L U a : Rat} (ha0 : 0 ≤ a) (ha : a < 360) (hL : 0 ≤ L) (hU : U ≤ 360)
    (h : InArc L U a) : (L ≤ a ∧ a ≤ U) ∨ ∃ k : Int, a + 360 * (k : Rat) = U := by
  obtain ⟨k, hk1, hk2⟩ := h
  rcases rep_cases a k with hk | rfl | hk
  · exact absurd (hk1.trans hk) (not_le.2 ((sub_neg.2 ha).trans_le hL))
  · rw [Int.cast_zero, mul_zero, add_zero] at hk1 hk2
    exact Or.inl ⟨hk1, hk2⟩
  · exact Or.inr ⟨k, le_antisymm hk2 (hU.trans ((le_add_of_nonneg_left ha0).trans hk))⟩

theorem exitTest_iff (g : Rat × Rat) (a : Rat) :
    exitTest g a = true ↔
      (g.2 < g.1 ∧ g.2 ≤ a ∧ a ≤ g.1) ∨ (g.1 < g.2 ∧ (a < g.1 ∨ g.2 < a)) := by
  simp [exitTest]

theorem exit_wrap {g1 g2 a : Rat} (h21 : g2 ≤ g1) (n1 : a ≠ g1) (n2 : a ≠ g2) :
    exitTest (g1, g2) a = true ↔ ¬ (a ≤ g2 ∨ g1 ≤ a) := by
  simp only [exitTest_iff, h21.not_gt, false_and, or_false, not_or, not_le]
  exact ⟨fun ⟨_, h2, h3⟩ => ⟨lt_of_le_of_ne h2 n2.symm, lt_of_le_of_ne h3 n1⟩,
    fun ⟨h2, h1⟩ => ⟨h2.trans h1, h2.le, h1.le⟩⟩

theorem exit_inner {g1 g2 a : Rat} (h12 : g1 < g2) :
    exitTest (g1, g2) a = true ↔ ¬ (g1 ≤ a ∧ a ≤ g2) := by
  simp only [exitTest_iff, h12, h12.not_gt, false_and, true_and, false_or, not_and_or, not_le]

theorem exit_seam {L U g1 a : Rat} (ha0 : 0 ≤ a) (ha : a < 360) (hg : g1 = L + 360) (hL : L ≤ 0)
    (hU : 0 ≤ U) (hw : U ≤ g1) (n1 : a ≠ L + 360) (n2 : a ≠ U) :
    exitTest (g1, U) a = true ↔ ¬ InArc L U a := by
  rw [inArc_wrap ha0 ha hL hU, ← hg]
  exact exit_wrap hw (hg ▸ n1) n2

/-- basin touching 0: gates `(360 - b, hi + b)`; touching 360: gates `(lo - b, b)`, the arc one period down;
touching neither: gates `(lo - b, hi + b)`, no wrap-around in the code -/
theorem exit_iff_not_inArc {lo hi b a : Rat} (ha0 : 0 ≤ a) (ha : a < 360) (hb0 : 0 ≤ b)
    (hlt : lo < hi) (hnot1 : ¬ (lo = 0 ∧ hi = 360))
    (hw : hi - lo + 2 * b ≤ 360)
    (hmid : lo ≠ 0 → hi ≠ 360 → b ≤ lo ∧ hi + b ≤ 360)
    (glo : AvoidsGate lo b a) (ghi : AvoidsGate hi b a) :
    exitTest (gatesOf lo hi b) a = true ↔ ¬ InArc (lo - b) (hi + b) a := by
  unfold gatesOf
  by_cases h0 : lo = 0
  · subst h0
    have h3 : hi ≠ 360 := fun h => hnot1 ⟨rfl, h⟩
    rw [if_pos rfl, if_neg h3]
    exact exit_seam ha0 ha (by rw [zero_sub, neg_add_eq_sub]) (sub_nonpos.2 hb0) (add_nonneg hlt.le hb0)
      (by linarith) glo.ne_sub_add ghi.ne.2
  · by_cases h3 : hi = 360
    · subst h3
      rw [if_neg h0, if_pos rfl]
      have e : InArc (lo - b - 360) (0 + b) a ↔ InArc (lo - b) (360 + b) a := by
        rw [← inArc_shift, sub_add_cancel, zero_add, add_comm]
      refine (exit_seam ha0 ha (sub_add_cancel _ _).symm (sub_nonpos.2 ((sub_le_self lo hb0).trans hlt.le))
        (add_nonneg le_rfl hb0) (by linarith) (by rw [sub_add_cancel]; exact glo.ne.1)
        (by rw [zero_add, ← add_sub_cancel_left 360 b]; exact ghi.ne_add_sub)).trans (not_congr e)
    · obtain ⟨m1, m2⟩ := hmid h0 h3
      rw [if_neg h0, if_neg h3, exit_inner (by linarith)]
      refine not_congr ⟨fun h => inArc_of_mem h.1 h.2, fun h => ?_⟩
      rcases inArc_inner ha0 ha (sub_nonneg.2 m1) m2 h with h | ⟨k, hk⟩
      · exact h
      · exact absurd hk (ghi k).2

end Ens.Rotamer
