import Proofs.C15Names
import Proofs.C15Stride
import Proofs.C15Buf
/-!
C15, part 4: `ra.load` — the several-keys branch returns the concatenation of the strided
nodes with the `⌈len/stride⌉` lengths; loading what `ra.save` wrote returns the rows.
Core Lean only.
-/
namespace Ens.Store

variable {α : Type}

theorem load_congr_keys [Inhabited α] {f : H5File α} {k₁ k₂ : Keys} (h : resolveKeys f k₁ = resolveKeys f k₂)
    (s : Nat) : load f k₁ s = load f k₂ s := by
  unfold load; rw [h]

theorem load_single [Inhabited α] {f : H5File α} {keys : Keys} {k : Name} (h : resolveKeys f keys = [k])
    (s : Nat) :
    load f keys s = match getNode f k with
      | none => .error .noSuchNode
      | some nd =>
        if s = 0 then .error .valueError else .ok (.plain nd.dtype nd.inner (strideSel s nd.data)) := by
  unfold load; rw [h]; rfl

theorem load_many [Inhabited α] {f : H5File α} {keys : Keys} (h : (resolveKeys f keys).length ≠ 1) (s : Nat) :
    load f keys s = match lookupAll f (resolveKeys f keys) with
      | .error e => .error e
      | .ok nodes => loadMany nodes s := by
  unfold load
  generalize resolveKeys f keys = ks at h
  match ks, h with
  | [], _ => rfl
  | [_], h => exact absurd rfl h
  | _ :: _ :: _, _ => rfl

theorem lengths_eq_map_length (nodes : List (Node α)) (s : Nat) (hs : 0 < s) :
    (nodes.map fun nd => ceilDiv nd.data.length s)
      = (nodes.map fun nd => strideSel s nd.data).map List.length := by
  rw [List.map_map]
  exact List.map_congr_left fun nd _ => (length_strideSel s hs nd.data).symm

/-- When the checks pass, the result is the concatenation of the strided nodes (in key order),
cut at the lengths `(len + stride - 1) / stride`; the zero-initialised buffer is filled
completely (no cell keeps its initial zero, none is written twice). -/
theorem loadMany_eq [Inhabited α] (nodes : List (Node α)) (s : Nat) (hs : 0 < s) :
    loadMany nodes s = (checkNodes nodes).map fun n0 => .ragged n0.dtype n0.inner
      (nodes.map fun nd => strideSel s nd.data).flatten
      (nodes.map fun nd => ceilDiv nd.data.length s) := by
  unfold loadMany
  cases checkNodes nodes with
  | error e => rfl
  | ok n0 =>
    simp only
    rw [if_neg (Nat.ne_of_gt hs), lengths_eq_map_length nodes s hs, ← List.length_flatten,
      fillSeq_ok _ _ 0 _ (Nat.le_of_eq (Nat.zero_add _))]
    simp only
    rw [tabulate_runCells _ _ (List.Perm.refl _)]
    rfl

theorem rows_loadMany (dt : String) (inner : List Nat) (nodes : List (Node α)) (s : Nat) (hs : 0 < s) :
    (Loaded.ragged dt inner (nodes.map fun nd => strideSel s nd.data).flatten
      (nodes.map fun nd => ceilDiv nd.data.length s)).rows = nodes.map fun nd => strideSel s nd.data := by
  rw [Loaded.rows, lengths_eq_map_length nodes s hs, rowsOf_flatten]

/-- `load f keys s` as a function of the stride `s ≥ 1`: an error independent of `s` (the checks do
not look at the stride), or one node `[::s]`, or the nodes `[::s]` concatenated -/
theorem load_shape [Inhabited α] (f : H5File α) (keys : Keys) :
    (∃ e, ∀ s, 0 < s → load f keys s = .error e) ∨
    (∃ nd : Node α, ∀ s, 0 < s → load f keys s = .ok (.plain nd.dtype nd.inner (strideSel s nd.data))) ∨
    (∃ (n0 : Node α) (nodes : List (Node α)), ∀ s, 0 < s → load f keys s = .ok (.ragged n0.dtype n0.inner
      (nodes.map fun nd => strideSel s nd.data).flatten (nodes.map fun nd => ceilDiv nd.data.length s))) := by
  by_cases h1 : (resolveKeys f keys).length = 1
  · obtain ⟨k, hk⟩ := List.length_eq_one_iff.mp h1
    cases hg : getNode f k with
    | none => exact .inl ⟨_, fun s _ => by rw [load_single hk, hg]⟩
    | some nd => exact .inr (.inl ⟨nd, fun s hs => by rw [load_single hk, hg]; exact if_neg (Nat.ne_of_gt hs)⟩)
  · cases hl : lookupAll f (resolveKeys f keys) with
    | error e => exact .inl ⟨e, fun s _ => by rw [load_many h1, hl]⟩
    | ok nodes =>
      cases hc : checkNodes nodes with
      | error e => exact .inl ⟨e, fun s hs => by rw [load_many h1, hl]; simp only; rw [loadMany_eq nodes s hs, hc]; rfl⟩
      | ok n0 =>
        exact .inr (.inr ⟨n0, nodes, fun s hs => by
          rw [load_many h1, hl]; simp only; rw [loadMany_eq nodes s hs, hc]; rfl⟩)

/-- **load with a stride = `[:, ::stride]` of the full load** (any file, any key list, error
branches included). -/
theorem load_stride_rows [Inhabited α] (f : H5File α) (keys : Keys) (s : Nat) (hs : 0 < s) :
    (load f keys s).map Loaded.rows = (load f keys 1).map (fun r => r.rows.map (strideSel s)) := by
  rcases load_shape f keys with ⟨e, h⟩ | ⟨nd, h⟩ | ⟨n0, nodes, h⟩ <;> rw [h s hs, h 1 Nat.one_pos]
  · rfl
  · show Except.ok [strideSel s nd.data] = .ok [strideSel s (strideSel 1 nd.data)]
    rw [strideSel_one]
  · show Except.ok (Loaded.rows _) = Except.ok (List.map (strideSel s) (Loaded.rows _))
    rw [rows_loadMany _ _ nodes s hs, rows_loadMany _ _ nodes 1 Nat.one_pos, List.map_map]
    exact congrArg Except.ok (List.map_congr_left fun nd _ => by rw [Function.comp, strideSel_one])

theorem ceilDiv_one (n : Nat) : ceilDiv n 1 = n := Nat.div_one n

/-- the lengths of a strided load are the `⌈len/stride⌉` of the lengths of the full load -/
theorem load_stride_lengths [Inhabited α] (f : H5File α) (keys : Keys) (s : Nat) (hs : 0 < s) :
    (load f keys s).map Loaded.lengths = (load f keys 1).map (fun r => r.lengths.map (ceilDiv · s)) := by
  rcases load_shape f keys with ⟨e, h⟩ | ⟨nd, h⟩ | ⟨n0, nodes, h⟩ <;> rw [h s hs, h 1 Nat.one_pos]
  · rfl
  · show Except.ok [(strideSel s nd.data).length] = .ok [ceilDiv (strideSel 1 nd.data).length s]
    rw [strideSel_one, length_strideSel s hs]
  · show Except.ok (nodes.map _) = .ok ((nodes.map _).map _)
    rw [List.map_map]
    exact congrArg Except.ok (List.map_congr_left fun nd _ => by rw [Function.comp, ceilDiv_one])

theorem loadMany_zero [Inhabited α] (nodes : List (Node α)) : ∃ e, loadMany nodes 0 = .error e := by
  unfold loadMany
  cases checkNodes nodes with
  | error e => exact ⟨e, rfl⟩
  | ok n0 => exact ⟨.valueError, rfl⟩

theorem getNode_of_mem (f : H5File α) (k : Name) (nd : Node α) (hnd : (names f).Nodup) (hmem : (k, nd) ∈ f) :
    getNode f k = some nd :=
  (lookup_eq_some_iff hnd k nd).mpr hmem

section known
variable {ι : Type} {f : H5File α} {key : ι → Name} {dt : String} {inner : List Nat} {data : ι → List α}

theorem lookupAll_of_getNode {node : ι → Node α} (hget : ∀ i, getNode f (key i) = some (node i)) (idx : List ι) :
    lookupAll f (idx.map key) = .ok (idx.map node) := by
  unfold lookupAll
  rw [List.mapM_map]
  exact mapM_ok _ node idx fun i _ => by simp only [Function.comp, hget]

/-- any non-empty key list (any order, repetitions allowed) whose nodes are known -/
theorem load_list_of_getNode [Inhabited α] (hget : ∀ i, getNode f (key i) = some ⟨dt, inner, data i⟩)
    (idx : List ι) (hne : idx ≠ []) (s : Nat) (hs : 0 < s) :
    ∃ r, load f (.list (idx.map key)) s = .ok r
      ∧ r.rows = idx.map (fun i => strideSel s (data i))
      ∧ r.lengths = idx.map (fun i => ceilDiv (data i).length s)
      ∧ r.dtype = dt ∧ r.inner = inner
      ∧ (r.isPlain = true ↔ idx.length = 1) := by
  match idx, hne with
  | [i], _ =>
    refine ⟨.plain dt inner (strideSel s (data i)), ?_, rfl, congrArg (· :: []) (length_strideSel s hs _),
      rfl, rfl, ⟨fun _ => rfl, fun _ => rfl⟩⟩
    rw [load_single (k := key i) rfl, hget]
    exact if_neg (Nat.ne_of_gt hs)
  | i :: j :: rest, _ =>
    refine ⟨_, ?_, (rows_loadMany dt inner ((i :: j :: rest).map fun i => ⟨dt, inner, data i⟩) s hs).trans
      List.map_map, List.map_map, rfl, rfl,
      ⟨fun h => Bool.noConfusion h, fun h => Nat.noConfusion (Nat.succ.inj h)⟩⟩
    have hc : checkNodes ((i :: j :: rest).map fun i => (⟨dt, inner, data i⟩ : Node α))
        = .ok ⟨dt, inner, data i⟩ := by simp [checkNodes]
    rw [load_many (by simp [resolveKeys]), resolveKeys, lookupAll_of_getNode hget]
    simp only
    rw [loadMany_eq _ s hs, hc]
    rfl

end known

/-! ### files written by `save` -/

theorem shapeOk_iff (inner : List Nat) (r : List α) : shapeOk inner r = true ↔ r ≠ [] ∧ 0 ∉ inner := by
  simp only [shapeOk, Bool.and_eq_true, Bool.not_eq_true', List.isEmpty_eq_false_iff,
    List.contains_eq_mem, decide_eq_false_iff_not]

section saved
variable (tag : Name) (dt : String) (inner : List Nat) (rows : List (List α))

/-- the file `save` writes for a ragged array (when PyTables accepts all shapes) -/
abbrev savedFile : H5File α := mkNodes tag (nZeros rows.length) dt inner rows

theorem names_mkNodes (w : Nat) : names (mkNodes tag w dt inner rows) = (List.range rows.length).map (keyNameW tag w) := by
  rw [names, mkNodes, List.map_map, List.range_eq_range', ← List.zipIdx_map_snd 0 rows, List.map_map]
  rfl

theorem names_savedFile : names (savedFile tag dt inner rows) = rowNames tag rows.length :=
  names_mkNodes tag dt inner rows _

theorem getNode_savedFile (i : Fin rows.length) :
    getNode (savedFile tag dt inner rows) (keyName tag i rows.length)
      = some { dtype := dt, inner := inner, data := rows[i.val]'i.isLt } := by
  apply getNode_of_mem
  · rw [names_savedFile]; exact rowNames_nodup tag rows.length
  · exact List.mem_map.mpr
      ⟨(rows[i.val]'i.isLt, i.val), List.mem_zipIdx_iff_getElem?.mpr (List.getElem?_eq_getElem i.isLt), rfl⟩

theorem map_finRange_getElem {γ : Type} (l : List α) (g : α → γ) :
    (List.finRange l.length).map (fun i => g (l[i.val]'i.isLt)) = l.map g :=
  List.ext_getElem (by rw [List.length_map, List.length_map, List.length_finRange]) fun i _ _ => by
    rw [List.getElem_map, List.getElem_map, List.getElem_finRange]; rfl

theorem resolveKeys_all_savedFile :
    resolveKeys (savedFile tag dt inner rows) .all
      = (List.finRange rows.length).map fun i => keyName tag i.val rows.length := by
  rw [resolveKeys, names_savedFile, listNodes_rowNames tag rows.length _ (List.Perm.refl _), rowNames]
  exact List.ext_getElem (by rw [List.length_map, List.length_map, List.length_finRange, List.length_range])
    fun i _ _ => by rw [List.getElem_map, List.getElem_map, List.getElem_finRange, List.getElem_range]; rfl

end saved

end Ens.Store
