import Proofs.C02RMin
import Mathlib.Combinatorics.Pigeonhole
import Mathlib.Data.Fintype.Card
import Mathlib.Data.Fintype.Fin
import Mathlib.Data.List.Basic

/-! Gonzalez' 2-approximation: the pigeonhole core and the invariant of a plain run that feeds it. -/
namespace Ens.KC

theorem gonzalez_core (n : ℕ) (D : ℕ → ℕ → ℚ)
    (symm : ∀ x y, x < n → y < n → D x y = D y x)
    (tri : ∀ x y z, x < n → y < n → z < n → D x z ≤ D x y + D y z)
    (k : ℕ) (p : Fin (k+1) → ℕ) (hp : ∀ a, p a < n) (r : ℚ)
    (hpair : ∀ a b : Fin (k+1), b < a → r ≤ D (p a) (p b))
    (S : List ℕ) (hS : ∀ s ∈ S, s < n) (hcard : S.length ≤ k) (R : ℚ)
    (hR : ∀ f, f < n → ∃ s ∈ S, D f s ≤ R) : r ≤ 2 * R := by
  classical
  -- a center of `S` within `R` of each of the `k+1` points; two points share theirs
  choose nearest hmem hnear using fun a => hR (p a) (hp a)
  have hlt : S.toFinset.card < (Finset.univ : Finset (Fin (k+1))).card := by
    rw [Finset.card_univ, Fintype.card_fin]
    exact Nat.lt_succ_of_le (le_trans (List.toFinset_card_le S) hcard)
  obtain ⟨a, _, b, _, hab, heq⟩ :=
    Finset.exists_ne_map_eq_of_card_lt_of_maps_to hlt (f := nearest)
      (fun a _ => List.mem_toFinset.mpr (hmem a))
  have key : ∀ a b : Fin (k+1), b < a → nearest a = nearest b → r ≤ 2 * R := by
    intro a b hba heq
    have h2 := tri (p a) (nearest a) (p b) (hp a) (hS _ (hmem a)) (hp b)
    rw [heq, symm _ _ (hS _ (hmem b)) (hp b)] at h2
    rw [two_mul]
    exact (hpair a b hba).trans (h2.trans (add_le_add (heq ▸ hnear a) (hnear b)))
  rcases lt_or_gt_of_ne hab with h | h
  · exact key b a h heq.symm
  · exact key a b h heq

theorem gonzalez_list {n : ℕ} {D : ℕ → ℕ → ℚ}
    (symm : ∀ x y, x < n → y < n → D x y = D y x)
    (tri : ∀ x y z, x < n → y < n → z < n → D x z ≤ D x y + D y z)
    (L : List ℕ) (r : ℚ) (hL : ∀ c ∈ L, c < n) (hsep : L.Pairwise (fun a b => r ≤ D b a))
    (S : List ℕ) (hS : ∀ s ∈ S, s < n) (hcard : S.length < L.length) (R : ℚ)
    (hR : ∀ f, f < n → ∃ s ∈ S, D f s ≤ R) : r ≤ 2 * R := by
  obtain ⟨k, hk⟩ := Nat.exists_eq_succ_of_ne_zero (Nat.ne_of_gt (Nat.zero_lt_of_lt hcard))
  exact gonzalez_core n D symm tri k (fun a => L[a.val]'(by rw [hk]; exact a.isLt))
    (fun a => hL _ (List.getElem_mem _)) r
    (fun a b hba => List.pairwise_iff_getElem.mp hsep _ _ _ _ hba) S hS
    (Nat.le_of_lt_succ (hk ▸ hcard)) R hR

/-- From position `m0` on (the centers added by the loop) the centers are frames, and a later one is
at least the current radius away from every earlier one of them; `dist` is the running minimum over
all centers (supplied ones included). -/
structure FarApart (D : Table) (n m0 : Nat) (s : St) : Prop where
  len : m0 ≤ s.centers.length
  frames : ∀ (j : Nat) (hj : j < s.centers.length), m0 ≤ j → s.centers[j] < n
  rmin : RMin D s.dist s.centers
  apart : ∀ (i j : Nat) (hi : m0 ≤ i) (hij : i < j) (hj : j < s.centers.length),
    toWT (radius n s) ≤ ((D (s.centers[j]) (s.centers[i]'(by omega)) : ℚ) : WithTop ℚ)

theorem farApart_iff {D : Table} {n m0 : Nat} {s : St} :
    FarApart D n m0 s ↔ m0 ≤ s.centers.length ∧ (∀ c ∈ s.centers.drop m0, c < n) ∧
      RMin D s.dist s.centers ∧
      (s.centers.drop m0).Pairwise (fun a b => toWT (radius n s) ≤ ((D b a : ℚ) : WithTop ℚ)) := by
  constructor
  · rintro ⟨len, frames, rmin, apart⟩
    refine ⟨len, ?_, rmin, ?_⟩
    · intro c hc
      obtain ⟨j, hj, rfl⟩ := List.mem_iff_getElem.mp hc
      rw [List.getElem_drop]
      exact frames _ _ (Nat.le_add_right _ _)
    · rw [List.pairwise_iff_getElem]
      intro i j hi hj hij
      rw [List.getElem_drop, List.getElem_drop]
      exact apart _ _ (Nat.le_add_right _ _) (Nat.add_lt_add_left hij _) _
  · rintro ⟨len, fr, rmin, ap⟩
    have hget : ∀ (j : Nat) (hj : j < s.centers.length) (hm : m0 ≤ j),
        s.centers[j] = (s.centers.drop m0)[j - m0]'(by
          rw [List.length_drop]; exact Nat.sub_lt_sub_right hm hj) := by
      intro j hj hm
      rw [List.getElem_drop]
      congr 1
      exact (Nat.add_sub_cancel' hm).symm
    refine ⟨len, fun j hj hm => hget j hj hm ▸ fr _ (List.getElem_mem _), rmin, ?_⟩
    intro i j hi hij hj
    rw [hget j hj (le_trans hi (Nat.le_of_lt hij)), hget i (Nat.lt_trans hij hj) hi]
    exact List.pairwise_iff_getElem.mp ap _ _ _ _ (Nat.sub_lt_sub_right hi hij)

theorem FarApart_iterPlain {D : Table} {n m0 : Nat} (hn : 0 < n) {s : St} (h : FarApart D n m0 s) :
    FarApart D n m0 (iterPlain D n s) := by
  rw [farApart_iff] at h ⊢
  obtain ⟨len, fr, rmin, ap⟩ := h
  have hr : toWT (radius n (iterPlain D n s)) ≤ toWT (radius n s) :=
    radius_mono hn (fun f _ => update_dist_le _ _ _ _ _)
  rw [show (iterPlain D n s).centers = s.centers ++ [argmaxE n s.dist] from rfl,
    List.drop_append_of_le_length len]
  refine ⟨le_trans len (List.length_append ▸ Nat.le_add_right _ _), ?_, RMin_iterPlain rmin, ?_⟩
  · intro c hc
    rcases List.mem_append.mp hc with hc | hc
    · exact fr c hc
    · rw [List.mem_singleton.mp hc]; exact argmaxE_lt hn _
  · -- the new center is the farthest frame: at least the old radius from every center
    rw [List.pairwise_append]
    refine ⟨ap.imp (le_trans hr), List.pairwise_singleton _ _, fun a ha b hb => ?_⟩
    rw [List.mem_singleton.mp hb]
    exact le_trans hr (rmin.1 _ a (List.mem_of_mem_drop ha))

theorem FarApart_iterN {D : Table} {n : Nat} (hn : 0 < n) (init : Option (List Nat)) (j : Nat) (sj : St)
    (h : iterN D n false j (initState D n init) = .ok sj) :
    FarApart D n (initState D n init).centers.length sj := by
  have h0 : FarApart D n (initState D n init).centers.length (initState D n init) := by
    rw [farApart_iff, List.drop_length]
    exact ⟨le_refl _, fun _ hc => absurd hc List.not_mem_nil, RMin_initState D n init, List.Pairwise.nil⟩
  refine iterN_inv (FarApart D n (initState D n init).centers.length) ?_ j _ sj h0 h
  intro s s' hP hs
  rw [iter_plain] at hs
  injection hs with hs
  exact hs ▸ FarApart_iterPlain hn hP

/-- Gonzalez: a state reached by the plain farthest-first rule after adding `t ≥ 1` centers to `m0`
supplied ones has radius at most twice that of any set `S` of at most `t` frames: the added centers
and the farthest frame are `t+1` frames pairwise at least the radius apart. -/
theorem FarApart_two_approx {D : Table} {n m0 : Nat} (hn : 0 < n) {s : St} (h : FarApart D n m0 s)
    (symm : ∀ x y, x < n → y < n → D x y = D y x)
    (tri : ∀ x y z, x < n → y < n → z < n → D x z ≤ D x y + D y z)
    (S : List ℕ) (hS : ∀ x ∈ S, x < n) (hcard : S.length ≤ s.centers.length - m0) (R : ℚ)
    (hR : ∀ f, f < n → ∃ x ∈ S, D f x ≤ R) (hne : m0 < s.centers.length) :
    ∃ r : ℚ, radius n s = some r ∧ r ≤ 2 * R := by
  obtain ⟨len, fr, rmin, ap⟩ := farApart_iff.mp h
  obtain ⟨r, hr⟩ : ∃ r : ℚ, radius n s = some r := by
    rcases rmin.2 (argmaxE n s.dist) with ⟨h1, _⟩ | ⟨c, _, h2⟩
    · rw [h1] at hne; exact absurd hne (Nat.not_lt_zero _)
    · exact ⟨_, h2⟩
  have hle : ∀ {x : ℚ}, toWT (radius n s) ≤ (x : WithTop ℚ) → r ≤ x := by
    rw [hr]; exact WithTop.coe_le_coe.mp
  refine ⟨r, hr, gonzalez_list symm tri (s.centers.drop m0 ++ [argmaxE n s.dist]) r ?_ ?_ S hS
    (by rw [List.length_append, List.length_drop, List.length_singleton]
        exact Nat.lt_succ_of_le hcard) R hR⟩
  · intro c hc
    rcases List.mem_append.mp hc with hc | hc
    · exact fr c hc
    · rw [List.mem_singleton.mp hc]; exact argmaxE_lt hn _
  · rw [List.pairwise_append]
    refine ⟨ap.imp hle, List.pairwise_singleton _ _, fun a ha b hb => ?_⟩
    rw [List.mem_singleton.mp hb]
    exact hle (rmin.1 _ a (List.mem_of_mem_drop ha))

end Ens.KC
