import Proofs.C18Jc2
import Proofs.C18Bridge
/-!
Marginals of the joint-count table: row sums, column sums and the total of the table of one
feature pair are the marginal frame counts and the number of frames.
-/
namespace Ens.InfoR
open Finset Ens Ens.Info

/-- number of frames in which feature `x` of `a` is in state `u` -/
def margCount (a : Arr) (x : Nat) (u : Int) : Nat :=
  (List.range a.T).countP fun t => a.get t x = u

theorem sum_ite_int_eq (z : ℤ) (n : ℕ) (h : 0 ≤ z ∧ z < n) :
    (∑ v ∈ range n, if z = (v : ℤ) then 1 else 0) = 1 := by
  rw [Finset.sum_eq_single_of_mem z.toNat (mem_range.2 (by omega)), if_pos (by omega)]
  intro b _ hb
  rw [if_neg (by omega)]

/-- frames are partitioned by the state of one feature -/
theorem sum_countP_partition (l : List ℕ) (g : ℕ → ℤ) (n : ℕ) (q : ℕ → Bool)
    (h : ∀ t ∈ l, 0 ≤ g t ∧ g t < n) :
    ∑ v ∈ range n, l.countP (fun t => q t && decide (g t = (v : ℤ))) = l.countP q := by
  induction l with
  | nil => simp
  | cons t ts ih =>
    have ih' := ih (fun s hs => h s (List.mem_cons_of_mem _ hs))
    have ht := h t List.mem_cons_self
    simp only [List.countP_cons]
    rw [Finset.sum_add_distrib, ih']
    congr 1
    cases hq : q t with
    | false => simp
    | true =>
      simp only [Bool.true_and, decide_eq_true_eq, if_true]
      exact sum_ite_int_eq _ n ht

theorem frameCount_eq (a b : Arr) (x y : Nat) (i j : Int) :
    frameCount a b x y i j
      = (List.range a.T).countP (fun t => decide (a.get t x = i) && decide (b.get t y = j)) := by
  unfold frameCount
  apply List.countP_congr
  intro t _
  simp

theorem rowSum_frameCount (a b : Arr) (x y : Nat) (nB : ℕ) (u : ℕ)
    (hb : ∀ t, t < a.T → 0 ≤ b.get t y ∧ b.get t y < nB) :
    rowSum (fun u v => frameCount a b x y (u : ℤ) (v : ℤ)) nB u = margCount a x u := by
  unfold rowSum
  rw [sumTo_eq_sum]
  simp only [frameCount_eq]
  rw [sum_countP_partition (List.range a.T) (fun t => b.get t y) nB (fun t => decide (a.get t x = (u : ℤ)))
    (fun t ht => hb t (List.mem_range.1 ht))]
  rfl

theorem colSum_frameCount (a b : Arr) (x y : Nat) (nA : ℕ) (v : ℕ)
    (ha : ∀ t, t < a.T → 0 ≤ a.get t x ∧ a.get t x < nA) :
    colSum (fun u v => frameCount a b x y (u : ℤ) (v : ℤ)) nA v
      = (List.range a.T).countP fun t => b.get t y = (v : ℤ) := by
  unfold colSum
  rw [sumTo_eq_sum]
  simp only [frameCount_eq]
  have : ∀ u : ℕ, (List.range a.T).countP (fun t => decide (a.get t x = (u : ℤ)) && decide (b.get t y = (v : ℤ)))
      = (List.range a.T).countP (fun t => decide (b.get t y = (v : ℤ)) && decide (a.get t x = (u : ℤ))) := by
    intro u; apply List.countP_congr; intro t _; simp [and_comm]
  simp only [this]
  rw [sum_countP_partition (List.range a.T) (fun t => a.get t x) nA (fun t => decide (b.get t y = (v : ℤ)))
    (fun t ht => ha t (List.mem_range.1 ht))]

theorem sum_margCount (a : Arr) (x : Nat) (nA : ℕ)
    (ha : ∀ t, t < a.T → 0 ≤ a.get t x ∧ a.get t x < nA) :
    ∑ u ∈ range nA, margCount a x (u : ℤ) = a.T := by
  unfold margCount
  have := sum_countP_partition (List.range a.T) (fun t => a.get t x) nA (fun _ => true)
    (fun t ht => ha t (List.mem_range.1 ht))
  simp only [Bool.true_and] at this
  rw [this]
  simp

theorem total_frameCount (a b : Arr) (x y : Nat) (nA nB : ℕ)
    (ha : ∀ t, t < a.T → 0 ≤ a.get t x ∧ a.get t x < nA)
    (hb : ∀ t, t < a.T → 0 ≤ b.get t y ∧ b.get t y < nB) :
    total (fun u v => frameCount a b x y (u : ℤ) (v : ℤ)) nA nB = a.T := by
  unfold total
  rw [sumTo_eq_sum]
  simp only [rowSum_frameCount a b x y nB _ hb]
  exact sum_margCount a x nA ha

end Ens.InfoR
