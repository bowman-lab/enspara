import Proofs.C14PamStep
import Proofs.C01Total
/-!
C14, distributed PAM: the sweep (`_kmedoids_pam_update` in MPI mode) refines the serial
sweep; consistency and cost monotonicity are inherited from C01/C09.
-/
namespace Ens.MpiPam
open Ens Ens.Cluster Ens.Mpi

variable {lay : Layout} {N : Nat} {D : Table} {props : Option (List (Nat × Nat))} {ms : PState} {ss : St}

/-- a distributed step and a serial step that did the same thing -/
structure StepRel (lay : Layout) (m : MStep) (s : PamStep) : Prop where
  cid : m.cid = s.cid
  y : m.y = s.p
  oldCost : m.oldCost = s.oldCost
  newCost : m.newCost = s.newCost
  acc : m.acc = s.acc
  after : Striped lay m.after s.after

theorem mpiPamLoop_cons_ok {cid : Nat}
    {rest : List Nat} {s s' : PState} {orc orc' : List Nat} {tr : List MStep}
    (h : mpiPamLoop lay D props (cid :: rest) s orc = .ok (s', orc', tr)) :
    ∃ p orc1 st tr2, mpiPropose lay s cid props orc = .ok (p, orc1) ∧ mpiPamStep lay D s cid p = .ok st ∧
      mpiPamLoop lay D props rest st.after orc1 = .ok (s', orc', tr2) ∧ tr = st :: tr2 := by
  simp only [mpiPamLoop] at h
  cases hp : mpiPropose lay s cid props orc with
  | error e => simp [hp] at h
  | ok v =>
    obtain ⟨p, orc1⟩ := v
    simp only [hp] at h
    cases hst : mpiPamStep lay D s cid p with
    | error e => simp [hst] at h
    | ok st =>
      simp only [hst] at h
      cases hl : mpiPamLoop lay D props rest st.after orc1 with
      | error e => simp [hl] at h
      | ok v2 =>
        obtain ⟨s2, orc2, tr2⟩ := v2
        simp only [hl] at h
        injection h with h
        injection h with h1 h
        injection h with h2 h3
        subst h1; subst h2; subst h3
        exact ⟨p, orc1, st, tr2, rfl, hst, hl, rfl⟩

theorem mpiPamLoop_nil_ok {s s' : PState}
    {orc orc' : List Nat} {tr : List MStep} (h : mpiPamLoop lay D props [] s orc = .ok (s', orc', tr)) :
    s' = s ∧ orc' = orc ∧ tr = [] := by
  cases h; exact ⟨rfl, rfl, rfl⟩

theorem mpiPamLoop_cons_of {cid : Nat}
    {rest : List Nat} {s s' : PState} {orc orc1 orc' : List Nat} {p : Nat × Nat} {st : MStep} {tr2 : List MStep}
    (h1 : mpiPropose lay s cid props orc = .ok (p, orc1)) (h2 : mpiPamStep lay D s cid p = .ok st)
    (h3 : mpiPamLoop lay D props rest st.after orc1 = .ok (s', orc', tr2)) :
    mpiPamLoop lay D props (cid :: rest) s orc = .ok (s', orc', st :: tr2) := by
  simp only [mpiPamLoop, h1, h2, h3]

/-- whatever the layout: a step that returns carries its arguments, and its proposal was a
    frame of its owner -/
theorem mpiPamStep_ok {s : PState} {cid : Nat} {p : Nat × Nat} {st : MStep}
    (h : mpiPamStep lay D s cid p = .ok st) :
    st.cid = cid ∧ st.p = p ∧ distribute lay p = .ok st.y := by
  unfold mpiPamStep at h
  cases hd : distribute lay p with
  | error e => simp [hd] at h
  | ok y =>
    simp only [hd] at h
    split at h
    · cases h
    · split at h
      · cases h
      · cases h
      · injection h with h; subst h; exact ⟨rfl, rfl, rfl⟩

theorem loop_refines (hb : LayoutBij lay N) (hm : MeanOK lay N) (D : Table)
    (props : Option (List (Nat × Nat))) (sp : List Nat) :
    ∀ (cids : List Nat) {ms : PState} {ss : St} {orc : List Nat} {ms' : PState} {orc' : List Nat}
      {tr : List MStep}, Striped lay ms ss →
      mpiPamLoop lay D props cids ms orc = .ok (ms', orc', tr) →
      (∀ st ∈ tr, sp[st.cid]? = some st.y) →
      ∃ ss' tr', pamLoop D N (some sp) cids ss [] = .ok (ss', [], tr') ∧ Striped lay ms' ss' ∧
        List.Forall₂ (StepRel lay) tr tr' := by
  intro cids
  induction cids with
  | nil =>
    intro ms ss orc ms' orc' tr hr h _
    obtain ⟨rfl, _, rfl⟩ := mpiPamLoop_nil_ok h
    exact ⟨ss, [], rfl, hr, List.Forall₂.nil⟩
  | cons cid rest ih =>
    intro ms ss orc ms' orc' tr hr h H
    obtain ⟨p, orc1, st, tr2, _, h2, h3, rfl⟩ := mpiPamLoop_cons_ok h
    obtain ⟨e1, _, hd⟩ := mpiPamStep_ok h2
    obtain ⟨v1, v2, hy⟩ := distribute_ok hd
    rcases step_refines hb hm D hr cid v1 v2 with ⟨mst, sst, g1, g2, _, _, g5, g6, g7, g8, g9⟩ | ⟨g1, _⟩
    · rw [h2] at g1
      injection g1 with g1
      subst g1
      obtain ⟨q1, q2, _⟩ := pamStep_spec g2
      have hsp : sp[cid]? = some (lay.X p.1 p.2) := by
        have := H st List.mem_cons_self
        rw [e1, hy] at this; exact this
      have hprop : propose N ss cid (some sp) [] = .ok (lay.X p.1 p.2, []) := by
        unfold propose
        simp only [hsp, hb.lt _ _ v1 v2, if_true]
      obtain ⟨ss', tr', k1, k2, k3⟩ := ih g9 h3 (fun x hx => H x (List.mem_cons_of_mem _ hx))
      refine ⟨ss', sst :: tr', ?_, k2, List.Forall₂.cons ⟨by rw [e1, q1], by rw [g5, q2], g6, g7, g8, g9⟩ k3⟩
      simp only [pamLoop, bind, Except.bind, hprop, g2, k1, pure, Except.pure]
    · rw [h2] at g1; cases g1

theorem loop_steps :
    ∀ (cids : List Nat) {ms : PState} {orc : List Nat} {ms' : PState} {orc' : List Nat} {tr : List MStep},
      mpiPamLoop lay D props cids ms orc = .ok (ms', orc', tr) →
      tr.map (·.cid) = cids ∧ ∀ st ∈ tr, st.p.1 < lay.w ∧ st.p.2 < lay.m st.p.1 ∧
        st.y = lay.X st.p.1 st.p.2 ∧ ∀ ps, props = some ps → ps[st.cid]? = some st.p := by
  intro cids
  induction cids with
  | nil => intro ms orc ms' orc' tr h; rw [(mpiPamLoop_nil_ok h).2.2]; exact ⟨rfl, nofun⟩
  | cons cid rest ih =>
    intro ms orc ms' orc' tr h
    obtain ⟨p, orc1, st, tr2, h1, h2, h3, rfl⟩ := mpiPamLoop_cons_ok h
    obtain ⟨e1, e2, hd⟩ := mpiPamStep_ok h2
    obtain ⟨i1, i2⟩ := ih h3
    refine ⟨by rw [List.map_cons, e1, i1], List.forall_mem_cons.mpr ⟨?_, i2⟩⟩
    rw [e1, e2]
    refine ⟨(distribute_ok hd).1, (distribute_ok hd).2.1, (distribute_ok hd).2.2, fun ps e => ?_⟩
    subst e
    cases hq : ps[cid]? with
    | none => simp only [mpiPropose, hq] at h1; cases h1
    | some q => simp only [mpiPropose, hq] at h1; cases h1; rfl

theorem trace_index {tr : List MStep} {k : Nat} (h : tr.map (·.cid) = List.range k) :
    ∀ st ∈ tr, (tr.map (·.y))[st.cid]? = some st.y := by
  intro st hst
  obtain ⟨j, hj⟩ := List.mem_iff_getElem?.mp hst
  have hc : (List.range k)[j]? = some st.cid := by rw [← h, List.getElem?_map, hj]; rfl
  have hjk : j < k := by simpa using (List.getElem?_eq_some_iff.mp hc).1
  rw [List.getElem?_range hjk] at hc
  rw [← Option.some.inj hc, List.getElem?_map, hj]; rfl

theorem medoidCoords_of_valid (hb : LayoutBij lay N) (ctrs : List (Nat × Nat))
    (hv : ∀ p ∈ ctrs, p.1 < lay.w ∧ p.2 < lay.m p.1) :
    medoidCoords lay ctrs = .ok (ctrs.map fun p => lay.X p.1 p.2) := by
  unfold medoidCoords
  apply mapM_ok
  intro p hp
  obtain ⟨h1, h2⟩ := hv p hp
  have : ¬ lay.w ≤ p.1 := by omega
  simp only [this, if_false]
  exact distribute_of_valid hb h1 h2

/-- on a striped state over a layout without empty ranks, the guards of the distributed sweep
    reduce to the two guards it shares with the serial sweep -/
theorem update_eq (hb : LayoutBij lay N) (D : Table)
    (hr : Striped lay ms ss) (props : Option (List (Nat × Nat))) (orc : List Nat) :
    mpiPamUpdate lay D ms props orc =
      if propsLenBad props ms.ctrs.length = true then
        .error (.mpi .dataInvalid)
      else if ms.ctrs = [] then .error (.mpi .indexError)
      else mpiPamLoop lay D props (List.range ms.ctrs.length) { ms with coords := ss.ctrInds } orc := by
  have g1 : ((List.range lay.w).any fun r => decide (lay.m r = 0)) = false := by
    rw [List.any_eq_false]
    intro r hr'
    have := hb.nonempty r (List.mem_range.mp hr')
    simp; omega
  have g2 : ((List.range lay.w).any fun r => decide ((ms.arr r).assignA.size ≠ lay.m r) ||
      decide ((ms.arr r).distA.size ≠ lay.m r)) = false := by
    rw [List.any_eq_false]
    intro r hr'
    simp [hr.sizeA r (List.mem_range.mp hr'), hr.sizeD r (List.mem_range.mp hr')]
  have g3 : ((List.range lay.w).any fun r => (ms.arr r).fresh) = false := by
    rw [List.any_eq_false]
    intro r hr'
    simp [hr.mfresh r (List.mem_range.mp hr')]
  unfold mpiPamUpdate
  rw [g1, g2, medoidCoords_of_valid hb ms.ctrs hr.valid, hr.ctrs]
  simp only [g3, Bool.false_eq_true, if_false]

theorem update_ok (hb : LayoutBij lay N) (hr : Striped lay ms ss) {orc : List Nat}
    {out : PState × List Nat × List MStep} (h : mpiPamUpdate lay D ms props orc = .ok out) :
    (∀ ps, props = some ps → ps.length = ms.ctrs.length) ∧ ms.ctrs ≠ [] ∧
    mpiPamLoop lay D props (List.range ms.ctrs.length) { ms with coords := ss.ctrInds } orc = .ok out := by
  rw [update_eq hb D hr] at h
  by_cases hc : propsLenBad props ms.ctrs.length = true
  · rw [if_pos hc] at h; cases h
  · rw [if_neg hc] at h
    by_cases hne : ms.ctrs = []
    · rw [if_pos hne] at h; cases h
    · rw [if_neg hne] at h
      refine ⟨?_, hne, h⟩
      intro ps e
      subst e
      simpa [propsLenBad] using hc

/-- **Sweep refinement.**  A distributed sweep that returns did what the serial sweep does on the
    whole data when that is handed, as explicit proposals, any list `sp` that holds at every
    center's position the global frame the distributed sweep proposed there: same decisions, same
    costs, and the resulting distributed state is the striped view of the serial result. -/
theorem update_refines_with (hb : LayoutBij lay N) (hm : MeanOK lay N) (D : Table) (hr : Striped lay ms ss)
    {orc orc' : List Nat} {ms' : PState} {tr : List MStep}
    (h : mpiPamUpdate lay D ms props orc = .ok (ms', orc', tr)) (sp : List Nat)
    (hsp : ∀ st ∈ tr, sp[st.cid]? = some st.y) (hlen : sp.length = ms.ctrs.length) :
    ∃ ss' tr', pamUpdate D N ss (some sp) [] = .ok (ss', [], tr') ∧ Striped lay ms' ss' ∧
      List.Forall₂ (StepRel lay) tr tr' := by
  obtain ⟨_, hne, hl⟩ := update_ok hb hr h
  obtain ⟨ss', tr', k1, k2, k3⟩ := loop_refines hb hm D props sp _ hr.resetFrames hl hsp
  refine ⟨ss', tr', ?_, k2, k3⟩
  have hne' : ss.ctrInds ≠ [] := by
    intro e; rw [← hr.ctrs] at e; exact hne (List.map_eq_nil_iff.mp e)
  rw [pamUpdate_eq_loop hb.N_pos hr.sfresh hne' (hr.inds_lt hb)
    (fun ps e => by cases e; rw [hlen, hr.len_ctrs]), ← hr.len_ctrs]
  exact k1

/-- any source of proposals: the serial sweep is handed the frames the distributed sweep used -/
theorem update_refines (hb : LayoutBij lay N) (hm : MeanOK lay N) (D : Table) (hr : Striped lay ms ss) {orc orc' : List Nat}
    {ms' : PState} {tr : List MStep} (h : mpiPamUpdate lay D ms props orc = .ok (ms', orc', tr)) :
    ∃ ss' tr', pamUpdate D N ss (some (tr.map (·.y))) [] = .ok (ss', [], tr') ∧ Striped lay ms' ss' ∧
      List.Forall₂ (StepRel lay) tr tr' := by
  have t0 := (loop_steps _ (update_ok hb hr h).2.2).1
  refine update_refines_with hb hm D hr h _ (trace_index t0) ?_
  rw [List.length_map, ← List.length_map (f := (·.cid)), t0, List.length_range]

/-- explicit proposals `ps`, given as `(rank, index)` pairs: the serial sweep is handed their
    global frames -/
theorem update_refines_explicit (hb : LayoutBij lay N) (hm : MeanOK lay N)
    (D : Table) (hr : Striped lay ms ss) {ps : List (Nat × Nat)} {orc orc' : List Nat}
    {ms' : PState} {tr : List MStep} (h : mpiPamUpdate lay D ms (some ps) orc = .ok (ms', orc', tr)) :
    ∃ ss' tr', pamUpdate D N ss (some (ps.map fun p => lay.X p.1 p.2)) [] = .ok (ss', [], tr') ∧
      Striped lay ms' ss' ∧ List.Forall₂ (StepRel lay) tr tr' := by
  obtain ⟨hpl, _, hl⟩ := update_ok hb hr h
  refine update_refines_with hb hm D hr h _ (fun st hst => ?_) (by rw [List.length_map, hpl ps rfl])
  obtain ⟨_, _, b, a⟩ := (loop_steps _ hl).2 st hst
  rw [List.getElem?_map, a ps rfl, b]; rfl

/-- the global cost after every accept/reject decision of a trace, in order -/
def costsAfter (lay : Layout) (tr : List MStep) : List (Except Err Rat) :=
  tr.map fun st => mpiCost lay st.after.arr

theorem costsAfter_eq (hb : LayoutBij lay N) (hm : MeanOK lay N)
    {tr : List MStep} {tr' : List PamStep} (h : List.Forall₂ (StepRel lay) tr tr') :
    costsAfter lay tr = (costsOf N tr').map .ok := by
  induction h with
  | nil => rfl
  | cons hrel _ ih =>
    simp only [costsAfter, costsOf, List.map_cons] at ih ⊢
    rw [ih, mpiCost_eq hb hm _ _ hrel.after.dist]

theorem update_consistent (hb : LayoutBij lay N) (hm : MeanOK lay N)
    (T : TableOK D N) (hr : Striped lay ms ss) (hs : Consistent D N ss) {orc orc' : List Nat} {ms' : PState} {tr : List MStep}
    (h : mpiPamUpdate lay D ms props orc = .ok (ms', orc', tr)) :
    ∃ ss', Striped lay ms' ss' ∧ Consistent D N ss' ∧ ss'.ctrInds.length = ss.ctrInds.length := by
  obtain ⟨ss', tr', k1, k2, _⟩ := update_refines hb hm D hr h
  exact ⟨ss', k2, pamUpdate_consistent T hs k1, (pamUpdate_shape k1).len⟩

theorem update_costs {lay : Layout} {N : Nat} (hb : LayoutBij lay N) (hm : MeanOK lay N) {D : Table}
    {ms : PState} {ss : St} (hr : Striped lay ms ss)
    {props : Option (List (Nat × Nat))} {orc orc' : List Nat} {ms' : PState} {tr : List MStep}
    (h : mpiPamUpdate lay D ms props orc = .ok (ms', orc', tr)) :
    ∃ (c0 c1 : Rat) (cs : List Rat), mpiCost lay ms.arr = .ok c0 ∧ mpiCost lay ms'.arr = .ok c1 ∧
      costsAfter lay tr = cs.map .ok ∧ (c0 :: cs).Pairwise (fun x y => y ≤ x) ∧
      (∀ x ∈ c0 :: cs, c1 ≤ x) := by
  obtain ⟨ss', tr', k1, k2, k3⟩ := update_refines hb hm D hr h
  obtain ⟨p1, p2⟩ := pamUpdate_costs k1
  exact ⟨_, _, costsOf N tr', mpiCost_eq hb hm _ _ hr.dist, mpiCost_eq hb hm _ _ k2.dist,
    costsAfter_eq hb hm k3, p1, p2⟩

theorem loop_total (hb : LayoutBij lay N) (hm : MeanOK lay N) (T : TableOK D N) (ps : List (Nat × Nat)) :
    ∀ (cids : List Nat) {ms : PState} {ss : St} (orc : List Nat), Striped lay ms ss → Consistent D N ss →
      (∀ c ∈ cids, c < ss.ctrInds.length) →
      (∀ c ∈ cids, ∃ p, ps[c]? = some p ∧ p.1 < lay.w ∧ p.2 < lay.m p.1) →
      ∃ out, mpiPamLoop lay D (some ps) cids ms orc = .ok out := by
  intro cids
  induction cids with
  | nil => intro ms ss orc _ _ _ _; exact ⟨_, rfl⟩
  | cons cid rest ih =>
    intro ms ss orc hr hs hc hp
    obtain ⟨p, e, v1, v2⟩ := hp cid List.mem_cons_self
    have hcid := hc cid List.mem_cons_self
    have hpn := hb.lt _ _ v1 v2
    have h1 : mpiPropose lay ms cid (some ps) orc = .ok (p, orc) := by
      unfold mpiPropose; simp only [e]
    rcases step_refines hb hm D hr cid v1 v2 with ⟨mst, sst, g1, g2, _, _, _, _, _, _, g9⟩ | ⟨_, g2⟩
    · have hs1 := pamStep_consistent T hs hcid hpn g2
      have hlen : sst.after.ctrInds.length = ss.ctrInds.length :=
        (pamStep_shape (k := ss.ctrInds.length) ⟨rfl, hs.frames, hs.inds_lt⟩ hpn g2).len
      obtain ⟨out, h3⟩ := ih orc g9 hs1
        (fun c hc' => by rw [hlen]; exact hc c (List.mem_cons_of_mem _ hc'))
        (fun c hc' => hp c (List.mem_cons_of_mem _ hc'))
      obtain ⟨s', orc', tr2⟩ := out
      exact ⟨_, mpiPamLoop_cons_of h1 g1 h3⟩
    · obtain ⟨st, h2⟩ := pamStep_total T hs hcid hpn
      rw [h2] at g2; cases g2

theorem update_total (hb : LayoutBij lay N) (hm : MeanOK lay N)
    (T : TableOK D N) (hr : Striped lay ms ss) (hs : Consistent D N ss)
    {ps : List (Nat × Nat)} (hl : ps.length = ms.ctrs.length)
    (hv : ∀ p ∈ ps, p.1 < lay.w ∧ p.2 < lay.m p.1) (orc : List Nat) :
    ∃ out, mpiPamUpdate lay D ms (some ps) orc = .ok out := by
  have hne : ms.ctrs ≠ [] := by
    intro e
    obtain ⟨k, c, _, h2, _⟩ := hs.lab 0 hb.N_pos
    rw [← hr.ctrs, e] at h2; simp at h2
  rw [update_eq hb D hr]
  simp only [propsLenBad, hl, ne_eq, not_true_eq_false, decide_false, Bool.false_eq_true, if_false, hne]
  apply loop_total hb hm T ps _ orc hr.resetFrames hs.resetFrames
  · intro c hc
    have := List.mem_range.mp hc
    rw [hr.len_ctrs] at this; exact this
  · intro c hc
    have hc' : c < ps.length := by rw [hl]; exact List.mem_range.mp hc
    exact ⟨ps[c], List.getElem?_eq_getElem hc', hv _ (List.getElem_mem hc')⟩

end Ens.MpiPam
