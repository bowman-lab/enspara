import Proofs.C12Sweep

/-! A sweep that leaves `X` unchanged leaves it unchanged at every single step; hence the
Prinz self-consistency equations hold at such a state.  (Every position is written once in a
sweep, so a written value survives to the end; if the end is the beginning, the first step was the
identity, and so on along the list.) -/

set_option linter.unusedSectionVars false

namespace Ens.C12P
open Ens Ens.Mle

variable {K : Type} [Field K] [LinearOrder K] [IsStrictOrderedRing K] {n : Nat}

variable {sqrt log : K → K} {C : Mat K n} {Crs : Vec K n} {st : St K n}

theorem diagPhaseOn_other (l : List (Fin n)) (p : St K n × K) (a b : Fin n)
    (h : ¬ (a = b ∧ a ∈ l)) :
    mget (diagPhaseOn log C Crs l p).1.X a b = mget p.1.X a b := by
  induction l generalizing p with
  | nil => rfl
  | cons i rest ih =>
    rw [diagPhaseOn_cons, ih _ (fun ⟨x, y⟩ => h ⟨x, List.mem_cons_of_mem _ y⟩), diagStep_X,
      if_neg (fun ⟨x, y⟩ => h ⟨x.trans y.symm, x ▸ List.mem_cons_self⟩)]

theorem pairPhaseOn_other (l : List (Fin n × Fin n)) (p q : St K n × K)
    (hrun : pairPhaseOn sqrt log C Crs l p = .ok q)
    (a b : Fin n) (h1 : (a, b) ∉ l) (h2 : (b, a) ∉ l) : mget q.1.X a b = mget p.1.X a b := by
  induction l generalizing p with
  | nil => simp only [pairPhaseOn] at hrun; injection hrun with hrun; rw [hrun]
  | cons ij rest ih =>
    obtain ⟨i, j⟩ := ij
    simp only [pairPhaseOn] at hrun
    cases hs1 : pairStep sqrt C Crs p.1 i j with
    | error e => rw [hs1] at hrun; cases hrun
    | ok st1 =>
      rw [hs1] at hrun
      obtain ⟨v, rfl⟩ := pairStep_eq hs1
      rw [ih _ hrun (fun h => h1 (List.mem_cons_of_mem _ h))
        (fun h => h2 (List.mem_cons_of_mem _ h)), setPair_X, if_neg]
      rintro (⟨rfl, rfl⟩ | ⟨rfl, rfl⟩)
      · exact h1 List.mem_cons_self
      · exact h2 List.mem_cons_self

theorem diagPhaseOn_fixed (l : List (Fin n)) (hl : l.Nodup) (st : St K n) (x : K)
    (hfix : ∀ i ∈ l, mget (diagPhaseOn log C Crs l (st, x)).1.X i i = mget st.X i i) :
    (∀ i ∈ l, diagStep C Crs st i = st) ∧ (diagPhaseOn log C Crs l (st, x)).1 = st := by
  induction l generalizing x with
  | nil => exact ⟨fun _ h => absurd h List.not_mem_nil, rfl⟩
  | cons i rest ih =>
    have hnd := List.nodup_cons.1 hl
    have hstep : diagStep C Crs st i = st := by
      rw [diagStep_eq_self_iff]
      have := hfix i List.mem_cons_self
      rwa [diagPhaseOn_cons, diagPhaseOn_other _ _ _ _ (fun ⟨_, y⟩ => hnd.1 y), diagStep_X,
        if_pos (⟨rfl, rfl⟩ : i = i ∧ i = i)] at this
    simp only [diagPhaseOn_cons, hstep] at hfix ⊢
    obtain ⟨h1, h2⟩ := ih hnd.2 _ (fun k hk => hfix k (List.mem_cons_of_mem _ hk))
    refine ⟨fun k hk => ?_, h2⟩
    rcases List.mem_cons.1 hk with rfl | hk
    · exact hstep
    · exact h1 k hk

theorem pairPhaseOn_fixed (hD : Data C Crs)
    (l : List (Fin n × Fin n)) (hl : l.Nodup) (hlt : ∀ p ∈ l, p.1 < p.2)
    (st : St K n) (x : K) (q : St K n × K) (h : Inv st)
    (hrun : pairPhaseOn sqrt log C Crs l (st, x) = .ok q)
    (hfix : ∀ p ∈ l, mget q.1.X p.1 p.2 = mget st.X p.1 p.2) :
    ∀ p ∈ l, newV sqrt C Crs st p.1 p.2 = mget st.X p.1 p.2 := by
  induction l generalizing x with
  | nil => exact fun _ h => absurd h List.not_mem_nil
  | cons ij rest ih =>
    obtain ⟨i, j⟩ := ij
    have hnd := List.nodup_cons.1 hl
    have hij : i < j := hlt (i, j) List.mem_cons_self
    simp only [pairPhaseOn, pairStep_ok hD h i j] at hrun
    -- the value written at (i,j) survives the rest of the phase
    have hji : (j, i) ∉ rest := fun hmem =>
      lt_asymm hij (hlt (j, i) (List.mem_cons_of_mem _ hmem))
    have hv : newV sqrt C Crs st i j = mget st.X i j := by
      have := hfix (i, j) List.mem_cons_self
      dsimp only at this
      rwa [pairPhaseOn_other rest _ q hrun i j hnd.1 hji, setPair_X,
        if_pos (Or.inl ⟨rfl, rfl⟩)] at this
    rw [hv, setPair_self (h.symm i j) hij.ne] at hrun
    intro p hp
    rcases List.mem_cons.1 hp with rfl | hp
    · exact hv
    · exact ih hnd.2 (fun q hq => hlt q (List.mem_cons_of_mem _ hq)) _ hrun
        (fun q hq => hfix q (List.mem_cons_of_mem _ hq)) p hp

theorem pairs_nodup (n : Nat) : (pairs n).Nodup := by
  unfold pairs
  rw [List.nodup_flatMap]
  constructor
  · intro i _
    apply List.Nodup.map
    · intro a b h; injection h
    · exact (List.nodup_finRange n).filter _
  · apply List.Nodup.pairwise_of_forall_ne (List.nodup_finRange n)
    intro a _ b _ hab p hp1 hp2
    simp only [List.mem_map, List.mem_filter] at hp1 hp2
    obtain ⟨_, _, rfl⟩ := hp1
    obtain ⟨_, _, h⟩ := hp2
    injection h with h1 _
    exact hab h1.symm

theorem sweep_fixed (hD : Data C Crs) (h : Inv st) {q : St K n × K}
    (hsw : sweep sqrt log C Crs st = .ok q) (hX : q.1.X = st.X) :
    (∀ i, diagStep C Crs st i = st) ∧
    (∀ i j, i < j → newV sqrt C Crs st i j = mget st.X i j) := by
  have hsw : pairPhaseOn sqrt log C Crs (pairs n)
      (diagPhaseOn log C Crs (List.finRange n) (st, 0)) = .ok q := hsw
  -- diagonal entries are not touched by the pair phase
  have hdiagfix : ∀ i ∈ List.finRange n,
      mget (diagPhaseOn log C Crs (List.finRange n) (st, 0)).1.X i i = mget st.X i i := by
    intro i _
    rw [← pairPhaseOn_other _ _ _ hsw i i (fun hm => lt_irrefl _ (mem_pairs.1 hm))
      (fun hm => lt_irrefl _ (mem_pairs.1 hm)), hX]
  obtain ⟨hd1, hd2⟩ := diagPhaseOn_fixed (List.finRange n) (List.nodup_finRange n) st 0 hdiagfix
  rw [show diagPhaseOn log C Crs (List.finRange n) (st, 0) = (st, _) from Prod.ext hd2 rfl] at hsw
  refine ⟨fun i => hd1 i (List.mem_finRange i), fun i j hij => ?_⟩
  exact pairPhaseOn_fixed hD (pairs n) (pairs_nodup n) (fun p hp => mem_pairs.1 hp) st _ q h hsw
    (fun p _ => by rw [hX]) (i, j) (mem_pairs.2 hij)

theorem prinz_of_sweep_fixed (hs : SqrtSpec sqrt) (hD : Data C Crs) (h : Inv st) {q : St K n × K}
    (hsw : sweep sqrt log C Crs st = .ok q) (hX : q.1.X = st.X) :
    (∀ i, 0 < vget Crs i - mget C i i →
      mget st.X i i * vget Crs i = mget C i i * vget st.rs i) ∧
    (∀ i j, i ≠ j → coefA C Crs i j ≠ 0 →
      (mget C i j + mget C j i) * vget st.rs i * vget st.rs j
        = mget st.X i j * (vget Crs i * vget st.rs j + vget Crs j * vget st.rs i)) := by
  obtain ⟨hd, hp⟩ := sweep_fixed hD h hsw hX
  refine ⟨fun i hden => diag_fixed_eq i hden (diagStep_eq_self_iff.1 (hd i)), fun i j hij ha => ?_⟩
  rcases lt_or_gt_of_ne hij with hlt | hgt
  · exact pair_fixed_eq hs hD h i j ha (hp i j hlt)
  · have := pair_fixed_eq hs hD h j i (by rwa [coefA_comm]) (hp j i hgt)
    rw [h.symm i j]
    linear_combination this

end Ens.C12P
