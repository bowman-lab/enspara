import Proofs.C06Fixed
/-!
Histories and observers for C06.
-/
namespace Ens.RaggedW
variable {α β : Type}

/-- every operation of the history is in scope at the state it is applied to, and none of them is
the stale row-view write -/
def AllInScope (cfg : Cfg) : State α → List (Op α) → Prop
  | _, [] => True
  | s, op :: ops => InScope cfg s op ∧ ¬ StaleWrite cfg s op ∧
      (match step cfg s op with
        | .ok (s', _) => AllInScope cfg s' ops
        | .error _ => AllInScope cfg s ops)

theorem run_refines (cfg : Cfg) (ops : List (Op α)) : ∀ (s : State α), Inv s → AllInScope cfg s ops →
    (run cfg s ops).array = specRun s.array ops ∧ Inv (run cfg s ops) := by
  induction ops with
  | nil => intro s h _; exact ⟨rfl, h⟩
  | cons op ops ih =>
    intro s h hall
    obtain ⟨hin, hst, hrest⟩ := hall
    have hok := stepOK_of_inScope cfg h op hin
    have href := hok.absR_eq
    simp only [run, specRun]
    cases hs : step cfg s op with
    | error e =>
      rw [hs] at href hrest
      simp only [absR] at href
      rw [← href]
      exact ih s h hrest
    | ok res =>
      obtain ⟨s', o⟩ := res
      rw [hs] at href hrest
      simp only [absR] at href
      rw [← href]
      exact ih s' ((hok.inv h hs).1 hst) hrest

theorem obsRow_eq (s : State α) (i : Int) : obsRow s i = specRow s.array i := rfl

theorem obsElem_eq {s : State α} (h : Coherent s) (i j : Int) : obsElem s i j = specElem s.array i j := by
  unfold obsElem specElem
  rw [h.lengths_eq, convertOne_eq_specCell]
  cases hc : specCell s.array (i, j) with
  | error e => rfl
  | ok p =>
    obtain ⟨row, h1, h2⟩ := specCell_valid hc
    simp only [mapOk_ok, specCellAt, h1]
    rw [h.data_eq, getElem?_flatten_flatOf s.array p row h1 h2]
    rw [List.getElem?_eq_getElem h2]

theorem obsIterAux_eq (s : State α) : ∀ (fuel i : Nat), s.array.length - i < fuel →
    obsIterAux s fuel i = s.array.drop i := by
  intro fuel
  induction fuel with
  | zero => intro i h; exact absurd h (Nat.not_lt_zero _)
  | succ n ih =>
    intro i h
    unfold obsIterAux obsRow
    by_cases hi : i < s.array.length
    · have h1 : normIdx s.array.length (i : Int) = .ok i := normIdx_ofNat hi
      have h2 : s.array[i]? = some s.array[i] := List.getElem?_eq_getElem hi
      simp only [h1, h2]
      rw [ih (i + 1) (by omega)]
      exact (List.drop_eq_getElem_cons hi).symm
    · have h1 : normIdx s.array.length (i : Int) = .error .indexError := by
        unfold normIdx
        have : (0 : Int) ≤ (i : Int) := Int.natCast_nonneg i
        have h3 : ¬ ((i : Int) < (s.array.length : Int)) := by
          intro hlt
          exact hi (by exact_mod_cast hlt)
        simp only [this, if_true, h3, if_false]
      simp only [h1]
      rw [List.drop_eq_nil_of_le (by omega)]

/-- iterating the object (`for row in a`) yields the rows -/
theorem obsIter_eq (s : State α) : obsIter s = s.array := by
  unfold obsIter
  rw [obsIterAux_eq s _ 0 (by omega)]
  rfl

theorem obsFlat_eq {s : State α} (h : Coherent s) : obsFlat s = s.array.flatten := h.data_eq
theorem obsLengths_eq {s : State α} (h : Coherent s) : obsLengths s = s.array.map List.length := h.lengths_eq
theorem obsLen_eq (s : State α) : obsLen s = s.array.length := rfl
theorem obsSize_eq {s : State α} (h : Coherent s) : obsSize s = (s.array.map List.length).sum := by
  unfold obsSize
  rw [h.data_eq, sum_map_length]
theorem obsReduce_eq {s : State α} (h : Coherent s) (f : β → α → β) (init : β) :
    obsReduce s f init = s.array.flatten.foldl f init := by
  unfold obsReduce
  rw [h.data_eq]
/-- `starts[r]` is the number of cells in the rows before `r` -/
theorem obsStarts_eq {s : State α} (h : Coherent s) (r : Nat) (hr : r < s.array.length) :
    (obsStarts s)[r]? = some ((s.array.take r).map List.length).sum := by
  unfold obsStarts
  rw [starts_getElem? _ _ (by rw [h.lengths_eq]; simpa using hr), h.lengths_eq]
  simp [startOf, List.map_take]

theorem kind_ne_objBlock (cfg : Cfg) (h : cfg.arrayViewsFix = true) (s : State α) :
    s.kind cfg ≠ .objBlock := by
  unfold State.kind
  rw [h, if_pos rfl]
  split
  · split <;> nofun
  · nofun

theorem not_stale_of_fix (cfg : Cfg) (h : cfg.arrayViewsFix = true) (s : State α) (op : Op α) :
    ¬ StaleWrite cfg s op := by
  cases op <;> first | exact id | exact kind_ne_objBlock cfg h s

end Ens.RaggedW
