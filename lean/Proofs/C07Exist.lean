import Mathlib.LinearAlgebra.Matrix.NonsingularInverse
import Proofs.C07
/-!
C07: existence of the solver outputs.  Under the ergodicity hypotheses `I − Q` is non-singular: uniqueness
(`absorbing_unique`, maximum principle) makes `v ↦ (I−Q) v` injective on `Fin n → ℚ`, hence the matrix is a unit
(finite square system over a field), hence surjective — every right-hand side has a solution.
-/
open Finset

namespace Ens.Tpt
open LinSolveT

/-- the `n × n` block of an index-function matrix as a Mathlib matrix -/
def toMatrix (n : Nat) (A : Mat) : Matrix (Fin n) (Fin n) ℚ := fun i j => A i.val j.val

def ext0 {n : Nat} (v : Fin n → ℚ) : Vec := fun i => if h : i < n then v ⟨i, h⟩ else 0

theorem ext0_val {n : Nat} (v : Fin n → ℚ) (i : Fin n) : ext0 v i.val = v i := dif_pos i.isLt

theorem toMatrix_mulVec {n : Nat} (A : Mat) (v : Fin n → ℚ) (i : Fin n) :
    (toMatrix n A).mulVec v i = ∑ j ∈ range n, A i.val j * ext0 v j := by
  rw [Finset.sum_range]
  show ∑ j : Fin n, A i.val j.val * v j = _
  exact Finset.sum_congr rfl fun j _ => by rw [ext0_val]

theorem isSolution_of_mulVec {n m : Nat} (A : Mat) (X : Nat → Fin n → ℚ) (B : Mat)
    (h : ∀ k, k < m → ∀ i : Fin n, (toMatrix n A).mulVec (X k) i = B i.val k) :
    IsSolution n m A (fun i k => ext0 (X k) i) B :=
  isSolution_iff.2 fun i hi k hk =>
    (toMatrix_mulVec A (X k) ⟨i, hi⟩).symm.trans (h k hk ⟨i, hi⟩)

theorem ImQ_isUnit {n : Nat} {T : Mat} {S : List Nat}
    (hS : ∀ s ∈ S, s < n) (h : Absorbing n T S) :
    IsUnit (toMatrix n (ImQ T S)) := by
  rw [← Matrix.mulVec_injective_iff_isUnit]
  intro v w hvw
  -- `ext0 v` and `ext0 w` solve the same system, the one whose right side is `(I−Q) (ext0 v)`
  have key : ∀ u, (toMatrix n (ImQ T S)).mulVec u = (toMatrix n (ImQ T S)).mulVec v →
      IsSolution n 1 (ImQ T S) (fun i _ => ext0 u i)
        fun i _ => ∑ j ∈ range n, ImQ T S i j * ext0 v j :=
    fun u hu => isSolution_of_mulVec _ (fun _ => u) _ fun _ _ i =>
      (congrFun hu i).trans (toMatrix_mulVec _ v i)
  have huniq := absorbing_unique hS h (key v rfl) (key w hvw.symm)
  funext i
  rw [← ext0_val v, ← ext0_val w]
  exact huniq i.val i.isLt

theorem absorbing_exists {n : Nat} {T : Mat} {S : List Nat}
    (hS : ∀ s ∈ S, s < n) (h : Absorbing n T S) (m : Nat) (R : Mat) :
    ∃ B : Mat, IsSolution n m (ImQ T S) B R := by
  have hsurj := Matrix.mulVec_surjective_iff_isUnit.2 (ImQ_isUnit hS h)
  choose sol hsol using fun k : Nat => hsurj (fun i : Fin n => R i.val k)
  exact ⟨fun i k => ext0 (sol k) i, isSolution_of_mulVec _ sol R fun k _ i => congrFun (hsol k) i⟩

end Ens.Tpt
