import Proofs.C18Jc
/-!
`libinfo.bincount2d` (1-D kernel): what a successful call establishes and returns, and how often a
cell is named among its writes.  Core Lean only.
-/
namespace Ens.Info
open Ens.Sched

theorem bincount2d_ok (a b : Arr) (nA nB : Int) (h : Tab2) (hk : bincount2d a b nA nB = .ok h) :
    0 ≤ nA ∧ 0 ≤ nB ∧ a.T = b.T ∧
    (0 < a.T → ∀ v ∈ a.entries, 0 ≤ v ∧ v < nA) ∧ (0 < a.T → ∀ v ∈ b.entries, 0 ≤ v ∧ v < nB) ∧
    h = { nA := nA, nB := nB,
          cnt := runSteps ((writes1 a b).map fun w => bumpS w.1 w.2.1 w.2.2) zeroSlab 0 } := by
  unfold bincount2d at hk
  obtain ⟨h1, hk⟩ := ite_error_eq_ok.1 hk
  obtain ⟨h2, hk⟩ := ite_not_error_eq_ok.1 hk
  by_cases hT : a.T > 0
  · rw [if_pos hT] at hk
    split at hk
    · next ma mb la lb hma hmb hla hlb =>
      obtain ⟨h3, hk⟩ := ite_not_error_eq_ok.1 hk
      obtain ⟨h4, hk⟩ := ite_not_error_eq_ok.1 hk
      cases hk
      have a1 := ((max?_guard a.entries nA).1 ⟨ma, hma, h3.1⟩).2
      have a2 := ((min?_guard a.entries 0).1 ⟨la, hla, h4.1⟩).2
      have b1 := ((max?_guard b.entries nB).1 ⟨mb, hmb, h3.2⟩).2
      have b2 := ((min?_guard b.entries 0).1 ⟨lb, hlb, h4.2⟩).2
      exact ⟨by omega, by omega, h2, fun _ v hv => ⟨a2 v hv, a1 v hv⟩, fun _ v hv => ⟨b2 v hv, b1 v hv⟩, rfl⟩
    · cases hk
  · rw [if_neg hT] at hk
    cases hk
    exact ⟨by omega, by omega, h2, fun h0 => absurd h0 hT, fun h0 => absurd h0 hT, rfl⟩

theorem count_writes1 (a b : Arr) (i j : Int) :
    (writes1 a b).count (0, i, j) = frameCount a b 0 0 i j := by
  unfold writes1 frameCount
  rw [count_inner 0 (fun t => a.get t 0) (fun t => b.get t 0) a.T 0 i j]
  simp

end Ens.Info
