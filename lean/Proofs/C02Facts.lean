import Proofs.C02Gonzalez
import Proofs.C02Warm

/-! Whole calls with and without the shortcut: they agree (`ResAgree`) for a cold start or `GoodInit`, so
every successful call has a plain run behind it, and the default fuel is enough. -/
namespace Ens.KC

/-- outcome of two calls that cannot be told apart on the frames -/
def ResAgree (n : Nat) : Except Err Result → Except Err Result → Prop
  | .ok r1, .ok r2 => StAgree n r1.st r2.st ∧ r1.trace = r2.trace ∧ r1.radius = r2.radius
  | .error e1, .error e2 => e1 = e2
  | _, _ => False

theorem LoopAgree.toResAgree {n : Nat} (hn : 0 < n) {x y : Except Err (St × List (Nat × ERat))}
    (h : LoopAgree n x y) :
    ResAgree n (x.map fun p => ⟨p.1, p.2, radius n p.1⟩) (y.map fun p => ⟨p.1, p.2, radius n p.1⟩) := by
  rcases x with ex | ⟨a, b⟩ <;> rcases y with ey | ⟨a', b'⟩
  · exact h
  · exact h
  · exact h
  · exact ⟨h.1, h.2, radius_congr (fun f hf => (h.1.2.2 f hf).1) hn⟩

theorem initState_inv {D : Table} {n : Nat} {init : Option (List Nat)}
    (hinit : init = none ∨ ∃ cs, init = some cs ∧ GoodInit D n cs) :
    ColdLike n (initState D n init) ∨ Lab D n (initState D n init) := by
  rcases hinit with rfl | ⟨cs, rfl, g⟩
  · exact Or.inl (ColdLike_cold n)
  · exact Or.inr (GoodInit_Lab g)

theorem kcenters_tri_agree (D : Table) (n : Nat) (cfg : Cfg)
    (symm : ∀ x y, x < n → y < n → D x y = D y x)
    (tri : ∀ x y z, x < n → y < n → z < n → D x z ≤ D x y + D y z)
    (hinit : cfg.init = none ∨ ∃ cs, cfg.init = some cs ∧ GoodInit D n cs) :
    ResAgree n (kcenters D n { cfg with tri := false }) (kcenters D n { cfg with tri := true }) := by
  rw [kcenters, kcenters]
  rcases kcentersFuel_cases D n cfg with ⟨e, _, he⟩ | ⟨nc, cut, _, hn, hl⟩
  · rw [he, he]; exact rfl
  · rw [hl, hl]
    exact (loop_agree hn symm tri nc cut _ _ _ (StAgree.refl _ _) (initState_inv hinit)).toResAgree hn

theorem LoopAgree.error_right {n : Nat} {x y : Except Err (St × List (Nat × ERat))} {e : Err}
    (h : LoopAgree n x y) (hy : y = .error e) : x = .error e := by
  subst hy
  rcases x with ex | ⟨a, b⟩
  · exact congrArg _ h
  · exact h.elim

/-- Behind every successful call there is a plain run with the same trace and radius: the call itself
without the shortcut, its plain twin with it. -/
theorem plain_run {D : Table} {n : Nat} {cfg : Cfg} {res : Result}
    (symm : ∀ x y, x < n → y < n → D x y = D y x)
    (tri : ∀ x y z, x < n → y < n → z < n → D x z ≤ D x y + D y z)
    (hmode : cfg.tri = false ∨ cfg.init = none ∨ ∃ cs, cfg.init = some cs ∧ GoodInit D n cs)
    (h : kcenters D n cfg = .ok res) :
    ∃ nc cut sf, 0 < n ∧ Run D n false nc cut (initState D n cfg.init) sf res.trace ∧
      res.radius = radius n sf := by
  cases htri : cfg.tri with
  | false =>
    obtain ⟨nc, cut, _, hn, hrun, hr⟩ := kcenters_run h
    exact ⟨nc, cut, res.st, hn, htri ▸ hrun, hr⟩
  | true =>
    have hinit := hmode.resolve_left (by rw [htri]; exact Bool.noConfusion)
    have hag := kcenters_tri_agree D n cfg symm tri hinit
    rw [show ({ cfg with tri := true } : Cfg) = cfg by rw [← htri], h] at hag
    cases hplain : kcenters D n { cfg with tri := false } with
    | error e => rw [hplain] at hag; exact hag.elim
    | ok r1 =>
      rw [hplain] at hag
      obtain ⟨nc, cut, _, hn, hrun, hr⟩ := kcenters_run hplain
      exact ⟨nc, cut, r1.st, hn, hag.2.1 ▸ hrun, hag.2.2 ▸ hr⟩

theorem fuelFor_enough {D : Table} {n : Nat} (hn : 0 < n) (cfg : Cfg) (nc : Option Int) (cut : ERat)
    (hyp : (∃ k, nc = some k) ∨
      ((cfg.tri = false ∨
          ((∀ x y, x < n → y < n → D x y = D y x) ∧
           (∀ x y z, x < n → y < n → z < n → D x z ≤ D x y + D y z) ∧
           (cfg.init = none ∨ ∃ cs, cfg.init = some cs ∧ GoodInit D n cs))) ∧
        ∃ q, cut = some q ∧ ∀ c, c < n → D c c ≤ q)) :
    loop D n cfg.tri nc cut (fuelFor n nc (initState D n cfg.init)) (initState D n cfg.init) ≠
      .error .outOfFuel := by
  cases nc with
  | some k => exact loop_ne_outOfFuel_fin k _ _ (le_refl _)
  | none =>
    obtain ⟨hp, q, rfl, hdiag⟩ := hyp.resolve_left (fun ⟨_, hk⟩ => nomatch hk)
    have hplain := loop_ne_outOfFuel_cut (nc := none) hn hdiag n (initState D n cfg.init)
      (farCount_le _ _ _)
    cases htri : cfg.tri with
    | false => exact hplain
    | true =>
      obtain ⟨symm, tri, hinit⟩ := hp.resolve_left (by rw [htri]; exact Bool.noConfusion)
      exact fun hc => hplain ((loop_agree hn symm tri none (some q) n _ _ (StAgree.refl _ _)
        (initState_inv hinit)).error_right hc)

end Ens.KC
