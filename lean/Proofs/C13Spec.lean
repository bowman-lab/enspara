import Proofs.C13Call
/-! The mathematical distances and the row sums of the model. -/
namespace Ens.Dist
open Ens.Sched

/-- Σ_j (x_j − y_j)²  (squared 2-norm of x − y) -/
def sqDist (xs ys : List Rat) : Rat := ((xs.zip ys).map (fun p => (p.1 - p.2) ^ 2)).sum
/-- Σ_j |x_j − y_j|  (1-norm of x − y) -/
def l1Dist (xs ys : List Rat) : Rat := ((xs.zip ys).map (fun p => |p.1 - p.2|)).sum
/-- #{ j | x_j ≠ y_j } -/
def hammingCount (xs ys : List Int) : Nat := ((xs.zip ys).filter (fun p => p.1 ≠ p.2)).length
/-- integer data seen as rationals -/
def toRat (l : List Int) : List Rat := l.map (fun (z : Int) => (z : Rat))

theorem sum_map_congr {α} (l : List α) (f g : α → Rat) (h : ∀ a ∈ l, f a = g a) :
    (l.map f).sum = (l.map g).sum := by
  rw [List.map_congr_left h]

theorem sqDist_nonneg (xs ys : List Rat) : 0 ≤ sqDist xs ys :=
  List.sum_nonneg (fun x hx => by obtain ⟨p, -, rfl⟩ := List.mem_map.mp hx; exact sq_nonneg _)

theorem zip_toRat (xs ys : List Int) :
    (toRat xs).zip (toRat ys) = (xs.zip ys).map (fun p => (((p.1 : Int) : Rat), ((p.2 : Int) : Rat))) := by
  simp [toRat, List.zip_map]

theorem sum_euclid_rat (xs ys : List Rat) :
    (rowTerms (termRat .euclidean) xs ys).sum = sqDist xs ys :=
  sum_map_congr _ _ _ (fun p _ => (sq (p.1 - p.2)).symm)

theorem sum_manhattan_rat (xs ys : List Rat) :
    (rowTerms (termRat .manhattan) xs ys).sum = l1Dist xs ys :=
  sum_map_congr _ _ _ (fun p _ => termRat_manhattan p.1 p.2)

theorem rowResult_sqDist (w : Nat) (terms : List Rat) (c : Cell) (xs ys : List Rat)
    (h : terms.sum = sqDist xs ys) : rowResult .euclidean w terms c = .sqrt (sqDist xs ys) := by
  rw [rowResult_euclidean w terms c (h ▸ sqDist_nonneg xs ys), h]

theorem rowResult_l1Dist (w : Nat) (terms : List Rat) (c : Cell) (xs ys : List Rat)
    (h : terms.sum = l1Dist xs ys) : rowResult .manhattan w terms c = .val (l1Dist xs ys) := by
  rw [rowResult_manhattan, h]

theorem sum_int (term : Int → Int → Rat) (g : Rat → Rat → Rat) (xs ys : List Int)
    (h : ∀ p ∈ xs.zip ys, term p.1 p.2 = g p.1 p.2) :
    (rowTerms term xs ys).sum = (((toRat xs).zip (toRat ys)).map (fun p => g p.1 p.2)).sum := by
  unfold rowTerms
  rw [zip_toRat, List.map_map]
  exact sum_map_congr _ _ _ h

theorem sum_euclid_int (a : IntArith) (c : CArith) (xs ys : List Int)
    (h : a = .viaDouble ∨ ∀ p ∈ xs.zip ys, NoOverflowSq c p.1 p.2) :
    (rowTerms (termInt a .euclidean c) xs ys).sum = sqDist (toRat xs) (toRat ys) :=
  sum_int _ (fun x y => (x - y) ^ 2) xs ys
    (fun p hp => termInt_euclid a c p.1 p.2 (h.imp_right (· p hp)))

theorem sum_manhattan_int (a : IntArith) (c : CArith) (xs ys : List Int)
    (h : a = .viaDouble ∨ ∀ p ∈ xs.zip ys, NoOverflowDiff c p.1 p.2) :
    (rowTerms (termInt a .manhattan c) xs ys).sum = l1Dist (toRat xs) (toRat ys) :=
  sum_int _ (fun x y => |x - y|) xs ys
    (fun p hp => termInt_manhattan a c p.1 p.2 (h.imp_right (· p hp)))

theorem sum_ite_eq_filter_length {α} (l : List α) (P : α → Prop) [DecidablePred P] :
    (l.map (fun a => if P a then (1 : Rat) else 0)).sum = ((l.filter (fun a => decide (P a))).length : Rat) := by
  induction l with
  | nil => simp
  | cons a as ih =>
    rw [List.map_cons, List.sum_cons, ih, List.filter_cons]
    by_cases h : P a
    · simp [h]; ring
    · simp [h]

theorem sum_hamming_int (a : IntArith) (c : CArith) (xs ys : List Int) :
    (rowTerms (termInt a .hamming c) xs ys).sum = (hammingCount xs ys : Rat) :=
  (sum_map_congr _ _ _ fun p _ => termInt_hamming a c p.1 p.2).trans
    (sum_ite_eq_filter_length _ _)

theorem rowTerms_length {ε} (term : ε → ε → Rat) (xs ys : List ε) (h : xs.length = ys.length) :
    (rowTerms term xs ys).length = ys.length := by
  simp [rowTerms, h]

end Ens.Dist
