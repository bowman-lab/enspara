import Proofs.C01Sweep
/-!
C01/C09: one sweep, several sweeps, the k-centers loop and its invariant `KInv`, the entry points.
-/
namespace Ens.Cluster

variable {D : Table} {n : Nat} {props : Option (List Nat)} {s : St}

theorem Consistent.resetFrames (h : Consistent D n s) :
    Consistent D n { s with ctrFrames := s.ctrInds } :=
  { notFresh := h.notFresh, frames := rfl, inds_lt := h.inds_lt, lab := h.lab, best := h.best, own := h.own }

theorem pamUpdate_consistent (T : TableOK D n) {s' : St}
    {orc orc' : List Nat} {tr : List PamStep} (hs : Consistent D n s)
    (h : pamUpdate D n s props orc = .ok (s', orc', tr)) : Consistent D n s' :=
  (pamLoop_consistent T _ (fun _ hc => List.mem_range.mp hc) hs.resetFrames (pamUpdate_ok h).2.2.2.2.2).1

theorem pamUpdate_shape {s' : St} {orc orc' : List Nat} {tr : List PamStep}
    (h : pamUpdate D n s props orc = .ok (s', orc', tr)) : Shape n s.ctrInds.length s' := by
  obtain ⟨_, _, hlt, _, _, hl⟩ := pamUpdate_ok h
  exact pamLoop_shape (s := { s with ctrFrames := s.ctrInds }) _ ⟨rfl, rfl, hlt⟩ hl

theorem pamUpdate_costs {s' : St} {orc orc' : List Nat} {tr : List PamStep}
    (h : pamUpdate D n s props orc = .ok (s', orc', tr)) :
    Descends (cost n s.arr.dist) (costsOf n tr) (cost n s'.arr.dist) :=
  pamLoop_costs (s := { s with ctrFrames := s.ctrInds }) _ (pamUpdate_ok h).2.2.2.2.2

theorem sweepsFrom_succ_ok {k : Nat}
    {orc : List Nat} {r : Run} (h : sweepsFrom D n props (k+1) s orc = .ok r) :
    ∃ s' orc' tr r', pamUpdate D n s props orc = .ok (s', orc', tr) ∧
      sweepsFrom D n props k s' orc' = .ok r' ∧
      r.final = r'.final ∧ r.oracle = r'.oracle ∧ r.trace = tr ++ r'.trace ∧ r.sweeps = s' :: r'.sweeps := by
  rw [sweepsFrom] at h
  obtain ⟨⟨s', orc', tr⟩, h1, h⟩ := bind_eq_ok.mp h
  obtain ⟨r', h2, h⟩ := bind_eq_ok.mp h
  cases h
  exact ⟨s', orc', tr, r', h1, h2, rfl, rfl, rfl, rfl⟩

theorem sweepsFrom_induct (P : St → Prop)
    (step : ∀ {s s' : St} {orc orc' : List Nat} {tr : List PamStep}, P s →
      pamUpdate D n s props orc = .ok (s', orc', tr) → P s') :
    ∀ (k : Nat) {s : St} {orc : List Nat} {r : Run}, P s → sweepsFrom D n props k s orc = .ok r →
      P r.final ∧ ∀ x ∈ r.sweeps, P x := by
  intro k
  induction k with
  | zero => intro s orc r hs h; cases h; exact ⟨hs, nofun⟩
  | succ k ih =>
    intro s orc r hs h
    obtain ⟨s', orc', tr, r', h1, h2, e1, _, _, e4⟩ := sweepsFrom_succ_ok h
    obtain ⟨i1, i2⟩ := ih (step hs h1) h2
    rw [e1, e4]
    exact ⟨i1, List.forall_mem_cons.mpr ⟨step hs h1, i2⟩⟩

theorem sweepsFrom_consistent (T : TableOK D n) (k : Nat) {orc : List Nat} {r : Run} (hs : Consistent D n s)
    (h : sweepsFrom D n props k s orc = .ok r) : Consistent D n r.final ∧ ∀ x ∈ r.sweeps, Consistent D n x :=
  sweepsFrom_induct (Consistent D n) (pamUpdate_consistent T) k hs h

theorem sweepsFrom_shape {m : Nat} (k : Nat) {orc : List Nat} {r : Run} (hs : Shape n m s)
    (h : sweepsFrom D n props k s orc = .ok r) : Shape n m r.final ∧ ∀ x ∈ r.sweeps, Shape n m x :=
  sweepsFrom_induct (Shape n m) (fun hx h1 => hx.len ▸ pamUpdate_shape h1) k hs h

theorem sweepsFrom_costs :
    ∀ (k : Nat) {s : St} {orc : List Nat} {r : Run},
      sweepsFrom D n props k s orc = .ok r →
      Descends (cost n s.arr.dist) (costsOf n r.trace) (cost n r.final.arr.dist) := by
  intro k
  induction k with
  | zero => intro s orc r h; cases h; exact Descends.nil _
  | succ k ih =>
    intro s orc r h
    obtain ⟨s', orc', tr, r', h1, h2, e1, _, e3, _⟩ := sweepsFrom_succ_ok h
    rw [e1, e3, costsOf, List.map_append]
    exact (pamUpdate_costs h1).append (ih h2)

theorem kmedoidsIterations_ok {nIters : Nat}
    {orc : List Nat} {r : Run} (h : kmedoidsIterations D n nIters s props orc = .ok r) :
    ∃ k, nIters = k + 1 ∧ sweepsFrom D n props (k+1) s orc = .ok r := by
  unfold kmedoidsIterations at h
  cases nIters with
  | zero => simp at h
  | succ k => exact ⟨k, rfl, by simpa using h⟩

/-- loop invariant of `kcenters`: coordinates in lock-step with indices, indices are distinct frames,
arrays are the running minimum over the centers found so far -/
structure KInv (D : Table) (n : Nat) (s : St) : Prop where
  frames : s.ctrFrames = s.ctrInds
  inds_lt : ∀ c ∈ s.ctrInds, c < n
  inj : Inj s.ctrInds
  rm : RunMin D n s.ctrInds s.arr

theorem KInv.cold (D : Table) (n : Nat) : KInv D n (St.cold n) :=
  { frames := rfl, inds_lt := by simp [St.cold], inj := by intro i j c h; simp [St.cold] at h,
    rm := by simp only [St.cold]; exact RunMin.nil D n _ _ }

theorem KInv.consistent {D : Table} {n : Nat} (T : TableOK D n) {s : St} (h : KInv D n s)
    (hne : s.ctrInds ≠ []) : Consistent D n s :=
  Consistent.of_frames_runMin T h.frames h.rm hne h.inj h.inds_lt

theorem kcentersGoOn_cutoff {nClusters : Option Nat} {cutoff : Rat}
    (hgo : kcentersGoOn n nClusters cutoff s = true) (hfr : s.arr.fresh = false) :
    cutoff < s.arr.dist (argmaxDist n s.arr) := by
  simp only [kcentersGoOn, maxDist, argmaxDist, hfr, Bool.and_eq_true, Bool.false_eq_true, if_false,
    decide_eq_true_eq] at hgo ⊢
  exact hgo.2

theorem kcentersIter_length (D : Table) (n : Nat) (s : St) :
    (kcentersIter D n s).ctrInds.length = s.ctrInds.length + 1 :=
  List.length_append

theorem KInv.iter (T : TableOK D n) (hn : 0 < n) (h : KInv D n s)
    {nClusters : Option Nat} {cutoff : Rat} (hc : 0 ≤ cutoff)
    (hgo : kcentersGoOn n nClusters cutoff s = true) : KInv D n (kcentersIter D n s) := by
  have hlt : argmaxDist n s.arr < n := by
    unfold argmaxDist; split
    · exact hn
    · exact argmaxTo_lt hn
  -- a center has distance 0 ≤ cutoff, so the frame chosen is not one
  have hnew : ∀ j : Nat, s.ctrInds[j]? ≠ some (argmaxDist n s.arr) := by
    intro j hj
    have hcons := h.consistent T (fun e => by rw [e] at hj; cases hj)
    have := kcentersGoOn_cutoff hgo hcons.notFresh
    rw [(hcons.own j _ hj).2] at this
    exact absurd this (not_lt.mpr hc)
  refine { frames := by simp [kcentersIter, h.frames], inds_lt := ?_, inj := h.inj.concat hnew,
           rm := h.rm.relax _ }
  intro c hc'
  simp only [kcentersIter, List.mem_append, List.mem_singleton] at hc'
  rcases hc' with h' | h'
  · exact h.inds_lt c h'
  · exact h' ▸ hlt

theorem kcentersLoop_induct {nClusters : Option Nat} {cutoff : Rat} (P : St → Prop)
    (step : ∀ {s : St}, P s → kcentersGoOn n nClusters cutoff s = true → P (kcentersIter D n s)) :
    ∀ (fuel : Nat) {s s' : St}, P s → kcentersLoop D n nClusters cutoff fuel s = .ok s' →
      P s' ∧ kcentersGoOn n nClusters cutoff s' = false := by
  intro fuel
  induction fuel with
  | zero =>
    intro s s' hs h
    rw [kcentersLoop] at h
    split at h
    · cases h
    · cases h; exact ⟨hs, Bool.eq_false_iff.mpr ‹_›⟩
  | succ k ih =>
    intro s s' hs h
    rw [kcentersLoop] at h
    split at h
    · exact ih (step hs ‹_›) h
    · cases h; exact ⟨hs, Bool.eq_false_iff.mpr ‹_›⟩

theorem kcentersLoop_inv (T : TableOK D n) (hn : 0 < n)
    {nClusters : Option Nat} {cutoff : Rat} (hc : 0 ≤ cutoff) (fuel : Nat) {s' : St} (hs : KInv D n s)
    (h : kcentersLoop D n nClusters cutoff fuel s = .ok s') :
    KInv D n s' ∧ kcentersGoOn n nClusters cutoff s' = false :=
  kcentersLoop_induct (KInv D n) (fun hx hgo => hx.iter T hn hc hgo) fuel hs h

theorem stopped_nonempty (h : KInv D n s) {nClusters : Option Nat} {cutoff : Rat}
    (hk : nClusters ≠ some 0) (hstop : kcentersGoOn n nClusters cutoff s = false) : s.ctrInds ≠ [] := by
  intro e
  have hfr : s.arr.fresh = true := h.rm.fresh_iff.mpr e
  unfold kcentersGoOn maxDist at hstop
  simp only [hfr, if_true, Bool.and_true] at hstop
  cases nClusters with
  | none => simp at hstop
  | some k =>
    simp only [e, List.length_nil, decide_eq_false_iff_not, not_lt, Nat.le_zero] at hstop
    exact hk (by rw [hstop])

/-- the state the k-centers loop starts from: kcenters.py L195-206 -/
def kcentersStart (D : Table) (n : Nat) : Option (List Nat) → Except Err St
  | none => .ok (St.cold n)
  | some cs => kcentersWarm D n cs

theorem kcenters_eq (D : Table) (n : Nat) (nClusters : Option Nat) (cutoff : Rat) (init : Option (List Nat))
    (fuel : Nat) : kcenters D n nClusters cutoff init fuel =
    kcentersStart D n init >>= fun s0 =>
      if n = 0 then .error .valueError else kcentersLoop D n nClusters cutoff fuel s0 := by
  unfold kcenters
  cases init <;> rfl

theorem kcenters_ok {nClusters : Option Nat} {cutoff : Rat} {init : Option (List Nat)}
    {fuel : Nat} (h : kcenters D n nClusters cutoff init fuel = .ok s) :
    ∃ s0, kcentersStart D n init = .ok s0 ∧ n ≠ 0 ∧ kcentersLoop D n nClusters cutoff fuel s0 = .ok s := by
  rw [kcenters_eq] at h
  obtain ⟨s0, h0, h⟩ := bind_eq_ok.mp h
  exact ⟨s0, h0, ite_error_eq_ok.mp h⟩

theorem kcenters_of_loop {nClusters : Option Nat} {cutoff : Rat} {init : Option (List Nat)}
    {fuel : Nat} {s0 : St} (h0 : kcentersStart D n init = .ok s0) (hn : n ≠ 0) :
    kcenters D n nClusters cutoff init fuel = kcentersLoop D n nClusters cutoff fuel s0 := by
  rw [kcenters_eq, h0]
  exact if_neg hn

theorem hybrid_ok {nClusters : Option Nat} {cutoff : Rat} {init : Option (List Nat)}
    {fuel nIters : Nat} {orc : List Nat} {r : Run}
    (h : hybrid D n nClusters cutoff init fuel nIters orc = .ok r) :
    ∃ s, kcenters D n nClusters cutoff init fuel = .ok s ∧
      ((0 < nIters ∧ kmedoidsIterations D n nIters s none orc = .ok r) ∨
       (nIters = 0 ∧ r = { final := s, oracle := orc, trace := [], sweeps := [] })) := by
  unfold hybrid at h
  obtain ⟨s, hs, h⟩ := bind_eq_ok.mp h
  refine ⟨s, hs, ?_⟩
  by_cases hpos : nIters > 0
  · rw [if_pos hpos] at h; exact Or.inl ⟨hpos, h⟩
  · rw [if_neg hpos] at h; cases h; exact Or.inr ⟨Nat.eq_zero_of_not_pos hpos, rfl⟩
end Ens.Cluster
