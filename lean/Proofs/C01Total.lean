import Proofs.C01Argmin
/-!
C01/C09: the k-centers loop stops within `n` further iterations (so the model's `fuel` error does not occur and
`kcenters_consistent` is never vacuous); from a consistent state a PAM step trips no assert and the sweeps run through.
-/
namespace Ens.Cluster

variable {D : Table} {n : Nat} {props : Option (List Nat)} {s : St}

theorem nodup_of_Inj {l : List Nat} (h : Inj l) : l.Nodup := by
  rw [List.nodup_iff_getElem?_ne_getElem?]
  intro i j hij hj he
  have hi : i < l.length := lt_trans hij hj
  have e1 : l[i]? = some l[i] := List.getElem?_eq_getElem hi
  have e2 : l[j]? = some l[i] := by rw [← he]; exact e1
  have := h i j _ e1 e2
  omega

theorem length_le_of_Inj {l : List Nat} (h : Inj l) (hlt : ∀ c ∈ l, c < n) : l.length ≤ n := by
  have hsub : l ⊆ List.range n := fun c hc => List.mem_range.mpr (hlt c hc)
  have := (List.subperm_of_subset (nodup_of_Inj h) hsub).length_le
  simpa using this

theorem kcentersLoop_total (T : TableOK D n) (hn : 0 < n)
    {nClusters : Option Nat} {cutoff : Rat} (hc : 0 ≤ cutoff) :
    ∀ (fuel : Nat) {s : St}, KInv D n s → n ≤ fuel + s.ctrInds.length →
      ∃ s', kcentersLoop D n nClusters cutoff fuel s = .ok s' := by
  intro fuel
  induction fuel with
  | zero =>
    intro s hs hfuel
    rw [kcentersLoop]
    split
    · -- another center would be one more than there are frames
      rename_i hgo
      have h1 := hs.iter T hn hc hgo
      have := length_le_of_Inj h1.inj h1.inds_lt
      rw [kcentersIter_length] at this
      omega
    · exact ⟨s, rfl⟩
  | succ k ih =>
    intro s hs hfuel
    rw [kcentersLoop]
    split
    · rename_i hgo
      refine ih (hs.iter T hn hc hgo) ?_
      rw [kcentersIter_length]
      omega
    · exact ⟨s, rfl⟩

/-- what `_kmedoids_pam_update` needs from its proposal source to get through one sweep over `k` centers:
an explicit list of `k` frames of the data, or at least `need` recorded random draws -/
def PropsOK (n k : Nat) (props : Option (List Nat)) (orc : List Nat) (need : Nat) : Prop :=
  match props with
  | some ps => ps.length = k ∧ ∀ p ∈ ps, p < n
  | none => need ≤ orc.length

theorem pamStep_total (T : TableOK D n) (hs : Consistent D n s)
    {cid p : Nat} (hcid : cid < s.ctrInds.length) (hp : p < n) : ∃ st, pamStep D n s cid p = .ok st := by
  have hl := (cand_runMin (p := p) hs hcid).lab (cand_ne_nil hcid)
  have hany : ((List.range n).any fun f =>
      decide ((pamCandidate D n s cid p).arr.assign f < 0) || decide ((pamCandidate D n s cid p).arr.dist f < 0)) = false := by
    rw [List.any_eq_false]
    intro f hf
    have hf' : f < n := List.mem_range.mp hf
    obtain ⟨k, c, e1, e2, e3⟩ := hl f hf'
    have h0 := T.nonneg f c hf' (lt_of_mem_set hs.inds_lt hp c (List.mem_of_getElem? e2))
    simp only [e1, e3, Bool.or_eq_true, decide_eq_true_eq, not_or, not_lt]
    exact ⟨by omega, h0⟩
  unfold pamStep
  simp only [hany]
  exact ⟨_, rfl⟩

theorem propose_total (hs : Consistent D n s) {cid : Nat}
    (hcid : cid < s.ctrInds.length) {orc : List Nat} {need : Nat}
    (hp : PropsOK n s.ctrInds.length props orc (need + 1)) :
    ∃ p orc', propose n s cid props orc = .ok (p, orc') ∧ PropsOK n s.ctrInds.length props orc' need := by
  unfold propose
  cases props with
  | some ps =>
    obtain ⟨hl, hlt⟩ := hp
    have hc : cid < ps.length := hl ▸ hcid
    have e : ps[cid]? = some ps[cid] := List.getElem?_eq_getElem hc
    simp only [e, hlt _ (List.getElem_mem hc), if_true]
    exact ⟨_, _, rfl, hl, hlt⟩
  | none =>
    simp only [PropsOK] at hp
    cases orc with
    | nil => simp at hp
    | cons o orc' =>
      -- the center itself is a member of its cluster, so `choice` has something to draw from
      have hmem : s.ctrInds[cid] ∈ (List.range n).filter (fun f => decide (s.arr.assign f = (cid : Nat))) := by
        rw [List.mem_filter, List.mem_range, decide_eq_true_eq]
        exact ⟨hs.inds_lt _ (List.getElem_mem hcid), (hs.own cid _ (List.getElem?_eq_getElem hcid)).1⟩
      simp only []
      generalize (List.range n).filter (fun f => decide (s.arr.assign f = (cid : Nat))) = members at hmem ⊢
      have hpos : 0 < members.length := List.length_pos_of_mem hmem
      have hne : members.isEmpty = false := by
        cases members with
        | nil => cases hmem
        | cons _ _ => rfl
      simp only [hne, Bool.false_eq_true, if_false]
      rw [List.getElem?_eq_getElem (Nat.mod_lt o hpos)]
      exact ⟨_, _, rfl, Nat.le_of_succ_le_succ hp⟩

theorem pamLoop_total (T : TableOK D n) :
    ∀ (cids : List Nat) {s : St} {orc : List Nat} {extra : Nat}, Consistent D n s →
      (∀ c ∈ cids, c < s.ctrInds.length) → PropsOK n s.ctrInds.length props orc (cids.length + extra) →
      ∃ s' orc' tr, pamLoop D n props cids s orc = .ok (s', orc', tr) ∧
        s'.ctrInds.length = s.ctrInds.length ∧ PropsOK n s.ctrInds.length props orc' extra := by
  intro cids
  induction cids with
  | nil =>
    intro s orc extra _ _ hp
    exact ⟨s, orc, [], rfl, rfl, by simpa using hp⟩
  | cons cid rest ih =>
    intro s orc extra hs hc hp
    have hcid := hc cid List.mem_cons_self
    obtain ⟨p, orc1, h1, hp1⟩ := propose_total (need := rest.length + extra) hs hcid
      (by simpa [Nat.add_right_comm] using hp)
    have hpn := propose_lt h1
    obtain ⟨st, h2⟩ := pamStep_total T hs hcid hpn
    have hs1 := pamStep_consistent T hs hcid hpn h2
    have hlen : st.after.ctrInds.length = s.ctrInds.length :=
      (pamStep_shape (k := s.ctrInds.length) ⟨rfl, hs.frames, hs.inds_lt⟩ hpn h2).len
    obtain ⟨s', orc', tr, h3, hl3, hp3⟩ := ih (extra := extra) hs1
      (fun c hc' => by rw [hlen]; exact hc c (List.mem_cons_of_mem _ hc')) (by rw [hlen]; exact hp1)
    refine ⟨s', orc', st :: tr, ?_, by rw [hl3, hlen], by rw [← hlen]; exact hp3⟩
    simp only [pamLoop, bind, Except.bind, h1, h2, h3, pure, Except.pure]

theorem pamUpdate_total (T : TableOK D n) (hn : 0 < n) (hs : Consistent D n s) {orc : List Nat} {extra : Nat}
    (hp : PropsOK n s.ctrInds.length props orc (s.ctrInds.length + extra)) :
    ∃ s' orc' tr, pamUpdate D n s props orc = .ok (s', orc', tr) ∧
      s'.ctrInds.length = s.ctrInds.length ∧ PropsOK n s.ctrInds.length props orc' extra := by
  have hne : s.ctrInds ≠ [] := by
    intro e
    obtain ⟨k, c, _, h2, _⟩ := hs.lab 0 hn
    rw [e] at h2; simp at h2
  obtain ⟨s', orc', tr, h, hl, hp'⟩ := pamLoop_total T (List.range s.ctrInds.length) (extra := extra)
    hs.resetFrames (fun c hc => List.mem_range.mp hc) (by simpa using hp)
  refine ⟨s', orc', tr, ?_, hl, hp'⟩
  rw [pamUpdate_eq_loop hn hs.notFresh hne hs.inds_lt (fun ps e => by subst e; exact hp.1)]
  exact h

theorem sweepsFrom_total (T : TableOK D n) (hn : 0 < n) :
    ∀ (m : Nat) {s : St} {orc : List Nat}, Consistent D n s →
      PropsOK n s.ctrInds.length props orc (m * s.ctrInds.length) →
      ∃ r, sweepsFrom D n props m s orc = .ok r := by
  intro m
  induction m with
  | zero => intro s orc _ _; exact ⟨_, rfl⟩
  | succ m ih =>
    intro s orc hs hp
    obtain ⟨s', orc', tr, h1, hl, hp'⟩ := pamUpdate_total T hn hs (extra := m * s.ctrInds.length)
      (by rw [Nat.succ_mul, Nat.add_comm] at hp; exact hp)
    have hs' := pamUpdate_consistent T hs h1
    obtain ⟨r, h2⟩ := ih hs' (by rw [hl]; exact hp')
    exact ⟨{ r with trace := tr ++ r.trace, sweeps := s' :: r.sweeps }, by
      rw [sweepsFrom, h1]; simp only [bind, Except.bind, h2]; rfl⟩

end Ens.Cluster
