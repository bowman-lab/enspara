import Proofs.C16Spec
/-!
Small universal facts about `resolveNEigs`, `impNTimes`, the `left` switch of `eigenspectrum`;
the leading eigenpair of a row-stochastic matrix.
-/
namespace Ens.Msm
open Ens

theorem resolveNEigs_none (n : Nat) : resolveNEigs n none = .ok n := rfl

theorem resolveNEigs_lt_two (n : Nat) (k : Int) (hk : k < 2) :
    resolveNEigs n (some k) = .error .valueError := by
  simp only [resolveNEigs, hk, if_true]; rfl

theorem resolveNEigs_ge_two (n : Nat) (k : Int) (hk : 2 ≤ k) :
    resolveNEigs n (some k) = .ok k.toNat := by
  have : ¬ k < 2 := Int.not_lt.mpr hk
  simp only [resolveNEigs, this, if_false]; rfl

theorem ite_gt_eq_min (k m : Nat) : (if k > m then m else k) = min k m := by
  by_cases h : k ≤ m
  · rw [if_neg (Nat.not_lt.mpr h), Nat.min_eq_left h]
  · rw [if_pos (Nat.not_le.mp h), Nat.min_eq_right (Nat.not_le.mp h).le]

theorem impNTimes_eq (n : Nat) (o : Option Nat) :
    impNTimes n o = min (o.getD (n / 10 + 1)) (n - 1) := by
  cases o <;> exact ite_gt_eq_min _ _

theorem eigenspectrum_eq {M : Type} (eig : M → List Cx × List (List Cx)) (tr : M → M)
    (size : M → Nat) (T : M) (nEigs : Option Int) (left : Bool) :
    eigenspectrum eig tr size T nEigs left =
      (resolveNEigs (size T) nEigs >>= fun k =>
        eigPost k (eig (if left then tr T else T)).1 (eig (if left then tr T else T)).2) := rfl

/-- a column of rational complex numbers as a complex vector -/
noncomputable def colVec {n : Nat} (col : List Cx) (hl : col.length = n) : Fin n → ℂ :=
  fun a => toC (col.get (a.cast hl.symm))

/-- a list of rationals as a real vector -/
noncomputable def ratVec {n : Nat} (wl : List Rat) (hl : wl.length = n) : Fin n → ℝ :=
  fun a => ((wl.get (a.cast hl.symm) : ℚ) : ℝ)

theorem sum_ratVec {n : Nat} (wl : List Rat) (hl : wl.length = n) :
    ∑ a, ratVec wl hl a = ((wl.sum : ℚ) : ℝ) := by
  subst hl
  have : wl.sum = (List.ofFn (fun a : Fin wl.length => wl.get a)).sum := by rw [List.ofFn_get]
  rw [this, List.sum_ofFn]
  push_cast
  apply Finset.sum_congr rfl
  intro a _
  simp [ratVec]

theorem eq_one_of_re_of_norm_le (w : ℂ) (hre : w.re = 1) (hn : ‖w‖ ≤ 1) : w = 1 := by
  have him : w.im = 0 := Complex.abs_re_eq_norm.mp
    (le_antisymm (Complex.abs_re_le_norm w) (by rw [hre, abs_one]; exact hn))
  exact Complex.ext hre him

theorem re_fixed {n : Nat} (T : Matrix (Fin n) (Fin n) ℝ) (u : Fin n → ℂ)
    (h : Matrix.vecMul u (T.map (fun x => (x : ℂ))) = u) :
    Matrix.vecMul (fun a => (u a).re) T = fun a => (u a).re := by
  funext b
  have := congrArg Complex.re (congrFun h b)
  rw [Matrix.vecMul, dotProduct, Complex.re_sum] at this
  rw [Matrix.vecMul, dotProduct, ← this]
  exact Finset.sum_congr rfl fun a _ => (Complex.re_mul_ofReal _ _).symm

theorem leading_pair {n : Nat} (T : Matrix (Fin n) (Fin n) ℝ)
    (hnn : ∀ i j, 0 ≤ T i j) (hrow : ∀ i, ∑ j, T i j = 1)
    (z : Cx) (col : List Cx) (hre : z.re = 1) (hs : cxSum col ≠ Cx.zero)
    (hl : col.length = n) (hne : colVec col hl ≠ 0)
    (hE : Matrix.vecMul (colVec col hl) (T.map (fun x => (x : ℂ))) = toC z • colVec col hl) :
    ∃ hw : (col.map fun w => (w.div (cxSum col)).re).length = n,
      Matrix.vecMul (ratVec _ hw) T = ratVec _ hw ∧ ∑ a, ratVec _ hw a = 1 := by
  subst hl
  have hz : toC z = 1 := eq_one_of_re_of_norm_le (toC z) (by rw [toC, hre, Rat.cast_one])
    (norm_le_one_of_left _ (stochastic_row_norms_complex T hnn hrow) _ _ hne hE)
  rw [hz, one_smul] at hE
  have hE' := vecMul_div_scale _ (colVec col rfl) 1 (toC (cxSum col)) (by rw [hE, one_smul])
  rw [one_smul] at hE'
  have hw : (col.map fun w => (w.div (cxSum col)).re).length = col.length := List.length_map _
  have hvec : ratVec _ hw = fun a => (colVec col rfl a / toC (cxSum col)).re := by
    funext a
    simp only [ratVec, colVec, List.get_eq_getElem, List.getElem_map, Fin.cast_eq_self,
      Fin.val_cast, ← toC_div]
    rfl
  refine ⟨hw, ?_, ?_⟩
  · rw [hvec]
    exact re_fixed T _ hE'
  · rw [sum_ratVec, first_sums_to_one col hs, Rat.cast_one]

end Ens.Msm
