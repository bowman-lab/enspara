/- C17 helper: the `paths` loop — unfolding, monotone fluxes, flux sum, count, termination. -/
import Proofs.C17Paths

namespace Ens.Paths
open Ens

section
variable (n : Nat) (S T : List Nat) (sch : Scheme) (np : Option Nat) (cn : Int) (cd : Nat)
  (tot : Nat)

/-- one iteration of the loop, for a run that returns normally -/
theorem pathsLoop_succ_ok (fuel : Nat) (G : Nat → Nat → Nat) (c e : Nat)
    (r : List (List Nat × Nat))
    (h : pathsLoop n S T sch np cn cd tot (fuel + 1) G c e = .ok r) :
    (countReached np c = true ∧ r = []) ∨
    (countReached np c = false ∧ ∃ p fl, topPath n G S T = .ok (p, fl) ∧ (∀ f, fl ≠ Ext.fin f) ∧ r = []) ∨
    (countReached np c = false ∧ ∃ p f, topPath n G S T = .ok (p, Ext.fin f) ∧
      ((stopNow np cn cd tot (c + 1) (e + f) = true ∧ r = [(p, f)]) ∨
       (stopNow np cn cd tot (c + 1) (e + f) = false ∧ ∃ G' rest,
          removePath sch G p = .ok G' ∧
          pathsLoop n S T sch np cn cd tot fuel (freeze n G') (c + 1) (e + f) = .ok rest ∧
          r = (p, f) :: rest))) := by
  unfold pathsLoop at h
  split at h
  · next hc => cases h; exact Or.inl ⟨hc, rfl⟩
  · next hc =>
    have hc' : countReached np c = false := by simpa using hc
    right
    split at h
    · cases h
    · next p f htp =>
      right
      refine ⟨hc', p, f, htp, ?_⟩
      split at h
      · next hs => cases h; exact Or.inl ⟨hs, rfl⟩
      · next hs =>
        right
        refine ⟨by simpa using hs, ?_⟩
        split at h
        · cases h
        · next G' hrem =>
          simp only at h
          split at h
          · cases h
          · next rest hrest =>
            cases h
            exact ⟨G', rest, hrem, hrest, rfl⟩
    · next p fl hfl htp =>
      left
      cases h
      exact ⟨hc', p, fl, htp, fun f hf => hfl f (by rw [hf]), rfl⟩

theorem removed_step {G G' : Nat → Nat → Nat} {p : List Nat} {f : Nat}
    (hspec : TopSpec n G S T p (Ext.fin f)) (hrem : removePath sch G p = .ok G') :
    (∀ i j, freeze n G' i j ≤ G i j) ∧ posEdges n (freeze n G') < posEdges n G := by
  obtain ⟨G1, hG1, hR⟩ := removePath_spec sch G p hspec.edges_ne
  rw [hrem] at hG1
  cases hG1
  have hle : ∀ i j, freeze n G' i j ≤ G i j := fun i j =>
    le_trans (freeze_le n G' i j) (hR.le i j)
  refine ⟨hle, ?_⟩
  obtain ⟨e, he, hz⟩ := hR.zeroed
  have hmem := mem_edges p e he
  have h1 := hspec.all_lt e.1 hmem.1
  have h2 := hspec.all_lt e.2 hmem.2
  exact posEdges_step e.1 e.2 h1 h2 hle ((adj_iff G p).1 hspec.adj e he)
    (by rw [freeze_eq n G' _ _ h1 h2]; exact hz)

theorem pathsLoop_each (fuel : Nat) (G : Nat → Nat → Nat) (c e : Nat) (r : List (List Nat × Nat))
    (h : pathsLoop n S T sch np cn cd tot fuel G c e = .ok r) :
    ∀ pf ∈ r, ∃ G', (∀ i j, G' i j ≤ G i j) ∧ topPath n G' S T = .ok (pf.1, Ext.fin pf.2) := by
  induction fuel generalizing G c e r with
  | zero => cases h
  | succ fuel ih =>
    rcases pathsLoop_succ_ok n S T sch np cn cd tot fuel G c e r h with
      ⟨-, rfl⟩ | ⟨-, p, fl, -, -, rfl⟩ | ⟨-, p, f, htp, ⟨-, rfl⟩ | ⟨-, G', rest, hrem, hrest, rfl⟩⟩
    · exact fun pf hpf => nomatch hpf
    · exact fun pf hpf => nomatch hpf
    · intro pf hpf
      cases List.mem_singleton.1 hpf
      exact ⟨G, fun _ _ => Nat.le_refl _, htp⟩
    · intro pf hpf
      rcases List.mem_cons.1 hpf with rfl | hpf
      · exact ⟨G, fun _ _ => Nat.le_refl _, htp⟩
      · obtain ⟨G'', hle, h2⟩ := ih _ _ _ rest hrest pf hpf
        have hstep := (removed_step n S T sch (topPath_spec n G S T p _ htp) hrem).1
        exact ⟨G'', fun i j => Nat.le_trans (hle i j) (hstep i j), h2⟩

/-- a later pathway is the top path of a smaller matrix -/
theorem pathsLoop_antitone (fuel : Nat) (G : Nat → Nat → Nat) (c e : Nat)
    (r : List (List Nat × Nat)) (h : pathsLoop n S T sch np cn cd tot fuel G c e = .ok r) :
    r.Pairwise (fun a b => b.2 ≤ a.2) := by
  induction fuel generalizing G c e r with
  | zero => cases h
  | succ fuel ih =>
    rcases pathsLoop_succ_ok n S T sch np cn cd tot fuel G c e r h with
      ⟨-, rfl⟩ | ⟨-, p, fl, -, -, rfl⟩ | ⟨-, p, f, htp, ⟨-, rfl⟩ | ⟨-, G', rest, hrem, hrest, rfl⟩⟩
    · exact List.Pairwise.nil
    · exact List.Pairwise.nil
    · exact List.pairwise_singleton _ _
    · refine List.Pairwise.cons (fun pf hpf => ?_) (ih _ _ _ rest hrest)
      have hspec := topPath_spec n G S T p (Ext.fin f) htp
      obtain ⟨G'', hle2, h2⟩ := pathsLoop_each n S T sch np cn cd tot fuel _ _ _ rest hrest pf hpf
      have hle := (removed_step n S T sch hspec hrem).1
      exact (Ext.fin_le_fin _ _).1 (hspec.flux_mono (fun i j => Nat.le_trans (hle2 i j) (hle i j))
        (topPath_spec n G'' S T pf.1 _ h2))

/-- sum of the returned fluxes -/
def fluxSum (r : List (List Nat × Nat)) : Nat := (r.map (·.2)).sum

theorem fluxSum_cons (pf : List Nat × Nat) (r : List (List Nat × Nat)) :
    fluxSum (pf :: r) = pf.2 + fluxSum r := rfl

theorem pathsLoop_sum_le (fuel : Nat) (G : Nat → Nat → Nat) (c e : Nat)
    (r : List (List Nat × Nat))
    (h : pathsLoop n S T .subtract np cn cd tot fuel G c e = .ok r) :
    fluxSum r ≤ outflow n G S := by
  induction fuel generalizing G c e r with
  | zero => cases h
  | succ fuel ih =>
    rcases pathsLoop_succ_ok n S T .subtract np cn cd tot fuel G c e r h with
      ⟨-, rfl⟩ | ⟨-, p, fl, -, -, rfl⟩ | ⟨-, p, f, htp, hcases⟩
    · exact Nat.zero_le _
    · exact Nat.zero_le _
    · have hspec := topPath_spec n G S T p (Ext.fin f) htp
      obtain ⟨s, y, rest', hq, hs, hb⟩ := hspec.fin_head
      have hsn : s < n := hspec.all_lt s (by rw [hq]; exact List.mem_cons_self)
      have hyn : y < n := hspec.all_lt y (by rw [hq]; exact List.mem_cons_of_mem _ List.mem_cons_self)
      obtain ⟨hmin, hex⟩ := bneck_fin_spec G p f hb
      have hsy : (s, y) ∈ edges p := by rw [hq, edges_cons_cons]; exact List.mem_cons_self
      rcases hcases with ⟨-, rfl⟩ | ⟨-, G', rest, hrem, hrest, rfl⟩
      · exact Nat.le_trans (Nat.le_of_eq (Nat.add_zero f)) (Nat.le_trans (hmin (s, y) hsy)
          (le_outflow (n := n) (F := G) (S := S) s y hs hsn hyn))
      · obtain ⟨G1, hG1, hval⟩ := subtractPath_exact G p f hmin hex
        rw [show subtractPath G p = .ok G' from hrem] at hG1
        cases hG1
        have hstep := outflow_step (n := n) (F := G) (G := freeze n G') (S := S) s y f hs hsn hyn
          (removed_step n S T .subtract hspec hrem).1
          (by rw [freeze_eq n G' s y hsn hyn, hval, if_pos hsy]
              exact Nat.le_of_eq (Nat.sub_add_cancel (hmin (s, y) hsy)))
        rw [fluxSum_cons, Nat.add_comm]
        exact Nat.le_trans (Nat.add_le_add_right (ih _ _ _ rest hrest) f) hstep

theorem pathsLoop_count (N : Nat) (fuel : Nat) (G : Nat → Nat → Nat) (c e : Nat)
    (r : List (List Nat × Nat))
    (h : pathsLoop n S T sch (some N) cn cd tot fuel G c e = .ok r) : c + r.length ≤ max c N := by
  induction fuel generalizing G c e r with
  | zero => cases h
  | succ fuel ih =>
    rcases pathsLoop_succ_ok n S T sch (some N) cn cd tot fuel G c e r h with
      ⟨-, rfl⟩ | ⟨-, p, fl, -, -, rfl⟩ | ⟨hc, p, f, htp, ⟨-, rfl⟩ | ⟨hstop, G', rest, hrem, hrest, rfl⟩⟩
    · exact Nat.le_max_left c N
    · exact Nat.le_max_left c N
    · have hN : c < N := Nat.lt_of_not_le fun hle => by
        rw [countReached, decide_eq_true hle] at hc; cases hc
      exact Nat.le_trans hN (Nat.le_max_right c N)
    · have ih := ih _ _ _ rest hrest
      have hN : c + 1 < N := Nat.lt_of_not_le fun hle => by
        rw [stopNow, countReached, decide_eq_true hle] at hstop; cases hstop
      rw [Nat.max_eq_right (Nat.le_of_lt hN)] at ih
      rw [Nat.max_eq_right (Nat.le_of_lt (Nat.lt_of_succ_lt hN)), List.length_cons, ← Nat.add_assoc,
        Nat.add_right_comm]
      exact ih

theorem pathsLoop_ok (hS : ∀ s ∈ S, s < n) (hT : ∀ t ∈ T, t < n) (hne : T ≠ []) (fuel : Nat)
    (G : Nat → Nat → Nat) (c e : Nat) (hf : posEdges n G < fuel) :
    ∃ r, pathsLoop n S T sch np cn cd tot fuel G c e = .ok r := by
  induction fuel generalizing G c e with
  | zero => exact absurd hf (Nat.not_lt_zero _)
  | succ fuel ih =>
    rcases topPath_cases n G S T with ⟨-, hbad⟩ | ⟨-, -, hbad⟩ | ⟨p, fl, htp, -, -, -⟩
    · exact absurd ⟨hS, hT⟩ hbad
    · exact absurd hbad hne
    · unfold pathsLoop
      cases countReached np c with
      | true => exact ⟨[], rfl⟩
      | false =>
        rw [if_neg Bool.false_ne_true, htp]
        cases fl with
        | ninf => exact ⟨[], rfl⟩
        | pinf => exact ⟨[], rfl⟩
        | fin f =>
          dsimp only
          cases stopNow np cn cd tot (c + 1) (e + f) with
          | true => exact ⟨_, rfl⟩
          | false =>
            have hspec := topPath_spec n G S T p (Ext.fin f) htp
            obtain ⟨G', hG', -⟩ := removePath_spec sch G p hspec.edges_ne
            obtain ⟨rest, hrest⟩ := ih (freeze n G') (c + 1) (e + f)
              (Nat.lt_of_lt_of_le (removed_step n S T sch hspec hG').2 (Nat.le_of_lt_succ hf))
            rw [if_neg Bool.false_ne_true, hG']
            dsimp only
            rw [show (Mat.ofFn n G').get = freeze n G' from rfl, hrest]
            exact ⟨_, rfl⟩

theorem pathsLoop_err (fuel : Nat) (G : Nat → Nat → Nat) (c e : Nat) (err : Err)
    (hc : countReached np c = false) (h : topPath n G S T = .error err) :
    pathsLoop n S T sch np cn cd tot (fuel + 1) G c e = .error err := by
  unfold pathsLoop
  rw [hc, h]
  rfl

/-- the count limit already reached (only `num_paths = 0` at the start): nothing is searched -/
theorem pathsLoop_reached (fuel : Nat) (G : Nat → Nat → Nat) (c e : Nat)
    (hc : countReached np c = true) :
    pathsLoop n S T sch np cn cd tot (fuel + 1) G c e = .ok [] := by
  unfold pathsLoop
  rw [hc]
  rfl

end

theorem countReached_zero (np : Option Nat) : countReached np 0 = true ↔ np = some 0 := by
  cases np with
  | none => simp [countReached]
  | some N => simp [countReached]

/-- `paths` is its loop once the source indices passed `net_flux[sources, :]` -/
theorem paths_ok_loop {n : Nat} {F : Nat → Nat → Nat} {S T : List Nat} {sch : Scheme}
    {np : Option Nat} {cn : Int} {cd : Nat} {r : List (List Nat × Nat)}
    (h : paths n F S T sch np cn cd = .ok r) :
    (∀ s ∈ S, s < n) ∧
      pathsLoop n S T sch np cn cd (totalFlux n F S) (posEdges n F + 1) F 0 0 = .ok r := by
  unfold paths at h
  split at h
  · cases h
  · next hg => exact ⟨not_any_ge_iff.1 hg, h⟩

end Ens.Paths
