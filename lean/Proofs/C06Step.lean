import Proofs.C06Partition
/-!
`mapE`, the code's index conversion against cell lookup on the rows, the shared end of every scatter write,
the `lengths=` constructor on consistent input (C06).
-/
namespace Ens.RaggedW
variable {α β γ : Type}

/-! ### Except plumbing (named, so that statements do not mention anonymous matchers) -/

def mapOk (g : β → γ) : Except Err β → Except Err γ
  | .ok y => .ok (g y)
  | .error e => .error e

def bindE (x : Except Err β) (f : β → Except Err γ) : Except Err γ :=
  match x with
  | .ok y => f y
  | .error e => .error e

@[simp] theorem mapOk_ok (g : β → γ) (y : β) : mapOk g (.ok y : Except Err β) = .ok (g y) := rfl
@[simp] theorem mapOk_error (g : β → γ) (e : Err) : mapOk g (.error e : Except Err β) = .error e := rfl
@[simp] theorem bindE_ok (y : β) (f : β → Except Err γ) : bindE (.ok y) f = f y := rfl
@[simp] theorem bindE_error (e : Err) (f : β → Except Err γ) : bindE (.error e) f = .error e := rfl

/-- every value the computation can return satisfies `Q` -/
def AllOk {σ : Type} (Q : σ → Prop) : Except Err σ → Prop
  | .ok s => Q s
  | .error _ => True

theorem AllOk.of_eq {σ : Type} {Q : σ → Prop} {x : Except Err σ} {s : σ} (h : AllOk Q x)
    (hx : x = .ok s) : Q s := by
  subst hx
  exact h

theorem AllOk.imp {σ : Type} {P Q : σ → Prop} {x : Except Err σ} (h : AllOk P x)
    (hpq : ∀ s, P s → Q s) : AllOk Q x := by
  cases x with
  | error e => trivial
  | ok s => exact hpq s h

theorem allOk_ite {σ : Type} {Q : σ → Prop} {c : Prop} [Decidable c] {a b : Except Err σ}
    (ha : AllOk Q a) (hb : AllOk Q b) : AllOk Q (if c then a else b) := by
  split <;> assumption

theorem mapE_congr {f g : β → Except Err γ} (l : List β) (h : ∀ x ∈ l, f x = g x) :
    mapE f l = mapE g l := by
  induction l with
  | nil => rfl
  | cons x xs ih =>
    simp only [mapE]
    rw [h x (by simp), ih (fun y hy => h y (by simp [hy]))]

theorem mapE_map_ok {f : β → Except Err γ} {g : γ → α} (l : List β) :
    mapE (fun x => mapOk g (f x)) l = mapOk (List.map g) (mapE f l) := by
  induction l with
  | nil => rfl
  | cons x xs ih =>
    simp only [mapE]
    cases hx : f x with
    | error e => rfl
    | ok y =>
      simp only [mapOk_ok]
      rw [ih]
      cases mapE f xs with
      | error e => rfl
      | ok ys => rfl

theorem mapE_ok {f : β → Except Err γ} {l : List β} {ys : List γ} (h : mapE f l = .ok ys) :
    ys.length = l.length ∧ ∀ y ∈ ys, ∃ x ∈ l, f x = .ok y := by
  induction l generalizing ys with
  | nil => cases h; exact ⟨rfl, nofun⟩
  | cons x xs ih =>
    unfold mapE at h
    cases hx : f x with
    | error e => rw [hx] at h; cases h
    | ok y =>
      cases hxs : mapE f xs with
      | error e => rw [hx, hxs] at h; cases h
      | ok zs =>
        rw [hx, hxs] at h
        cases h
        obtain ⟨hl, hm⟩ := ih hxs
        refine ⟨congrArg (· + 1) hl, fun z hz => ?_⟩
        rcases List.mem_cons.mp hz with rfl | hz'
        · exact ⟨x, List.mem_cons_self, hx⟩
        · obtain ⟨w, hw, hfw⟩ := hm z hz'
          exact ⟨w, List.mem_cons_of_mem _ hw, hfw⟩

theorem mapE_map_arg {δ : Type} (f : γ → Except Err δ) (g : β → γ) (l : List β) :
    mapE f (l.map g) = mapE (fun x => f (g x)) l := by
  induction l with
  | nil => rfl
  | cons x xs ih => simp only [List.map_cons, mapE, ih]

theorem convertOne_eq_specCell (rows : List (List α)) (p : Int × Int) :
    convertOne (rows.map List.length) p = mapOk (flatOf (rows.map List.length)) (specCell rows p) := by
  simp only [convertOne, specCell, List.length_map]
  cases normIdx rows.length p.1 with
  | error e => rfl
  | ok r =>
    simp only [List.getElem?_map]
    cases rows[r]? with
    | none => rfl
    | some row =>
      simp only [Option.map_some]
      cases normIdx row.length p.2 with
      | error e => rfl
      | ok c => rfl

theorem convertFrom2d_eq (rows : List (List α)) (iis : List (Int × Int)) :
    convertFrom2d (rows.map List.length) iis =
      mapOk (List.map (flatOf (rows.map List.length))) (mapE (specCell rows) iis) := by
  unfold convertFrom2d
  rw [mapE_congr iis (fun p _ => convertOne_eq_specCell rows p)]
  exact mapE_map_ok (f := specCell rows) (g := flatOf (rows.map List.length)) iis

theorem normIdx_lt {n : Nat} {i : Int} {r : Nat} (h : normIdx n i = .ok r) : r < n := by
  unfold normIdx at h
  split at h
  · split at h
    · cases h; exact (Int.toNat_lt ‹_›).mpr ‹_›
    · cases h
  · split at h
    · cases h; exact (Int.toNat_lt ‹_›).mpr (by omega)
    · cases h

theorem specCell_valid {rows : List (List α)} {p : Int × Int} {q : Nat × Nat}
    (h : specCell rows p = .ok q) : ∃ row, rows[q.1]? = some row ∧ q.2 < row.length := by
  refine AllOk.of_eq (Q := fun q => ∃ row, rows[q.1]? = some row ∧ q.2 < row.length) ?_ h
  unfold specCell
  cases normIdx rows.length p.1 with
  | error e => trivial
  | ok r =>
    dsimp only
    cases h2 : rows[r]? with
    | none => trivial
    | some row =>
      dsimp only
      cases h3 : normIdx row.length p.2 with
      | error e => trivial
      | ok c => exact ⟨row, h2, normIdx_lt h3⟩

theorem mapE_specCell_valid {rows : List (List α)} {iis : List (Int × Int)} {tg : List (Nat × Nat)}
    (h : mapE (specCell rows) iis = .ok tg) : ValidTargets rows tg := by
  intro q hq
  obtain ⟨p, _, hp⟩ := (mapE_ok h).2 q hq
  exact specCell_valid hp

/-- result of a write seen from the rows -/
def absR : Except Err (State α × Option (State α)) → Except Err (Rows α × Option (Rows α))
  | .ok (s, o) => .ok (s.array, o.map (·.array))
  | .error e => .error e

theorem rebuild_scatter {s : State α} (h : Coherent s) (tg : List (Nat × Nat))
    (hv : ValidTargets s.array tg) (vals : List α) (obj : Bool) :
    ∃ s', rebuild (scatter s.data (tg.map (flatOf s.lengths)) vals) s.lengths obj = .ok s' ∧
      s'.array = scatterRows s.array tg vals ∧ Coherent s' ∧ s'.lengths = s.lengths := by
  have hsum : s.lengths.sum = (scatter s.data (tg.map (flatOf s.lengths)) vals).length := by
    rw [length_scatter]; exact h.1
  refine ⟨_, rebuild_eq _ _ obj hsum, ?_, ⟨hsum, rfl⟩, rfl⟩
  show partition s.lengths (scatter s.data (tg.map (flatOf s.lengths)) vals) = scatterRows s.array tg vals
  have hd := h.data_eq
  have hl := h.lengths_eq
  rw [hd, hl, ← flatten_scatterRows _ _ _ hv, ← scatterRows_map_length s.array tg vals]
  exact partition_flatten _

/-- an empty container as value takes the `value[0]` path of the unpatched code -/
def Val.isEmptyContainer : Val α → Bool
  | .flat [] => true
  | .nested [] => true
  | _ => false

theorem resolve_eq_specVals (cfg : Cfg) (v : Val α) (t : Nat)
    (h : cfg.rowViewsFix = true ∨ v.isEmptyContainer = false) :
    v.resolve cfg t = specVals v t := by
  cases v with
  | scalar x => rfl
  | flat xs =>
    cases xs with
    | nil =>
      rcases h with h | h
      · simp [Val.resolve, specVals, h]
      · simp [Val.isEmptyContainer] at h
    | cons x xs => simp [Val.resolve, specVals]
  | nested xss =>
    cases xss with
    | nil =>
      rcases h with h | h
      · simp [Val.resolve, specVals, h]
      · simp [Val.isEmptyContainer] at h
    | cons x xs => simp [Val.resolve, specVals]

/-- Through the equations of `step`, not by `rfl`: Lean generates them here, once; the first module to unfold
`step` would generate them again in every one of its proofs. -/
theorem step_binop (cfg : Cfg) (s : State α) (f : α → α) :
    step cfg s (.binop f) = (match mapOp cfg f s with
      | .error e => .error e
      | .ok b => .ok (s, some b)) := by
  simp only [step]
  rfl

theorem specStep_binop (rows : Rows α) (f : α → α) :
    specStep rows (.binop f) = .ok (rows, some (rows.map (·.map f))) := by
  simp only [specStep]

def arrR : Except Err (State α) → Except Err (Rows α)
  | .ok s => .ok s.array
  | .error e => .error e

/-- the flat positions are those of the cells `T` of the rows, or fail as `T` fails -/
theorem scatterWrite_spec (cfg : Cfg) {s : State α} (h : Coherent s) (iis : List (Int × Int))
    (T : Except Err (List (Nat × Nat)))
    (hflat : convertFrom2d s.lengths iis = mapOk (List.map (flatOf s.lengths)) T)
    (hT : ∀ tg, T = .ok tg → ValidTargets s.array tg)
    (v : Val α) (hval : cfg.rowViewsFix = true ∨ v.isEmptyContainer = false) :
    arrR (scatterWrite cfg s iis v) = bindE T (fun tg => specScatter s.array tg v) ∧
    ∀ s', scatterWrite cfg s iis v = .ok s' → Coherent s' ∧ s'.lengths = s.lengths := by
  unfold scatterWrite
  rw [hflat]
  cases T with
  | error e => exact ⟨rfl, nofun⟩
  | ok tg =>
    simp only [mapOk_ok, bindE_ok, List.length_map, specScatter]
    rw [resolve_eq_specVals cfg v tg.length hval]
    cases specVals v tg.length with
    | error e => exact ⟨rfl, nofun⟩
    | ok vals =>
      obtain ⟨s', h1, h2, h3, h4⟩ := rebuild_scatter h tg (hT tg rfl) vals s.objDtype
      simp only [h1, arrR, h2, true_and]
      intro s'' hs
      cases hs
      exact ⟨h3, h4⟩

theorem allEq_eq_replicate (ls : List Nat) (l0 : Nat) (h : allEq (l0 :: ls) = true) :
    l0 :: ls = List.replicate (ls.length + 1) l0 := by
  simp only [allEq, List.all_eq_true, beq_iff_eq] at h
  rw [List.replicate_succ]
  congr 1
  exact List.eq_replicate_iff.mpr ⟨rfl, h⟩

theorem allEq_sum {l0 : Nat} {ls : List Nat} (h : allEq (l0 :: ls) = true) :
    (l0 :: ls).sum = (l0 :: ls).length * l0 := by
  rw [allEq_eq_replicate ls l0 h, List.sum_replicate_nat, List.length_replicate]

/-- on consistent input every constructor path with `lengths` builds the partition -/
theorem initFlat_eq (cfg : Cfg) (d : List α) (ls : List Nat) (np obj : Bool)
    (hne : ls ≠ []) (hsum : ls.sum = d.length) (hd : d ≠ [] ∨ cfg.readsFix = true) :
    initFlat cfg d ls np obj = .ok ⟨d, ls, partition ls d, np, obj⟩ := by
  have h0 : ¬ (d.isEmpty && !cfg.readsFix) = true := by
    rcases hd with hd | hd
    · cases d with
      | nil => exact absurd rfl hd
      | cons x xs => exact Bool.false_ne_true
    · rw [hd]; exact fun h => Bool.false_ne_true ((Bool.and_false _).symm.trans h)
  cases ls with
  | nil => exact absurd rfl hne
  | cons l0 ls =>
    unfold initFlat
    rw [if_neg h0]
    dsimp only
    by_cases hb : (np && allEq (l0 :: ls)) = true
    · rw [if_pos hb]
      obtain ⟨rfl, hall⟩ := Bool.and_eq_true_iff.mp hb
      have hs : (l0 :: ls).length * l0 = d.length := by rw [← allEq_sum hall, hsum]
      by_cases hr : cfg.readsFix = true
      · rw [if_pos hr, if_pos hs]
      · -- `_data.reshape(-1, l0)`: `l0` divides the data, and the quotient is the number of rows
        have hl0 : l0 ≠ 0 := by
          rintro rfl
          exact (hd.resolve_right hr) (List.eq_nil_of_length_eq_zero (hs.symm.trans (Nat.mul_zero _)))
        rw [if_neg hr, if_neg hl0, if_pos (by rw [← hs]; exact Nat.mul_mod_left _ _),
          show d.length / l0 = ls.length + 1 by
            rw [← hs]; exact Nat.mul_div_cancel _ (Nat.pos_of_ne_zero hl0),
          ← allEq_eq_replicate ls l0 hall]
    · rw [if_neg hb, partitionList_of_sum _ _ hsum]

end Ens.RaggedW
