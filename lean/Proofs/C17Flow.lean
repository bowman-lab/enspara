/- C17 helper: acyclic conserved flows — the `subtract` scheme decomposes them completely. -/
import Proofs.C17Loop

namespace Ens.Paths
open Ens

/-- on a simple path an edge is determined by its start as well as by its end -/
theorem edges_inj (p : List Nat) (hnd : p.Nodup) (x y x' y' : Nat) (h : (x, y) ∈ edges p)
    (h' : (x', y') ∈ edges p) : x = x' ↔ y = y' := by
  induction p with
  | nil => cases h
  | cons a t ih =>
    cases t with
    | nil => cases h
    | cons b t =>
      rw [edges_cons_cons] at h h'
      have hat : a ∉ b :: t := (List.nodup_cons.1 hnd).1
      have hbt : b ∉ t := (List.nodup_cons.1 (List.nodup_cons.1 hnd).2).1
      rcases List.mem_cons.1 h with h1 | h1 <;> rcases List.mem_cons.1 h' with h2 | h2
      · cases h1; cases h2; exact ⟨fun _ => rfl, fun _ => rfl⟩
      · cases h1
        exact ⟨fun e => (hat (e ▸ (mem_edges (y :: t) (x', y') h2).1)).elim,
          fun e => (hbt (e ▸ mem_edges_tail (y :: t) (x', y') h2)).elim⟩
      · cases h2
        exact ⟨fun e => (hat (e ▸ (mem_edges (y' :: t) (x, y) h1).1)).elim,
          fun e => (hbt (e ▸ mem_edges_tail (y' :: t) (x, y) h1)).elim⟩
      · exact ih (List.nodup_cons.1 hnd).2 h1 h2

theorem mem_succ (p : List Nat) (v : Nat) (h : v ∈ p) (hl : p.getLast? ≠ some v) :
    ∃ j, (v, j) ∈ edges p := by
  induction p with
  | nil => cases h
  | cons a t ih =>
    cases t with
    | nil => cases List.mem_singleton.1 h; exact absurd rfl hl
    | cons b t =>
      rw [edges_cons_cons]
      rcases List.mem_cons.1 h with rfl | h
      · exact ⟨b, List.mem_cons_self⟩
      · rw [List.getLast?_cons_cons] at hl
        obtain ⟨j, hj⟩ := ih h hl
        exact ⟨j, List.mem_cons_of_mem _ hj⟩

theorem mem_pred (p : List Nat) (v : Nat) (h : v ∈ p) (hh : p.head? ≠ some v) :
    ∃ i, (i, v) ∈ edges p := by
  induction p with
  | nil => cases h
  | cons a t ih =>
    have hvt : v ∈ t := (List.mem_cons.1 h).resolve_left fun e => hh (e ▸ rfl)
    cases t with
    | nil => cases hvt
    | cons b t =>
      rw [edges_cons_cons]
      by_cases hvb : v = b
      · exact ⟨a, hvb ▸ List.mem_cons_self⟩
      · obtain ⟨i, hi⟩ := ih hvt fun e => hvb (Option.some.inj e).symm
        exact ⟨i, List.mem_cons_of_mem _ hi⟩

/-- `ℓ` is a row or a column: a line that meets the simple path in at most one edge -/
theorem line_sub {n : Nat} (G G' : Nat → Nat → Nat) (p : List Nat) (m : Nat) (ℓ : Nat → Nat × Nat)
    (huniq : ∀ i i', ℓ i ∈ edges p → ℓ i' ∈ edges p → i = i') (hlt : ∀ i, ℓ i ∈ edges p → i < n)
    (hle : ∀ e ∈ edges p, m ≤ G e.1 e.2)
    (hG' : ∀ i j, G' i j = if (i, j) ∈ edges p then G i j - m else G i j) :
    ((∃ i, ℓ i ∈ edges p) →
      sumTo n (fun i => G' (ℓ i).1 (ℓ i).2) + m = sumTo n (fun i => G (ℓ i).1 (ℓ i).2)) ∧
    ((¬ ∃ i, ℓ i ∈ edges p) →
      sumTo n (fun i => G' (ℓ i).1 (ℓ i).2) = sumTo n (fun i => G (ℓ i).1 (ℓ i).2)) := by
  constructor
  · rintro ⟨w, hw⟩
    have := sumTo_update n (fun i => G (ℓ i).1 (ℓ i).2) (fun i => G' (ℓ i).1 (ℓ i).2) w (hlt w hw)
      fun i _ hne => by
        show G' (ℓ i).1 (ℓ i).2 = _
        rw [hG', if_neg fun hi => hne (huniq i w hi hw)]
    have h1 : G' (ℓ w).1 (ℓ w).2 = G (ℓ w).1 (ℓ w).2 - m := by rw [hG', if_pos hw]
    have h2 := hle (ℓ w) hw
    omega
  · intro hno
    refine sumTo_congr fun i _ => ?_
    show G' (ℓ i).1 (ℓ i).2 = _
    rw [hG', if_neg fun hi => hno ⟨i, hi⟩]

/-- `G` is an acyclic flow from `S` to `T` on `[0,n)`: positive entries go up in `rank`, never enter
a source or leave a sink, and every other state is balanced -/
structure Flow (n : Nat) (G : Nat → Nat → Nat) (S T : List Nat) (rank : Nat → Nat) : Prop where
  supp : ∀ i j, 0 < G i j → i < n ∧ j < n ∧ rank i < rank j ∧ j ∉ S ∧ i ∉ T
  cons : ∀ v, v < n → v ∉ S → v ∉ T → sumTo n (fun i => G i v) = sumTo n (G v)

section
variable {n : Nat} {G : Nat → Nat → Nat} {S T : List Nat} {rank : Nat → Nat}

theorem Flow.of_bounded (hb : ∀ i j, 0 < G i j → i < n ∧ j < n)
    (hr : ∀ i, i < n → ∀ j, j < n → 0 < G i j → rank i < rank j)
    (hS : ∀ s ∈ S, ∀ i, i < n → G i s = 0) (hT : ∀ t ∈ T, ∀ j, j < n → G t j = 0)
    (hc : ∀ v, v < n → v ∉ S → v ∉ T → sumTo n (fun i => G i v) = sumTo n (G v)) :
    Flow n G S T rank := by
  refine ⟨fun i j h => ?_, hc⟩
  obtain ⟨hi, hj⟩ := hb i j h
  exact ⟨hi, hj, hr i hi j hj h, fun hjS => Nat.ne_of_gt h (hS j hjS i hi),
    fun hiT => Nat.ne_of_gt h (hT i hiT j hj)⟩

theorem Flow.walk_to_sink (h : Flow n G S T rank) (K : Nat) (hK : ∀ v, v < n → rank v ≤ K) (d v : Nat)
    (hd : K ≤ rank v + d) (hv : v < n) (hpos : 0 < sumTo n (G v)) :
    ∃ q t, q.head? = some v ∧ q.getLast? = some t ∧ t ∈ T ∧ Adj G q ∧ ∀ x ∈ q, x < n := by
  induction d generalizing v with
  | zero =>
    obtain ⟨w, hw, hvw⟩ := sumTo_pos n (G v) hpos
    exact absurd (Nat.lt_of_lt_of_le (h.supp v w hvw).2.2.1 (hK w hw)) (Nat.not_lt.2 hd)
  | succ d ih =>
    obtain ⟨w, hw, hvw⟩ := sumTo_pos n (G v) hpos
    obtain ⟨-, -, hr, hwS, -⟩ := h.supp v w hvw
    by_cases hwT : w ∈ T
    · refine ⟨[v, w], w, rfl, rfl, hwT, ⟨hvw, trivial⟩, fun x hx => ?_⟩
      rcases List.mem_cons.1 hx with rfl | hx
      · exact hv
      · cases List.mem_singleton.1 hx; exact hw
    · have hcol : 0 < sumTo n (fun i => G i w) :=
        Nat.lt_of_lt_of_le hvw (le_sumTo n (fun i => G i w) v hv)
      rw [h.cons w hw hwS hwT] at hcol
      have hd' : rank v + (d + 1) ≤ rank w + d := by
        rw [Nat.add_comm d 1, ← Nat.add_assoc]
        exact Nat.add_le_add_right hr d
      obtain ⟨q, t, hh, hl, ht, hadj, hlt⟩ := ih w (Nat.le_trans hd hd') hw hcol
      cases q with
      | nil => cases hh
      | cons a rest =>
        cases Option.some.inj hh
        exact ⟨v :: w :: rest, t, rfl, List.getLast?_cons_cons.trans hl, ht, ⟨hvw, hadj⟩,
          fun x hx => (List.mem_cons.1 hx).elim (fun e => e ▸ hv) (hlt x)⟩

theorem Flow.walk_of_outflow (h : Flow n G S T rank) (hpos : 0 < outflow n G S) :
    ∃ q s t, q.head? = some s ∧ s ∈ S ∧ q.getLast? = some t ∧ t ∈ T ∧ Adj G q ∧ ∀ x ∈ q, x < n := by
  obtain ⟨s, hs, hrow⟩ := sumTo_pos n _ hpos
  by_cases hsS : s ∈ S
  · rw [if_pos hsS] at hrow
    obtain ⟨q, t, h1, h2, h3, h4, h5⟩ := h.walk_to_sink (sumTo n rank)
      (fun v hv => le_sumTo n rank v hv) _ s (Nat.le_add_left _ _) hs hrow
    exact ⟨q, s, t, h1, hsS, h2, h3, h4, h5⟩
  · rw [if_neg hsS] at hrow
    exact absurd hrow (Nat.lt_irrefl 0)

/-- `-inf` would mean that no walk exists, `+inf` that a source is a sink -/
theorem Flow.outflow_eq_zero {p : List Nat} {fl : Ext} (h : Flow n G S T rank) (hdisj : ∀ s ∈ S, s ∉ T)
    (hspec : TopSpec n G S T p fl) (hfl : ∀ f, fl ≠ Ext.fin f) : outflow n G S = 0 := by
  apply Classical.byContradiction
  intro hne
  obtain ⟨q, s, t, h1, h2, h3, h4, h5, h6⟩ := h.walk_of_outflow (Nat.pos_of_ne_zero hne)
  have hw := hspec.widest q s t h1 h2 h3 h4 h5 h6
  cases fl with
  | fin f => exact hfl f rfl
  | ninf => exact bneck_ne_ninf G q ((Ext.le_ninf_iff _).1 hw)
  | pinf =>
    rcases hspec.head_cases with ⟨s', hh, hs', hb⟩ | ⟨h', -⟩
    · obtain ⟨t', hl, ht'⟩ := hspec.last_mem
      cases p with
      | nil => cases hh
      | cons a rest =>
        cases rest with
        | nil =>
          cases Option.some.inj hh
          cases Option.some.inj hl
          exact hdisj _ hs' ht'
        | cons b rest' => exact bneck_cons_cons_ne_pinf G a b rest' hb
    · cases h'

theorem Flow.subtract_step {G' : Nat → Nat → Nat} {p : List Nat} {f : Nat} (h : Flow n G S T rank)
    (hspec : TopSpec n G S T p (Ext.fin f)) (hrem : subtractPath G p = .ok G') :
    Flow n (freeze n G') S T rank ∧ outflow n (freeze n G') S + f = outflow n G S := by
  obtain ⟨s, y, rest, hq, hsS, hb⟩ := hspec.fin_head
  obtain ⟨hmin, hex⟩ := bneck_fin_spec G p f hb
  obtain ⟨G1, hG1, hexact⟩ := subtractPath_exact G p f hmin hex
  rw [hrem] at hG1
  cases hG1
  obtain ⟨t, hlast, htT⟩ := hspec.last_mem
  have hhead : p.head? = some s := by rw [hq]; rfl
  have hle := (removed_step n S T .subtract hspec hrem).1
  have hrowF : ∀ v, v < n → sumTo n (freeze n G' v) = sumTo n (G' v) := fun v hv =>
    sumTo_congr (fun j hj => freeze_eq n G' v j hv hj)
  have hcolF : ∀ v, v < n → sumTo n (fun i => freeze n G' i v) = sumTo n (fun i => G' i v) :=
    fun v hv => sumTo_congr (fun i hi => freeze_eq n G' i v hi hv)
  have hrow : ∀ v, ((∃ j, (v, j) ∈ edges p) → sumTo n (G' v) + f = sumTo n (G v)) ∧
      ((¬ ∃ j, (v, j) ∈ edges p) → sumTo n (G' v) = sumTo n (G v)) := fun v =>
    line_sub G G' p f (fun j => (v, j)) (fun j j' h h' => (edges_inj p hspec.nodup v j v j' h h').1 rfl)
      (fun j h => hspec.all_lt j (mem_edges p _ h).2) hmin hexact
  have hcol : ∀ v, ((∃ i, (i, v) ∈ edges p) →
        sumTo n (fun i => G' i v) + f = sumTo n (fun i => G i v)) ∧
      ((¬ ∃ i, (i, v) ∈ edges p) → sumTo n (fun i => G' i v) = sumTo n (fun i => G i v)) := fun v =>
    line_sub G G' p f (fun i => (i, v)) (fun i i' h h' => (edges_inj p hspec.nodup i v i' v h h').2 rfl)
      (fun i h => hspec.all_lt i (mem_edges p _ h).1) hmin hexact
  -- a state of the path other than its head is entered by a positive edge, so it is no source
  have hsrc : ∀ i, i ∈ S → i ≠ s → ¬ ∃ j, (i, j) ∈ edges p := fun i hiS hne ⟨j, hj⟩ => by
    obtain ⟨i', hi'⟩ := mem_pred p i (mem_edges p _ hj).1 (hhead ▸ fun e => hne (Option.some.inj e).symm)
    exact (h.supp i' i ((adj_iff G p).1 hspec.adj _ hi')).2.2.2.1 hiS
  refine ⟨⟨fun i j hij => h.supp i j (Nat.lt_of_lt_of_le hij (hle i j)), fun v hv hvS hvT => ?_⟩, ?_⟩
  · rw [hrowF v hv, hcolF v hv]
    have hc := h.cons v hv hvS hvT
    by_cases hvp : v ∈ p
    · have h1 := (hrow v).1 (mem_succ p v hvp (hlast ▸ fun e => hvT (Option.some.inj e ▸ htT)))
      have h2 := (hcol v).1 (mem_pred p v hvp (hhead ▸ fun e => hvS (Option.some.inj e ▸ hsS)))
      exact Nat.add_right_cancel (h2.trans (hc.trans h1.symm))
    · rw [(hrow v).2 fun ⟨j, hj⟩ => hvp (mem_edges p _ hj).1,
        (hcol v).2 fun ⟨i, hi⟩ => hvp (mem_edges p _ hi).2]
      exact hc
  · have hsn : s < n := hspec.all_lt s (hq ▸ List.mem_cons_self)
    have hsy : (s, y) ∈ edges p := by rw [hq, edges_cons_cons]; exact List.mem_cons_self
    have := sumTo_update n (fun i => if i ∈ S then sumTo n (G i) else 0)
      (fun i => if i ∈ S then sumTo n (freeze n G' i) else 0) s hsn fun i hi hne => by
        by_cases hiS : i ∈ S
        · rw [if_pos hiS, if_pos hiS, hrowF i hi, (hrow i).2 (hsrc i hiS hne)]
        · rw [if_neg hiS, if_neg hiS]
    rw [if_pos hsS, if_pos hsS, hrowF s hsn, ← (hrow s).1 ⟨y, hsy⟩, Nat.add_comm (sumTo n (G' s)) f,
      ← Nat.add_assoc] at this
    exact Nat.add_right_cancel this

end

theorem outflow_nil (n : Nat) (F : Nat → Nat → Nat) : outflow n F [] = 0 :=
  sumTo_eq_zero n _ fun _ _ => if_neg List.not_mem_nil

theorem outflow_cons (n : Nat) (F : Nat → Nat → Nat) (a : Nat) (S : List Nat) (ha : a < n)
    (haS : a ∉ S) : outflow n F (a :: S) = sumTo n (F a) + outflow n F S := by
  have := sumTo_update n (fun i => if i ∈ S then sumTo n (F i) else 0)
    (fun i => if i ∈ a :: S then sumTo n (F i) else 0) a ha fun i _ hne => by
      by_cases hi : i ∈ S
      · rw [if_pos hi, if_pos (List.mem_cons_of_mem _ hi)]
      · rw [if_neg hi, if_neg fun h => (List.mem_cons.1 h).elim hne hi]
  rw [if_neg haS, if_pos List.mem_cons_self] at this
  exact this.trans (Nat.add_comm _ _)

/-- `net_flux[sources, :].sum()` is the outflow of the source set when no source is repeated -/
theorem totalFlux_eq_outflow (n : Nat) (F : Nat → Nat → Nat) (S : List Nat) (hnd : S.Nodup)
    (hlt : ∀ s ∈ S, s < n) : totalFlux n F S = outflow n F S := by
  induction S with
  | nil => exact (outflow_nil n F).symm
  | cons a S ih =>
    rw [outflow_cons n F a S (hlt a List.mem_cons_self) (List.nodup_cons.1 hnd).1,
      ← ih (List.nodup_cons.1 hnd).2 fun s hs => hlt s (List.mem_cons_of_mem _ hs)]
    rfl

section
variable (n : Nat) (S T : List Nat) (cn : Int) (cd : Nat) (tot : Nat)

/-- on an acyclic conserved flow the `subtract` loop without a path-count limit only stops once the
requested fraction of `tot = e + outflow` is explained -/
theorem pathsLoop_fraction (rank : Nat → Nat) (hdisj : ∀ s ∈ S, s ∉ T) (hc : cn ≤ (cd : Int))
    (fuel : Nat) (G : Nat → Nat → Nat) (c e : Nat) (r : List (List Nat × Nat))
    (hflow : Flow n G S T rank) (htot : e + outflow n G S = tot)
    (h : pathsLoop n S T .subtract none cn cd tot fuel G c e = .ok r) :
    cn * (tot : Int) ≤ ((e + fluxSum r : Nat) : Int) * (cd : Int) := by
  induction fuel generalizing G c e r with
  | zero => cases h
  | succ fuel ih =>
    rcases pathsLoop_succ_ok n S T .subtract none cn cd tot fuel G c e r h with
      ⟨hc0, -⟩ | ⟨-, p, fl, htp, hfl, rfl⟩ | ⟨-, p, f, htp, hcases⟩
    · cases hc0
    · rw [hflow.outflow_eq_zero hdisj (topPath_spec n G S T p fl htp) hfl] at htot
      cases htot
      rw [Int.mul_comm _ (cd : Int)]
      exact Int.mul_le_mul_of_nonneg_right hc (Int.natCast_nonneg _)
    · have hspec := topPath_spec n G S T p (Ext.fin f) htp
      rcases hcases with ⟨hstop, rfl⟩ | ⟨-, G', rest, hrem, hrest, rfl⟩
      · exact of_decide_eq_true hstop
      · obtain ⟨hflow', hout'⟩ := hflow.subtract_step hspec hrem
        have := ih (freeze n G') (c + 1) (e + f) rest hflow'
          (by rw [← htot, ← hout', Nat.add_assoc, Nat.add_comm f]) hrest
        rwa [fluxSum_cons, ← Nat.add_assoc]

end
end Ens.Paths
