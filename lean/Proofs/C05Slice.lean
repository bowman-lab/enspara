import Proofs.C05Basic
import Proofs.PySlice
/-! Where the hand arithmetic for slices of the tree before the repair (`sliceToList`, `colStops`) agrees with
CPython's `slice.indices`. -/
namespace Ens.Ragged
open Ens

/-- row slice: positive step, bounds within `[-n, n]` (no clipping needed) -/
def RowSliceOK (n : Nat) (rs : PySlice) : Prop :=
  (∀ v, rs.step = some v → 0 < v) ∧
  (∀ v, rs.start = some v → -(n : Int) ≤ v ∧ v ≤ n) ∧
  (∀ v, rs.stop = some v → -(n : Int) ≤ v ∧ v ≤ n)

/-- column slice: positive step, non-negative start -/
def ColSliceOK (cs : PySlice) : Prop :=
  (∀ v, cs.step = some v → 0 < v) ∧ (∀ v, cs.start = some v → 0 ≤ v)

theorem step_pos_of {s : PySlice} (h : ∀ v, s.step = some v → 0 < v) : 0 < s.step.getD 1 := by
  cases hs : s.step with
  | none => simp
  | some v => simpa using h v hs

theorem sliceToList_eq_indices {n : Nat} {rs : PySlice} (h : RowSliceOK n rs) :
    ∃ ix, rs.indices n = some ix ∧ sliceToList rs n = .ok (ix.map Int.ofNat) := by
  obtain ⟨hstep, hstart, hstop⟩ := h
  have hpos := step_pos_of hstep
  refine ⟨_, PySlice.indices_of_step_pos n hpos, ?_⟩
  simp only [sliceToList, if_neg (Int.ne_of_gt hpos)]
  congr 1
  refine rangeAux_unclipped hpos n (Nat.le_refl _) ?_ ?_
  · cases hs : rs.start with
    | none => exact clipPos_none_start n
    | some v => exact clipPos_some_of_ge 0 (hstart v hs).1
  · cases hs : rs.stop with
    | none => exact clipPos_none_stop n
    | some v => exact clipPos_some_of_le n (hstop v hs).2

/-- the entry of `colStops` for a row of length `len`: the stop of `_get_iis_from_slices` before the repair,
wrapped once if negative and clipped to `len` from above only -/
def colStop (cs : PySlice) (len : Nat) : Int :=
  let st : Int := match cs.stop with
    | none => (len : Int)
    | some v => if v < 0 then (len : Int) + v else v
  if st > (len : Int) then (len : Int) else st

theorem colStops_eq (cs : PySlice) (lens : List Nat) : colStops cs lens = lens.map (colStop cs) := rfl

/-- that arithmetic clips neither the start to `len` nor the stop to `0`; where that matters both ranges are empty -/
theorem colRange_eq_indices {cs : PySlice} (h : ColSliceOK cs) (len : Nat) :
    ∃ ix, cs.indices len = some ix ∧
      pyRange (cs.start.getD 0) (colStop cs len) (cs.step.getD 1) = ix.map Int.ofNat := by
  obtain ⟨hstep, hstart⟩ := h
  have hpos := step_pos_of hstep
  refine ⟨_, PySlice.indices_of_step_pos len hpos, ?_⟩
  refine rangeAux_unclipped hpos len (Nat.le_refl _) ?_ ?_
  · cases hs : cs.start with
    | none => exact clipPos_none_start len
    | some v => exact clipPos_some_of_nonneg 0 (hstart v hs)
  · simp only [colStop]
    cases cs.stop with
    | none => simp only [clipPos]; omega
    | some w =>
      simp only [clipPos]
      by_cases hw : w < 0
      · simp only [hw, if_true]; omega
      · simp only [hw, if_false]; omega

end Ens.Ragged
