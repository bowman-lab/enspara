import Proofs.C01Pam
/-!
C01/C09: one PAM step, the proposal, the loop over the centers with the facts it keeps (`Consistent`, `Shape`) and
its cost history (`Descends`: never increasing), the guards of `pamUpdate`.
-/
namespace Ens.Cluster

variable {D : Table} {n : Nat} {props : Option (List Nat)} {s : St}

theorem pamStep_spec {cid p : Nat} {st : PamStep} (h : pamStep D n s cid p = .ok st) :
    st.cid = cid ∧ st.p = p ∧
    st.oldCost = cost n s.arr.dist ∧ st.newCost = cost n (pamCandidate D n s cid p).arr.dist ∧
    (st.acc = true ↔ cost n (pamCandidate D n s cid p).arr.dist < cost n s.arr.dist) ∧
    st.after = (if st.acc = true then pamCandidate D n s cid p else s) := by
  unfold pamStep at h
  simp only [] at h
  split at h
  · cases h
  · injection h with h
    subst h
    simp

theorem pamStep_after_cases {cid p : Nat} {st : PamStep} (h : pamStep D n s cid p = .ok st) :
    (st.acc = false ∧ st.after = s) ∨
    (st.acc = true ∧ st.after = pamCandidate D n s cid p ∧
      cost n (pamCandidate D n s cid p).arr.dist < cost n s.arr.dist) := by
  obtain ⟨_, _, _, _, h5, h6⟩ := pamStep_spec h
  cases hacc : st.acc
  · left; simp [hacc] at h6; exact ⟨rfl, h6⟩
  · right; simp [hacc] at h6; exact ⟨rfl, h6, h5.mp hacc⟩

theorem pamStep_cost_le {cid p : Nat} {st : PamStep}
    (h : pamStep D n s cid p = .ok st) : cost n st.after.arr.dist ≤ cost n s.arr.dist := by
  rcases pamStep_after_cases h with ⟨_, e⟩ | ⟨_, e, hlt⟩
  · rw [e]
  · rw [e]; exact le_of_lt hlt

theorem pamStep_consistent (T : TableOK D n) (hs : Consistent D n s)
    {cid p : Nat} (hcid : cid < s.ctrInds.length) (hp : p < n) {st : PamStep}
    (h : pamStep D n s cid p = .ok st) : Consistent D n st.after := by
  rcases pamStep_after_cases h with ⟨_, e⟩ | ⟨_, e, hlt⟩
  · rw [e]; exact hs
  · rw [e]; exact cand_consistent T hs hcid hp hlt

/-- shape facts kept by a step from any state: number of centers, coordinates in lock-step with
indices, indices inside the data -/
structure Shape (n : Nat) (k : Nat) (s : St) : Prop where
  len : s.ctrInds.length = k
  frames : s.ctrFrames = s.ctrInds
  inds_lt : ∀ c ∈ s.ctrInds, c < n

theorem pamStep_shape {k : Nat} (hs : Shape n k s) {cid p : Nat} (hp : p < n) {st : PamStep}
    (h : pamStep D n s cid p = .ok st) : Shape n k st.after := by
  rcases pamStep_after_cases h with ⟨_, e⟩ | ⟨_, e, _⟩
  · rw [e]; exact hs
  · rw [e]
    exact ⟨by simp [hs.len], by simp [hs.frames], lt_of_mem_set hs.inds_lt hp⟩

/-- a proposal is a frame; a random one (kmedoids.py L612, L514) is a member of the cluster being updated -/
theorem propose_ok {cid : Nat} {orc orc' : List Nat} {p : Nat}
    (h : propose n s cid props orc = .ok (p, orc')) :
    p < n ∧ (props = none → s.arr.assign p = (cid : Nat)) := by
  unfold propose at h
  cases props with
  | some ps =>
    simp only [] at h
    split at h
    · cases h
    · split at h
      · cases h; exact ⟨‹_›, nofun⟩
      · cases h
  | none =>
    simp only [] at h
    split at h
    · cases h
    · split at h
      · cases h
      · split at h
        · cases h
        · rename_i q hq
          cases h
          have := List.mem_of_getElem? hq
          rw [List.mem_filter, List.mem_range, decide_eq_true_eq] at this
          exact ⟨this.1, fun _ => this.2⟩

theorem propose_lt {cid : Nat} {orc orc' : List Nat} {p : Nat}
    (h : propose n s cid props orc = .ok (p, orc')) : p < n := (propose_ok h).1

theorem pamLoop_nil_ok {s' : St} {orc orc' : List Nat}
    {tr : List PamStep} (h : pamLoop D n props [] s orc = .ok (s', orc', tr)) : s' = s ∧ orc' = orc ∧ tr = [] := by
  cases h; exact ⟨rfl, rfl, rfl⟩

theorem pamLoop_cons_ok {cid : Nat} {rest : List Nat} {s' : St} {orc orc' : List Nat} {tr : List PamStep}
    (h : pamLoop D n props (cid :: rest) s orc = .ok (s', orc', tr)) :
    ∃ p orc1 st tr2, propose n s cid props orc = .ok (p, orc1) ∧ pamStep D n s cid p = .ok st ∧
      pamLoop D n props rest st.after orc1 = .ok (s', orc', tr2) ∧ tr = st :: tr2 := by
  rw [pamLoop] at h
  obtain ⟨⟨p, orc1⟩, h1, h⟩ := bind_eq_ok.mp h
  obtain ⟨st, h2, h⟩ := bind_eq_ok.mp h
  obtain ⟨⟨s2, o2, tr2⟩, h3, h⟩ := bind_eq_ok.mp h
  cases h
  exact ⟨p, orc1, st, tr2, h1, h2, h3, rfl⟩

theorem pamLoop_induct (P : St → Prop) (Q : Nat → Prop)
    (step : ∀ {s : St} {cid p : Nat} {st : PamStep}, Q cid → P s → p < n → pamStep D n s cid p = .ok st →
      P st.after) :
    ∀ (cids : List Nat) {s s' : St} {orc orc' : List Nat} {tr : List PamStep}, (∀ c ∈ cids, Q c) → P s →
      pamLoop D n props cids s orc = .ok (s', orc', tr) → P s' := by
  intro cids
  induction cids with
  | nil => intro s s' orc orc' tr _ hs h; rw [(pamLoop_nil_ok h).1]; exact hs
  | cons cid rest ih =>
    intro s s' orc orc' tr hq hs h
    obtain ⟨p, orc1, st, tr2, h1, h2, h3, _⟩ := pamLoop_cons_ok h
    exact ih (fun c hc => hq c (List.mem_cons_of_mem _ hc))
      (step (hq cid List.mem_cons_self) hs (propose_lt h1) h2) h3

theorem pamLoop_shape {k : Nat} (cids : List Nat) {s' : St}
    {orc orc' : List Nat} {tr : List PamStep} (hs : Shape n k s)
    (h : pamLoop D n props cids s orc = .ok (s', orc', tr)) : Shape n k s' :=
  pamLoop_induct (Shape n k) (fun _ => True) (fun _ hs hp h => pamStep_shape hs hp h) cids
    (fun _ _ => trivial) hs h

theorem pamLoop_consistent (T : TableOK D n)
    (cids : List Nat) {s' : St} {orc orc' : List Nat} {tr : List PamStep}
    (hc : ∀ c ∈ cids, c < s.ctrInds.length) (hs : Consistent D n s)
    (h : pamLoop D n props cids s orc = .ok (s', orc', tr)) :
    Consistent D n s' ∧ s'.ctrInds.length = s.ctrInds.length :=
  pamLoop_induct (fun x => Consistent D n x ∧ x.ctrInds.length = s.ctrInds.length) (· < s.ctrInds.length)
    (fun hcid hx hp h => ⟨pamStep_consistent T hx.1 (hx.2 ▸ hcid) hp h,
      (pamStep_shape ⟨hx.2, hx.1.frames, hx.1.inds_lt⟩ hp h).len⟩) cids hc ⟨hs, rfl⟩ h

/-- costs of the states after each step -/
def costsOf (n : Nat) (tr : List PamStep) : List Rat := tr.map (fun st => cost n st.after.arr.dist)

/-- a history of costs that starts at `c0`, never increases, and ends at `c1`, its minimum -/
def Descends (c0 : Rat) (cs : List Rat) (c1 : Rat) : Prop :=
  (c0 :: cs).Pairwise (fun x y => y ≤ x) ∧ ∀ x ∈ c0 :: cs, c1 ≤ x

theorem Descends.nil (c : Rat) : Descends c [] c :=
  ⟨List.pairwise_singleton _ _, fun x hx => by rw [List.mem_singleton.mp hx]⟩

theorem Descends.le {c0 c1 : Rat} {cs : List Rat} (h : Descends c0 cs c1) : c1 ≤ c0 :=
  h.2 _ List.mem_cons_self

theorem Descends.append {c0 c1 c2 : Rat} {xs ys : List Rat} (h1 : Descends c0 xs c1) (h2 : Descends c1 ys c2) :
    Descends c0 (xs ++ ys) c2 := by
  refine ⟨?_, fun x hx => ?_⟩
  · rw [← List.cons_append]
    exact List.pairwise_append.mpr ⟨h1.1, (List.pairwise_cons.mp h2.1).2,
      fun a ha b hb => le_trans ((List.pairwise_cons.mp h2.1).1 b hb) (h1.2 a ha)⟩
  · rw [← List.cons_append] at hx
    rcases List.mem_append.mp hx with hx' | hx'
    · exact le_trans h2.le (h1.2 x hx')
    · exact h2.2 x (List.mem_cons_of_mem _ hx')

theorem Descends.cons {c c' c1 : Rat} {cs : List Rat} (hle : c' ≤ c) (h : Descends c' cs c1) :
    Descends c (c' :: cs) c1 :=
  Descends.append (xs := [c']) ⟨List.pairwise_pair.mpr hle, fun x hx => by
    rcases List.mem_cons.mp hx with rfl | hx'
    · exact hle
    · rw [List.mem_singleton.mp hx']⟩ h

theorem pamLoop_costs :
    ∀ (cids : List Nat) {s s' : St} {orc orc' : List Nat} {tr : List PamStep},
      pamLoop D n props cids s orc = .ok (s', orc', tr) →
      Descends (cost n s.arr.dist) (costsOf n tr) (cost n s'.arr.dist) := by
  intro cids
  induction cids with
  | nil =>
    intro s s' orc orc' tr h
    obtain ⟨rfl, _, rfl⟩ := pamLoop_nil_ok h
    exact Descends.nil _
  | cons cid rest ih =>
    intro s s' orc orc' tr h
    obtain ⟨p, orc1, st, tr2, h1, h2, h3, rfl⟩ := pamLoop_cons_ok h
    exact Descends.cons (pamStep_cost_le h2) (ih h3)

theorem pamLoop_trace_steps :
    ∀ (cids : List Nat) {s s' : St} {orc orc' : List Nat} {tr : List PamStep},
      pamLoop D n props cids s orc = .ok (s', orc', tr) →
      (s :: tr.map (·.after)).IsChain (fun a b => b = a ∨ cost n b.arr.dist < cost n a.arr.dist) := by
  intro cids
  induction cids with
  | nil => intro s s' orc orc' tr h; rw [(pamLoop_nil_ok h).2.2]; exact List.IsChain.singleton _
  | cons cid rest ih =>
    intro s s' orc orc' tr h
    obtain ⟨p, orc1, st, tr2, h1, h2, h3, rfl⟩ := pamLoop_cons_ok h
    simp only [List.map_cons]
    refine List.IsChain.cons_cons ?_ (ih h3)
    rcases pamStep_after_cases h2 with ⟨_, e⟩ | ⟨_, e, hlt⟩
    · left; exact e
    · right; rw [e]; exact hlt

/-- the guards of `_kmedoids_pam_update` in source order, then the loop -/
theorem pamUpdate_eq (D : Table) (n : Nat) (s : St) (props : Option (List Nat)) (orc : List Nat) :
    pamUpdate D n s props orc =
    if n = 0 then .error .indexError
    else if props.any (fun ps => decide (ps.length ≠ s.ctrInds.length)) = true then .error .dataInvalid
    else if s.ctrInds = [] then .error .indexError
    else if (s.ctrInds.any fun c => decide (n ≤ c)) = true then .error .indexError
    else if s.arr.fresh = true then .error .infState
    else pamLoop D n props (List.range s.ctrInds.length) { s with ctrFrames := s.ctrInds } orc := by
  unfold pamUpdate
  cases props with
  | none => rfl
  | some ps =>
    by_cases hl : ps.length ≠ s.ctrInds.length
    · rw [Option.any_some, decide_eq_true hl]; simp only [if_pos hl]; rfl
    · rw [Option.any_some, decide_eq_false hl]; simp only [if_neg hl]; rfl

theorem pamUpdate_ok {orc : List Nat}
    {out : St × List Nat × List PamStep} (h : pamUpdate D n s props orc = .ok out) :
    0 < n ∧ s.ctrInds ≠ [] ∧ (∀ c ∈ s.ctrInds, c < n) ∧ s.arr.fresh = false ∧
    (∀ ps, props = some ps → ps.length = s.ctrInds.length) ∧
    pamLoop D n props (List.range s.ctrInds.length) { s with ctrFrames := s.ctrInds } orc = .ok out := by
  rw [pamUpdate_eq] at h
  simp only [ite_error_eq_ok] at h
  obtain ⟨h0, h1, h2, h3, h4, h⟩ := h
  refine ⟨Nat.pos_of_ne_zero h0, h2, fun c hc => ?_, by simpa using h4, fun ps e => ?_, h⟩
  · exact Nat.lt_of_not_le fun hle => h3 (List.any_eq_true.mpr ⟨c, hc, decide_eq_true hle⟩)
  · subst e
    exact not_not.mp fun hne => h1 (decide_eq_true hne)

theorem pamUpdate_eq_loop (hn : 0 < n) (hfr : s.arr.fresh = false)
    (hne : s.ctrInds ≠ []) (hlt : ∀ c ∈ s.ctrInds, c < n)
    (hl : ∀ ps, props = some ps → ps.length = s.ctrInds.length) (orc : List Nat) :
    pamUpdate D n s props orc =
      pamLoop D n props (List.range s.ctrInds.length) { s with ctrFrames := s.ctrInds } orc := by
  rw [pamUpdate_eq, if_neg (Nat.ne_of_gt hn), if_neg, if_neg hne, if_neg, if_neg (by rw [hfr]; exact nofun)]
  · rw [List.any_eq_true]
    rintro ⟨c, hc, h⟩
    exact absurd (hlt c hc) (Nat.not_lt.mpr (of_decide_eq_true h))
  · cases props with
    | none => exact nofun
    | some ps => rw [Option.any_some, decide_eq_true_eq, not_not]; exact hl ps rfl

end Ens.Cluster
