import Model.Basic
/-!
The shared definitions of `Model.Basic`: equations, congruence and monotonicity of `sumTo`; `argmaxTo`/`argminTo`
return the first extremum; reads of `tabulate`; two list facts; the inversion lemmas of `Except` blocks. Core Lean only;
the `Finset.sum` form of `sumTo` is in `Proofs.BasicSum`.
-/
namespace Ens
theorem sumTo_zero {α} [Add α] [OfNat α 0] (f : Nat → α) : sumTo 0 f = 0 := rfl
theorem sumTo_succ {α} [Add α] [OfNat α 0] (n : Nat) (f : Nat → α) :
    sumTo (n+1) f = sumTo n f + f n := rfl

theorem sumTo_congr {α} [Add α] [OfNat α 0] {n : Nat} {f g : Nat → α} (h : ∀ i, i < n → f i = g i) :
    sumTo n f = sumTo n g := by
  induction n with
  | zero => rfl
  | succ k ih =>
    rw [sumTo_succ, sumTo_succ, ih fun i hi => h i (Nat.lt_succ_of_lt hi), h k (Nat.lt_succ_self k)]

/-- monotone in the summand, for any `≤` with `0 ≤ 0` that `+` respects (ℕ, ℚ, …) -/
theorem sumTo_le_sumTo {α} [Add α] [OfNat α 0] [LE α] (zero_le : (0 : α) ≤ 0)
    (add_le_add : ∀ {a b c d : α}, a ≤ b → c ≤ d → a + c ≤ b + d) {n : Nat} {f g : Nat → α}
    (h : ∀ i, i < n → f i ≤ g i) : sumTo n f ≤ sumTo n g := by
  induction n with
  | zero => exact zero_le
  | succ k ih => exact add_le_add (ih fun i hi => h i (Nat.lt_succ_of_lt hi)) (h k (Nat.lt_succ_self k))

theorem sumTo_eq_sum_map {α} [Add α] [Zero α] [Std.Associative (α := α) (· + ·)]
    [Std.LawfulIdentity (α := α) (· + ·) 0] (n : Nat) (f : Nat → α) :
    sumTo n f = ((List.range n).map f).sum := by
  induction n with
  | zero => rfl
  | succ k ih =>
    rw [sumTo_succ, ih, List.range_succ, List.map_append, List.sum_append, List.map_singleton,
      List.sum_singleton]

section arg
variable {α} [LT α] [DecidableRel (α := α) (· < ·)]

theorem argmaxTo_one (f : Nat → α) : argmaxTo 1 f = 0 := rfl

theorem argmaxTo_succ_succ (f : Nat → α) (k : Nat) :
    argmaxTo (k+2) f = if f (argmaxTo (k+1) f) < f (k+1) then k+1 else argmaxTo (k+1) f := by
  rw [argmaxTo, if_neg (Nat.succ_ne_zero k)]

theorem argminTo_one (f : Nat → α) : argminTo 1 f = 0 := rfl

theorem argminTo_succ_succ (f : Nat → α) (k : Nat) :
    argminTo (k+2) f = if f (k+1) < f (argminTo (k+1) f) then k+1 else argminTo (k+1) f := by
  rw [argminTo, if_neg (Nat.succ_ne_zero k)]

theorem argmaxTo_lt {f : Nat → α} : ∀ {n : Nat}, 0 < n → argmaxTo n f < n
  | 1, _ => Nat.one_pos
  | k+2, _ => by
    rw [argmaxTo_succ_succ]
    split
    · exact Nat.lt_succ_self _
    · exact Nat.lt_succ_of_lt (argmaxTo_lt (Nat.succ_pos k))

/-- `np.argmax` returns the FIRST maximum, for any `<` that is irreflexive, transitive and total -/
theorem argmaxTo_spec (irrefl : ∀ a : α, ¬ a < a) (trans : ∀ {a b c : α}, a < b → b < c → a < c)
    (tri : ∀ a b : α, a < b ∨ a = b ∨ b < a) (f : Nat → α) {n : Nat} (hn : 0 < n) :
    argmaxTo n f < n ∧ (∀ i, i < n → ¬ f (argmaxTo n f) < f i) ∧
      (∀ i, i < argmaxTo n f → f i < f (argmaxTo n f)) := by
  obtain ⟨k, rfl⟩ : ∃ k, n = k + 1 := ⟨n - 1, (Nat.succ_pred_eq_of_pos hn).symm⟩
  clear hn
  induction k with
  | zero =>
    exact ⟨Nat.one_pos, fun i hi => by rw [Nat.lt_one_iff.mp hi]; exact irrefl _, fun i hi => nomatch hi⟩
  | succ k ih =>
    obtain ⟨h1, h2, h3⟩ := ih
    rw [argmaxTo_succ_succ]
    split
    · rename_i hlt
      refine ⟨Nat.lt_succ_self _, fun i hi => ?_, fun i hi => ?_⟩
      · rcases Nat.lt_succ_iff_lt_or_eq.mp hi with hi | rfl
        · exact fun h => h2 i hi (trans hlt h)
        · exact irrefl _
      · rcases tri (f i) (f (argmaxTo (k+1) f)) with h | h | h
        · exact trans h hlt
        · rw [h]; exact hlt
        · exact absurd h (h2 i hi)
    · rename_i hnl
      refine ⟨Nat.lt_succ_of_lt h1, fun i hi => ?_, h3⟩
      rcases Nat.lt_succ_iff_lt_or_eq.mp hi with hi | rfl
      · exact h2 i hi
      · exact hnl

/-- `argminTo` is `argmaxTo` for the converse order -/
theorem argminTo_eq_argmaxTo_conv (n : Nat) (f : Nat → α) :
    argminTo n f = @argmaxTo α ⟨fun a b => b < a⟩ (fun a b => inferInstanceAs (Decidable (b < a))) n f := by
  induction n with
  | zero => rfl
  | succ k ih => unfold argminTo argmaxTo; rw [ih]; rfl

/-- `np.argmin` returns the FIRST minimum -/
theorem argminTo_spec (irrefl : ∀ a : α, ¬ a < a) (trans : ∀ {a b c : α}, a < b → b < c → a < c)
    (tri : ∀ a b : α, a < b ∨ a = b ∨ b < a) (f : Nat → α) {n : Nat} (hn : 0 < n) :
    argminTo n f < n ∧ (∀ i, i < n → ¬ f i < f (argminTo n f)) ∧
      (∀ i, i < argminTo n f → f (argminTo n f) < f i) := by
  rw [argminTo_eq_argmaxTo_conv]
  exact @argmaxTo_spec α ⟨fun a b => b < a⟩ _ irrefl (fun h1 h2 => trans h2 h1)
    (fun a b => (tri b a).imp id (Or.imp Eq.symm id)) f n hn

end arg

theorem length_tabulate {α} (n : Nat) (g : Nat → α) : (tabulate n g).length = n := by
  rw [tabulate, List.length_map, List.length_range]

theorem mem_tabulate {α} (n : Nat) (g : Nat → α) (y : α) : y ∈ tabulate n g ↔ ∃ i, i < n ∧ g i = y := by
  rw [tabulate, List.mem_map]
  exact exists_congr fun i => and_congr_left' List.mem_range

theorem getElem?_tabulate {α} (n : Nat) (g : Nat → α) (i : Nat) :
    (tabulate n g)[i]? = if i < n then some (g i) else none := by
  rw [tabulate, List.getElem?_map]
  by_cases h : i < n
  · rw [List.getElem?_range h, if_pos h]; rfl
  · rw [List.getElem?_eq_none (by rw [List.length_range]; exact Nat.le_of_not_lt h), if_neg h]; rfl

theorem tabulate_congr {α} {n : Nat} {f g : Nat → α} (h : ∀ i, i < n → f i = g i) :
    tabulate n f = tabulate n g :=
  List.map_congr_left fun i hi => h i (List.mem_range.mp hi)

theorem getD_tabulate {α} (n : Nat) (g : Nat → α) (d : α) {i : Nat} (hi : i < n) :
    (tabulate n g).getD i d = g i := by
  rw [List.getD_eq_getElem?_getD, getElem?_tabulate, if_pos hi]
  rfl

theorem map_range_getD {α β} (l : List α) (d : α) (h : α → β) :
    (List.range l.length).map (fun i => h (l.getD i d)) = l.map h :=
  List.ext_getElem (by rw [List.length_map, List.length_map, List.length_range]) fun i _ hi => by
    rw [List.length_map] at hi
    rw [List.getElem_map, List.getElem_map, List.getElem_range, List.getD_eq_getElem?_getD,
      List.getElem?_eq_getElem hi]
    rfl

theorem toList_eq_tabulate {α} (a : Array α) (d : α) : a.toList = tabulate a.size (fun i => a.getD i d) := by
  apply List.ext_getElem
  · simp [tabulate]
  · intro i h1 h2
    have hi : i < a.size := by simpa using h1
    simp [tabulate, Array.getD, hi]

theorem getD_toArray_tabulate {α} (n : Nat) (g : Nat → α) (d : α) {i : Nat} (hi : i < n) :
    (tabulate n g).toArray.getD i d = g i := by
  simp [tabulate, Array.getD, hi]

theorem mem_zip_self {α} {l : List α} {a b : α} : (a, b) ∈ l.zip l ↔ a = b ∧ a ∈ l := by
  induction l with
  | nil => exact ⟨nofun, fun h => nomatch h.2⟩
  | cons x xs ih =>
    rw [List.zip_cons_cons, List.mem_cons, List.mem_cons, ih, Prod.mk.injEq]
    constructor
    · rintro (⟨rfl, rfl⟩ | ⟨h1, h2⟩)
      · exact ⟨rfl, Or.inl rfl⟩
      · exact ⟨h1, Or.inr h2⟩
    · rintro ⟨rfl, rfl | h2⟩
      · exact Or.inl ⟨rfl, rfl⟩
      · exact Or.inr ⟨rfl, h2⟩

/-- first-match lookup in an association list with distinct keys -/
theorem lookup_eq_some_iff {α β} [BEq α] [LawfulBEq α] {l : List (α × β)} (h : (l.map Prod.fst).Nodup)
    (k : α) (v : β) : (l.find? fun p => p.1 == k).map (·.2) = some v ↔ (k, v) ∈ l := by
  induction l with
  | nil => exact ⟨nofun, nofun⟩
  | cons p l ih =>
    rw [List.map_cons, List.nodup_cons] at h
    rw [List.mem_cons]
    by_cases hp : p.1 = k
    · rw [List.find?_cons_of_pos (p := fun p : α × β => p.1 == k) (beq_iff_eq.mpr hp), Option.map_some, Option.some.injEq]
      constructor
      · intro hv; exact .inl (by rw [← hp, ← hv])
      · rintro (hv | hv)
        · rw [← hv]
        · exact absurd (List.mem_map.2 ⟨_, hv, hp.symm⟩) h.1
    · rw [List.find?_cons_of_neg (p := fun p : α × β => p.1 == k) (mt beq_iff_eq.mp hp), ih h.2]
      exact ⟨.inr, fun hv => hv.resolve_left fun e => hp (by rw [← e])⟩

section except
variable {ε α β : Type}

theorem bind_eq_ok {x : Except ε α} {f : α → Except ε β} {b : β} :
    (x >>= f) = .ok b ↔ ∃ a, x = .ok a ∧ f a = .ok b := by
  cases x with
  | error e => exact ⟨nofun, nofun⟩
  | ok a => exact ⟨fun h => ⟨a, rfl, h⟩, fun ⟨_, e, h⟩ => by cases e; exact h⟩

/-- `if c then throw e` followed by the rest `x` of a `do` block -/
theorem ite_error_eq_ok {c : Prop} [Decidable c] {e : ε} {x : Except ε α} {a : α} :
    (if c then .error e else x) = .ok a ↔ ¬ c ∧ x = .ok a := by
  by_cases hc : c
  · rw [if_pos hc]; exact ⟨nofun, fun h => absurd hc h.1⟩
  · rw [if_neg hc]; exact ⟨fun h => ⟨hc, h⟩, fun h => h.2⟩

theorem ite_not_error_eq_ok {c : Prop} [Decidable c] {e : ε} {x : Except ε α} {a : α} :
    (if ¬ c then .error e else x) = .ok a ↔ c ∧ x = .ok a :=
  ite_error_eq_ok.trans (and_congr_left' Decidable.not_not)

theorem mapM_ok (f : α → Except ε β) (g : α → β) :
    ∀ (l : List α), (∀ a ∈ l, f a = .ok (g a)) → l.mapM f = .ok (l.map g)
  | [], _ => rfl
  | a :: l, h => by
    rw [List.mapM_cons, h a List.mem_cons_self, mapM_ok f g l fun b hb => h b (List.mem_cons_of_mem a hb)]
    rfl

end except
end Ens
