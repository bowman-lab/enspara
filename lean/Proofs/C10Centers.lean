import Proofs.C10Assign
/-! Lemmas for C10: `np.unique`, the per-label argmin of `find_cluster_centers`. -/
namespace Ens.Assign

theorem mem_insertUniq (x y : Int) (l : List Int) : y ∈ insertUniq x l ↔ y = x ∨ y ∈ l := by
  induction l with
  | nil => simp [insertUniq]
  | cons a as ih =>
    rw [insertUniq]
    split
    · exact List.mem_cons
    · split
      · rename_i h
        rw [h]
        exact ⟨.inr, fun h => h.elim (fun e => e ▸ List.mem_cons_self) id⟩
      · rw [List.mem_cons, ih, List.mem_cons]
        exact or_left_comm

theorem pairwise_insertUniq (x : Int) (l : List Int) (h : l.Pairwise (· < ·)) :
    (insertUniq x l).Pairwise (· < ·) := by
  induction l with
  | nil => simp [insertUniq]
  | cons a as ih =>
    simp only [insertUniq]
    rw [List.pairwise_cons] at h
    split
    · rename_i hlt
      rw [List.pairwise_cons]
      refine ⟨?_, List.pairwise_cons.2 h⟩
      intro z hz
      rcases List.mem_cons.1 hz with rfl | hz
      · exact hlt
      · exact Int.lt_trans hlt (h.1 z hz)
    · split
      · exact List.pairwise_cons.2 h
      · rename_i hnl hne
        rw [List.pairwise_cons]
        refine ⟨?_, ih h.2⟩
        intro z hz
        rcases (mem_insertUniq x z as).1 hz with rfl | hz
        · exact Int.lt_iff_le_and_ne.mpr ⟨Int.not_lt.mp hnl, Ne.symm hne⟩
        · exact h.1 z hz

theorem mem_uniqueSorted (l : List Int) (y : Int) : y ∈ uniqueSorted l ↔ y ∈ l := by
  induction l with
  | nil => simp [uniqueSorted]
  | cons a as ih =>
    have : uniqueSorted (a :: as) = insertUniq a (uniqueSorted as) := rfl
    rw [this, mem_insertUniq, ih]; simp

theorem pairwise_uniqueSorted (l : List Int) : (uniqueSorted l).Pairwise (· < ·) := by
  induction l with
  | nil => simp [uniqueSorted]
  | cons a as ih =>
    have : uniqueSorted (a :: as) = insertUniq a (uniqueSorted as) := rfl
    rw [this]; exact pairwise_insertUniq a _ ih

/-- `m` is the first frame among `0 … n-1` satisfying `p` whose distance is minimal among them -/
def IsFirstMinWhere (p : Nat → Bool) (d : Nat → ERat) (n m : Nat) : Prop :=
  m < n ∧ p m = true ∧ (∀ f, f < n → p f = true → ERat.le (d m) (d f) = true) ∧
    (∀ f, f < m → p f = true → ERat.lt (d m) (d f) = true)

theorem argminWhere_none {p : Nat → Bool} {d : Nat → ERat} :
    ∀ {n : Nat}, argminWhere p d n = none → ∀ f, f < n → p f = false
  | n + 1, h, f, hf => by
    rw [argminWhere] at h
    cases hr : argminWhere p d n with
    | some b => rw [hr] at h; simp only at h; split at h <;> cases h
    | none =>
      rw [hr] at h
      rcases Nat.lt_succ_iff_lt_or_eq.mp hf with hf | rfl
      · exact argminWhere_none hr f hf
      · cases hp : p f with
        | false => rfl
        | true => rw [hp] at h; cases h

theorem argminWhere_some {p : Nat → Bool} {d : Nat → ERat} :
    ∀ {n m : Nat}, argminWhere p d n = some m → IsFirstMinWhere p d n m
  | n + 1, m, h => by
    rw [argminWhere] at h
    cases hr : argminWhere p d n with
    | none =>
      rw [hr] at h
      have hnone := argminWhere_none hr
      cases hp : p n with
      | false => rw [hp] at h; cases h
      | true =>
        rw [hp] at h; cases h
        refine ⟨Nat.lt_succ_self _, hp, fun f hf hpf => ?_, fun f hf hpf => ?_⟩
        · rcases Nat.lt_succ_iff_lt_or_eq.mp hf with hf | rfl
          · rw [hnone f hf] at hpf; cases hpf
          · exact ERat.le_refl _
        · rw [hnone f hf] at hpf; cases hpf
    | some b =>
      rw [hr] at h
      simp only at h
      obtain ⟨hb, hpb, hmin, hfirst⟩ := argminWhere_some hr
      cases hc : (p n && ERat.lt (d n) (d b)) with
      | true =>
        rw [hc] at h; cases h
        obtain ⟨hpn, hlt⟩ := Bool.and_eq_true_iff.mp hc
        refine ⟨Nat.lt_succ_self _, hpn, fun f hf hpf => ?_, fun f hf hpf => ERat.lt_of_lt_of_le hlt (hmin f hf hpf)⟩
        rcases Nat.lt_succ_iff_lt_or_eq.mp hf with hf | rfl
        · exact ERat.le_of_lt (ERat.lt_of_lt_of_le hlt (hmin f hf hpf))
        · exact ERat.le_refl _
      | false =>
        rw [hc] at h; cases h
        refine ⟨Nat.lt_succ_of_lt hb, hpb, fun f hf hpf => ?_, hfirst⟩
        rcases Nat.lt_succ_iff_lt_or_eq.mp hf with hf | rfl
        · exact hmin f hf hpf
        · rw [hpf, Bool.true_and] at hc
          rw [ERat.le, hc]; rfl

theorem IsFirstMinWhere.unique {p : Nat → Bool} {d : Nat → ERat} {n m m' : Nat}
    (h : IsFirstMinWhere p d n m) (h' : IsFirstMinWhere p d n m') : m = m' := by
  obtain ⟨hm, hp, hmin, hfirst⟩ := h
  obtain ⟨hm', hp', hmin', hfirst'⟩ := h'
  rcases Nat.lt_trichotomy m m' with hlt | heq | hgt
  · have h1 := hfirst' m hlt hp
    have h2 := hmin m' hm' hp'
    simp [ERat.le, h1] at h2
  · exact heq
  · have h1 := hfirst m' hgt hp'
    have h2 := hmin' m hm hp
    simp [ERat.le, h1] at h2

/-- the loop over labels succeeds when every label occurs, and each entry is the first
minimal-distance member of its label -/
theorem centersFor_spec (n : Nat) (a : Nat → Int) (d : Nat → ERat) (cs : List Int)
    (h : ∀ c ∈ cs, ∃ f, f < n ∧ a f = c) :
    ∃ ms, centersFor n a d cs = .ok ms ∧ ms.length = cs.length ∧
      ∀ (i : Nat) (c : Int), cs[i]? = some c → ∃ m, ms[i]? = some m ∧ IsFirstMinWhere (fun f => a f == c) d n m := by
  induction cs with
  | nil => exact ⟨[], rfl, rfl, fun _ _ h => nomatch h⟩
  | cons c cs ih =>
    obtain ⟨ms, hms, hlen, hspec⟩ := ih fun c' hc' => h c' (List.mem_cons_of_mem c hc')
    cases hr : argminWhere (fun f => a f == c) d n with
    | none =>
      obtain ⟨f, hf, hfa⟩ := h c List.mem_cons_self
      have := argminWhere_none hr f hf
      rw [hfa, beq_self_eq_true] at this
      cases this
    | some m =>
      refine ⟨m :: ms, by rw [centersFor, hr]; simp only; rw [hms], congrArg (· + 1) hlen, fun i c' hi => ?_⟩
      cases i with
      | zero => cases hi; exact ⟨m, rfl, argminWhere_some hr⟩
      | succ i => exact hspec i c' hi

end Ens.Assign
