import Proofs.C05Cell
/-! The row view, iteration, gathering cells, and the index forms numpy handles on the row view. -/
namespace Ens.Ragged
open Ens

/-- what a returned value stands for, through `Except` -/
def absE {α} (x : Except Err (Res α)) : Except Err (SRes α) := bindE x fun r => .ok r.abs

/-- side condition under which `__init__` takes the rectangular fast path (`fast = true` means:
lengths were given as an ndarray and `np.all(lengths == lengths[0])` held) -/
def FastOK {α} (ra : RA α) (fast : Bool) : Prop :=
  fast = true → ∃ L, 0 < L ∧ ra.lengths ≠ [] ∧ ∀ x ∈ ra.lengths, x = L

/-- fast-path side condition after the repair: lengths all equal (zero allowed) -/
def FastOKF {α} (ra : RA α) (fast : Bool) : Prop :=
  fast = true → ∃ L, ∀ x ∈ ra.lengths, x = L

theorem absE_bindE {α β} (x : Except Err β) (f : β → Except Err (Res α)) :
    absE (bindE x f) = bindE x fun a => absE (f a) :=
  bindE_assoc x f _

theorem partitionAux_replicate {α} (l : List α) (s k L : Nat) :
    partitionAux l s (List.replicate k L) = chunks L k (l.drop s) := by
  induction k generalizing s with
  | zero => rfl
  | succ k ih =>
    simp only [List.replicate_succ, partitionAux, chunks, ih, List.drop_drop]

theorem chunks_eq_rows {α} {data : List α} {x : Nat} {xs : List Nat} (h : WF ⟨data, x :: xs⟩)
    (hall : ∀ y ∈ x :: xs, y = x) :
    data.length = (xs.length + 1) * x ∧ chunks x (xs.length + 1) data = rows ⟨data, x :: xs⟩ := by
  have hrep : x :: xs = List.replicate (x :: xs).length x := List.eq_replicate_iff.mpr ⟨rfl, hall⟩
  simp only [WF] at h
  refine ⟨by rw [← h, hrep]; simp, ?_⟩
  simp only [rows]
  rw [hrep, partitionAux_replicate]
  simp

theorem arrayView_eq_rows {α} (ra : RA α) (h : WF ra) (fast : Bool) (hfast : FastOK ra fast) :
    arrayView ra fast = .ok (rows ra) := by
  obtain ⟨data, lens⟩ := ra
  cases fast with
  | false => simp only [WF] at h; simp [arrayView, partitionList, h, rows]
  | true =>
    obtain ⟨L, hL, hne, hall⟩ := hfast rfl
    cases lens with
    | nil => exact absurd rfl hne
    | cons x xs =>
      obtain rfl : x = L := hall x (by simp)
      obtain ⟨hsum, hrows⟩ := chunks_eq_rows h hall
      simp only [arrayView, reshapeRows, ↓reduceIte]
      rw [if_neg (Nat.ne_of_gt hL), if_neg (by rw [hsum]; simp), hsum, Nat.mul_div_cancel _ hL, hrows]

theorem arrayViewF_eq_rows {α} (ra : RA α) (h : WF ra) (fast : Bool) (hf : FastOKF ra fast) :
    arrayViewF ra fast = .ok (rows ra) := by
  obtain ⟨data, lens⟩ := ra
  have hpl : partitionList data lens = .ok (rows ⟨data, lens⟩) := by
    simp only [WF] at h; simp [partitionList, h, rows]
  cases fast with
  | false => exact hpl
  | true =>
    obtain ⟨L, hall⟩ := hf rfl
    cases lens with
    | nil => exact hpl
    | cons x xs =>
      obtain rfl : x = L := hall x (by simp)
      obtain ⟨hsum, hrows⟩ := chunks_eq_rows h hall
      simp only [arrayViewF, ↓reduceIte]
      rw [if_neg (by simp [hsum]), List.length_cons, hrows]

theorem npIndex_map {β γ} (f : β → γ) (l : List β) (i : Int) :
    npIndex (l.map f) i = bindE (npIndex l i) fun x => .ok (f x) := by
  simp only [npIndex, List.length_map, List.getElem?_map]
  generalize (if i < 0 then i + (l.length : Int) else i) = j
  split
  · rfl
  · cases l[j.toNat]? <;> rfl

theorem iterAux_eq_drop {α} (v : List (List α)) (fuel i : Nat) (h : v.length < i + fuel) :
    iterAux v fuel i = v.drop i := by
  induction fuel generalizing i with
  | zero =>
    simp only [iterAux]
    rw [List.drop_eq_nil_of_le (show v.length ≤ i from Nat.le_of_lt h)]
  | succ f ih =>
    simp only [iterAux, npIndex_ofNat, getNat]
    cases hv : v[i]? with
    | none => exact (List.drop_eq_nil_of_le (List.getElem?_eq_none_iff.mp hv)).symm
    | some r =>
      obtain ⟨hi, hr⟩ := List.getElem?_eq_some_iff.mp hv
      rw [List.drop_eq_getElem_cons hi, hr]
      exact congrArg (r :: ·) (ih (i + 1) (by omega))

theorem cell_error {α} (rs : List (List α)) (p : Int × Int) (e : Err) (h : cell rs p = .error e) :
    e = .indexError := by
  rcases bindE_eq_error h with h | ⟨row, _, h⟩
  · exact npIndex_error _ _ _ h
  · exact npIndex_error _ _ _ h

theorem npTake_error {β} (l : List β) (ix : List Int) (e : Err) (h : npTake l ix = .error e) :
    e = .indexError :=
  mapE_error_same (npIndex_error l) h

/-- `self._data[_convert_from_2d(iis)]` reads, pair by pair, the cells of the list of rows -/
theorem gather_eq {α} (ra : RA α) (h : WF ra) (pairs : List (Int × Int)) :
    gather ra pairs = mapE (cell (rows ra)) pairs := by
  simp only [gather, convertFrom2d]
  rw [mapE_comp_same (e0 := Err.indexError) (convertOne_error ra.lengths) (getNat_error ra.data)]
  exact mapE_congr (fun p _ => convertOne_getNat ra h p)

theorem absE_gather {α} (ra : RA α) (h : WF ra) (pairs : List (Int × Int)) :
    absE (bindE (gather ra pairs) fun d => .ok (Res.arr d)) =
      bindE (mapE (cell (rows ra)) pairs) fun out => .ok (SRes.arr out) := by
  rw [gather_eq ra h]
  cases mapE (cell (rows ra)) pairs <;> rfl

theorem view_row {α} (ra : RA α) {v : Except Err (List (List α))} (hv : v = .ok (rows ra)) (i : Int) :
    absE (bindE v fun v => bindE (npIndex v i) fun row => .ok (Res.arr row)) =
      specGet (rows ra) (.one (.int i)) := by
  subst hv
  simp only [specGet, absE, bindE_ok]
  cases npIndex (rows ra) i <;> rfl

theorem view_select {α} (ra : RA α) {v : Except Err (List (List α))} (hv : v = .ok (rows ra))
    (sel : List (List α) → Except Err (List (List α))) :
    absE (bindE v fun v => bindE (sel v) fun s => .ok (Res.ra (ofRows s))) =
      bindE (sel (rows ra)) fun s => .ok (SRes.rows s) := by
  subst hv
  simp only [absE, bindE_ok]
  cases sel (rows ra) with
  | error e => rfl
  | ok s => simp only [bindE_ok, Res.abs, rows_ofRows']

theorem view_int_slice {α} (ra : RA α) {v : Except Err (List (List α))} (hv : v = .ok (rows ra)) (i : Int)
    (cs : PySlice) :
    absE (bindE v fun v => bindE (npIndex v i) fun row => bindE (npSlice row cs) fun sel => .ok (Res.arr sel)) =
      specGet (rows ra) (.two (.int i) (.slice cs)) := by
  subst hv
  simp only [specGet, absE, bindE_ok, colSel]
  cases npIndex (rows ra) i with
  | error e => rfl
  | ok row =>
    simp only [bindE_ok]
    cases npSlice row cs <;> rfl

theorem view_iter {α} {v : Except Err (List (List α))} {rs : List (List α)} (hv : v = .ok rs) :
    (bindE v fun v => .ok (iterAux v (v.length + 1) 0)) = .ok rs := by
  subst hv
  simp only [bindE_ok]
  rw [iterAux_eq_drop _ _ _ (by omega)]
  rfl

end Ens.Ragged
