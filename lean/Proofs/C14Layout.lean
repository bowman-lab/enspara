import Proofs.C14Ops
import Proofs.C14Kcenters
/-! The round-robin trajectory layout is a bijective layout; reassembly of related states. -/
namespace Ens.Mpi

variable {α : Type}

theorem localFrames_getElem?_X (w : Nat) (L : List Nat) {r i : Nat} (hi : i < (stripeLayout w L).m r) :
    (localFrames w L r)[i]? = some ((stripeLayout w L).X r i) := by
  show _ = some ((localFrames w L r).getD i 0)
  rw [List.getD_eq_getElem?_getD, List.getElem?_eq_getElem hi]; rfl

theorem stripeLayout_bij (w : Nat) (hw : 0 < w) (L : List Nat) (hT : w ≤ L.length)
    (hpos : ∀ l ∈ L, 0 < l) : LayoutBij (stripeLayout w L) L.sum := by
  obtain ⟨hsurj, hinj, hlt⟩ := localFrames_bijective w hw L
  -- rank `r < w` owns trajectory `r`, whose first frame is the rank's first local frame
  have hhead : ∀ r, r < w → (localFrames w L r)[0]? = some (L.take r).sum := by
    intro r hr
    have hrT : r < L.length := by omega
    have := localFrames_getElem?_offset w hw L r 0 L[r] (List.getElem?_eq_getElem hrT) (hpos _ (List.getElem_mem hrT))
    rwa [Nat.mod_eq_of_lt hr, Nat.div_eq_of_lt hr, List.take_zero, List.sum_nil] at this
  constructor
  · exact hw
  · intro r hr
    show 0 < (localFrames w L r).length
    exact (List.getElem?_eq_some_iff.mp (hhead r hr)).1
  · intro r i hr hi
    exact hlt r i _ hr (localFrames_getElem?_X w L hi)
  · intro r i r' i' hr hi hr' hi' he
    exact hinj r i r' i' _ hr hr' (localFrames_getElem?_X w L hi) (he ▸ localFrames_getElem?_X w L hi')
  · intro g hg
    obtain ⟨r, i, hr, hi⟩ := hsurj g hg
    have hil : i < (localFrames w L r).length := (List.getElem?_eq_some_iff.mp hi).1
    exact ⟨r, i, hr, hil, (Option.some.inj (hi.symm.trans (localFrames_getElem?_X w L hil))).symm⟩
  · show (localFrames w L 0).getD 0 0 = 0
    have := hhead 0 hw
    rw [List.getD_eq_getElem?_getD, this]; simp

theorem tabulate_local (w : Nat) (L : List Nat) (f : Nat → α) (r : Nat) :
    Ens.tabulate ((stripeLayout w L).m r) (fun i => f ((stripeLayout w L).X r i)) =
    (localFrames w L r).map f :=
  map_range_getD (localFrames w L r) 0 f

theorem assembleStripedRagged_congr (w : Nat) (hw : 0 < w) (L : List Nat) (p q : Nat → List α)
    (h : ∀ r, r < w → p r = q r) : assembleStripedRagged w L p = assembleStripedRagged w L q := by
  have he : firstErr w (raggedErr w L p) = firstErr w (raggedErr w L q) :=
    firstErr_congr fun r hr => by unfold raggedErr; rw [h r hr]
  have hrw : ∀ r, r < w → raggedRows w L p r = raggedRows w L q r := by
    intro r hr; unfold raggedRows; rw [h r hr]
  unfold assembleStripedRagged
  rw [he, unstripe_congr w L.length hw _ _ hrw]

theorem assemble_of_rel (w : Nat) (hw : 0 < w) (L : List Nat) (hT : w ≤ L.length) (f : Nat → α)
    (loc : Nat → Nat → α)
    (h : ∀ r i, r < w → i < (stripeLayout w L).m r → loc r i = f ((stripeLayout w L).X r i)) :
    assembleStripedRagged w L (fun r => Ens.tabulate ((stripeLayout w L).m r) (loc r)) =
      .ok (Ens.tabulate L.sum f) := by
  have h1 : ∀ r, r < w → Ens.tabulate ((stripeLayout w L).m r) (loc r) =
      (stripe w (splitBy L ((List.range L.sum).map f)) r).flatten := by
    intro r hr
    rw [localFrames_map, ← tabulate_local]
    exact tabulate_congr fun i hi => h r i hr hi
  rw [assembleStripedRagged_congr w hw L _ _ h1]
  exact assemble_ragged_ok w hw L hT ((List.range L.sum).map f) (by simp)

theorem convert_of_valid (w : Nat) (hw : 0 < w) (L : List Nat) (hT : w ≤ L.length)
    (ps : List (Nat × Nat)) (hv : ∀ p ∈ ps, p.1 < w ∧ p.2 < (stripeLayout w L).m p.1) :
    convertLocalIndices w L ps = .ok (ps.map fun p => (stripeLayout w L).X p.1 p.2) := by
  unfold convertLocalIndices
  apply mapM_ok
  intro p hp
  obtain ⟨h1, h2⟩ := hv p hp
  have : p = (p.1, p.2) := rfl
  rw [this, convertLocal_ok_iff w L p.1 p.2 _ (by omega) hw]
  exact localFrames_getElem?_X w L h2

end Ens.Mpi
