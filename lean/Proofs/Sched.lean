import Model.Sched
/-!
Lemmas for `Model.Sched` (core Lean only).  Everything rests on `run_cell`: the final content of a
cell is its own steps run on its initial content, so `run` sees an execution only through
`cellSteps`.  The rest computes `cellSteps` for the executions the models build: `seqExec` and
`schedule` (interleavings of their programs) and `retag` (cells re-addressed injectively).
-/
namespace Ens.Sched

variable {α : Type}

theorem runSteps_cons (f : α → α) (fs : List (α → α)) (a : α) :
    runSteps (f :: fs) a = runSteps fs (f a) := rfl

theorem runSteps_append (p q : List (α → α)) (a : α) :
    runSteps (p ++ q) a = runSteps q (runSteps p a) :=
  List.foldl_append

theorem cellSteps_nil (i : Nat) : cellSteps ([] : Exec α) i = [] := rfl

theorem cellSteps_cons (p : Nat × (α → α)) (e : Exec α) (i : Nat) :
    cellSteps (p :: e) i = if p.1 = i then p.2 :: cellSteps e i else cellSteps e i := by
  unfold cellSteps
  rw [List.filter_cons]
  by_cases h : p.1 = i
  · rw [if_pos (beq_iff_eq.mpr h), if_pos h, List.map_cons]
  · rw [if_neg (fun hb => h (beq_iff_eq.mp hb)), if_neg h]

theorem cellSteps_append (e1 e2 : Exec α) (i : Nat) :
    cellSteps (e1 ++ e2) i = cellSteps e1 i ++ cellSteps e2 i := by
  simp [cellSteps, List.filter_append]

theorem run_nil (out : Nat → α) : run ([] : Exec α) out = out := rfl

theorem run_cons (p : Nat × (α → α)) (e : Exec α) (out : Nat → α) :
    run (p :: e) out = run e (applyAt out p.1 p.2) := rfl

theorem run_append (e1 e2 : Exec α) (out : Nat → α) :
    run (e1 ++ e2) out = run e2 (run e1 out) := by
  simp [run, List.foldl_append]

/-- the final content of cell `i` is obtained by running, on its initial content, exactly
the steps addressed to `i` — steps addressed to other cells are invisible to it -/
theorem run_cell (exec : Exec α) (out : Nat → α) (i : Nat) :
    run exec out i = runSteps (cellSteps exec i) (out i) := by
  induction exec generalizing out with
  | nil => rfl
  | cons p ps ih =>
    rw [run_cons, ih, cellSteps_cons, applyAt]
    by_cases h : p.1 = i
    · rw [if_pos h, if_pos h.symm]
      rfl
    · rw [if_neg h, if_neg (fun e => h e.symm)]

theorem run_interleaving_independent (e1 e2 : Exec α) (out : Nat → α)
    (h : ∀ i, cellSteps e1 i = cellSteps e2 i) : run e1 out = run e2 out := by
  funext i; rw [run_cell, run_cell, h]

theorem progOf_of_ge (progs : List (List (α → α))) (i : Nat) (h : progs.length ≤ i) :
    progOf progs i = [] := by
  simp [progOf, List.getD, List.getElem?_eq_none h]

theorem run_of_interleaving (progs : List (List (α → α))) (e : Exec α) (out : Nat → α)
    (h : IsInterleaving progs e) (i : Nat) :
    run e out i = runSteps (progOf progs i) (out i) := by
  rw [run_cell, h i]

theorem run_of_interleaving_ge (progs : List (List (α → α))) (e : Exec α) (out : Nat → α)
    (h : IsInterleaving progs e) (i : Nat) (hi : progs.length ≤ i) :
    run e out i = out i := by
  rw [run_of_interleaving progs e out h i, progOf_of_ge progs i hi]; rfl

theorem cellSteps_tagged (k i : Nat) (steps : List (α → α)) :
    cellSteps (tagged k steps) i = if k = i then steps else [] := by
  induction steps with
  | nil => simp [tagged, cellSteps]
  | cons f fs ih =>
    have : tagged k (f :: fs) = (k, f) :: tagged k fs := rfl
    rw [this, cellSteps_cons, ih]
    by_cases h : k = i <;> simp [h]

theorem cellSteps_seqFrom_lt (progs : List (List (α → α))) (k i : Nat) (h : i < k) :
    cellSteps (seqFrom k progs) i = [] := by
  induction progs generalizing k with
  | nil => rfl
  | cons p ps ih =>
    rw [seqFrom, cellSteps_append, cellSteps_tagged, if_neg (Nat.ne_of_gt h),
      ih (k + 1) (Nat.lt_succ_of_lt h)]
    rfl

theorem cellSteps_seqFrom_add (progs : List (List (α → α))) (k j : Nat) :
    cellSteps (seqFrom k progs) (k + j) = progOf progs j := by
  induction progs generalizing k j with
  | nil => rfl
  | cons p ps ih =>
    rw [seqFrom, cellSteps_append, cellSteps_tagged]
    cases j with
    | zero =>
      rw [Nat.add_zero, if_pos rfl, cellSteps_seqFrom_lt ps (k + 1) k (Nat.lt_succ_self k),
        List.append_nil]
      rfl
    | succ j =>
      rw [if_neg (Nat.ne_of_lt (Nat.lt_add_of_pos_right (Nat.succ_pos j))), List.nil_append,
        show k + (j + 1) = k + 1 + j from Nat.add_right_comm k j 1, ih (k + 1) j]
      rfl

theorem seqExec_isInterleaving (progs : List (List (α → α))) :
    IsInterleaving progs (seqExec progs) := fun i => by
  have := cellSteps_seqFrom_add progs 0 i
  rwa [Nat.zero_add] at this

theorem run_eq_seq (progs : List (List (α → α))) (e : Exec α) (out : Nat → α)
    (h : IsInterleaving progs e) : run e out = run (seqExec progs) out :=
  run_interleaving_independent e (seqExec progs) out
    (fun i => by rw [h i, seqExec_isInterleaving progs i])

theorem progOf_set (progs : List (List (α → α))) (k i : Nat) (p : List (α → α))
    (hk : k < progs.length) :
    progOf (progs.set k p) i = if i = k then p else progOf progs i := by
  unfold progOf
  by_cases h : i = k
  · subst h; simp [List.getD, hk]
  · have h' : ¬ k = i := fun e => h e.symm
    simp [List.getD, h, h']

theorem schedule_isInterleaving (progs : List (List (α → α))) (choices : List Nat) :
    IsInterleaving progs (schedule progs choices) := by
  induction choices generalizing progs with
  | nil => exact seqExec_isInterleaving progs
  | cons c cs ih =>
    intro i
    unfold schedule
    generalize hk : c % progs.length = k
    simp only
    cases hp : progs[k]? with
    | none => exact ih progs i
    | some st =>
      cases st with
      | nil => exact ih progs i
      | cons f fs =>
        have hlt : k < progs.length := (List.getElem?_eq_some_iff.mp hp).1
        simp only
        rw [cellSteps_cons, ih (progs.set k fs) i, progOf_set progs k i fs hlt]
        by_cases h : k = i
        · subst h
          simp [progOf, List.getD, hp]
        · have h' : ¬ i = k := fun e => h e.symm
          simp [h, h']

theorem tag_lt_of_isInterleaving (progs : List (List (α → α))) (e : Exec α)
    (h : IsInterleaving progs e) (p : Nat × (α → α)) (hp : p ∈ e) : p.1 < progs.length :=
  Nat.lt_of_not_le fun hge => by
    have hmem : p.2 ∈ cellSteps e p.1 :=
      List.mem_map.mpr ⟨p, List.mem_filter.mpr ⟨hp, beq_self_eq_true _⟩, rfl⟩
    rw [h p.1, progOf_of_ge progs p.1 hge] at hmem
    cases hmem

theorem cellSteps_retag_eq (pos : Nat → Nat) (e : Exec α) (c : Nat) :
    cellSteps (retag pos e) c = (e.filter (fun p => pos p.1 == c)).map (·.2) := by
  unfold cellSteps retag
  rw [List.filter_map, List.map_map]
  rfl

/-- re-addressing through a map that is injective on the cells mentioned: the steps that
reach `pos i` are exactly the steps of `i` -/
theorem cellSteps_retag (pos : Nat → Nat) (e : Exec α) (i : Nat)
    (hinj : ∀ p ∈ e, pos p.1 = pos i → p.1 = i) :
    cellSteps (retag pos e) (pos i) = cellSteps e i := by
  rw [cellSteps_retag_eq]
  unfold cellSteps
  congr 1
  apply List.filter_congr
  intro p hp
  exact Bool.eq_iff_iff.mpr ⟨fun h => beq_iff_eq.mpr (hinj p hp (beq_iff_eq.mp h)),
    fun h => beq_iff_eq.mpr (congrArg pos (beq_iff_eq.mp h))⟩

theorem cellSteps_retag_other (pos : Nat → Nat) (e : Exec α) (c : Nat)
    (hc : ∀ p ∈ e, pos p.1 ≠ c) : cellSteps (retag pos e) c = [] := by
  rw [cellSteps_retag_eq, List.filter_eq_nil_iff.mpr (fun p hp h => hc p hp (beq_iff_eq.mp h))]
  rfl

/-- memory-level result: if row `i` writes position `pos i` and `pos` is injective on the
rows, then after ANY interleaving position `pos i` holds the result of row `i`'s program -/
theorem run_retag (pos : Nat → Nat) (progs : List (List (α → α))) (e : Exec α) (buf : Nat → α)
    (h : IsInterleaving progs e)
    (hinj : ∀ i j, i < progs.length → j < progs.length → pos i = pos j → i = j)
    (i : Nat) (hi : i < progs.length) :
    run (retag pos e) buf (pos i) = runSteps (progOf progs i) (buf (pos i)) := by
  rw [run_cell, cellSteps_retag pos e i, h i]
  intro p hp heq
  exact hinj p.1 i (tag_lt_of_isInterleaving progs e h p hp) hi heq

theorem run_retag_other (pos : Nat → Nat) (progs : List (List (α → α))) (e : Exec α) (buf : Nat → α)
    (h : IsInterleaving progs e) (c : Nat) (hc : ∀ i, i < progs.length → pos i ≠ c) :
    run (retag pos e) buf c = buf c := by
  rw [run_cell, cellSteps_retag_other pos e c]
  · rfl
  · intro p hp
    exact hc p.1 (tag_lt_of_isInterleaving progs e h p hp)

end Ens.Sched
