import Model.KCenters
import Mathlib.Order.WithBot
import Mathlib.Algebra.Order.Ring.Rat
import Mathlib.Tactic.Linarith

/-! Order facts for the model's extended rationals (`none` = `+inf`), by transport to
`WithTop ℚ`, and the specification of `argmaxE` / `argminOn`. -/
namespace Ens.KC

/-- the model's `ERat` read in Mathlib's `WithTop ℚ` -/
def toWT : ERat → WithTop ℚ
  | none => ⊤
  | some q => (q : WithTop ℚ)

@[simp] theorem toWT_none : toWT none = ⊤ := rfl
@[simp] theorem toWT_some (q : ℚ) : toWT (some q) = (q : WithTop ℚ) := rfl

theorem ltE_some_some (a b : ℚ) : ltE (some a) (some b) = true ↔ a < b := decide_eq_true_iff

theorem ltE_iff (a b : ERat) : ltE a b = true ↔ toWT a < toWT b := by
  cases a <;> cases b <;> simp [ltE]

theorem ltE_false_iff (a b : ERat) : ltE a b = false ↔ toWT b ≤ toWT a := by
  rw [← not_lt, ← ltE_iff]; simp

theorem leE_iff (a b : ERat) : leE a b = true ↔ toWT a ≤ toWT b := by
  simp [leE, ← not_lt, ← ltE_iff]

theorem toWT_inj {a b : ERat} : toWT a = toWT b ↔ a = b := by
  cases a <;> cases b <;> simp

theorem toWT_ite_ltE (x o : ERat) : toWT (if ltE x o then x else o) = min (toWT x) (toWT o) := by
  split
  · rename_i h; rw [min_eq_left (le_of_lt ((ltE_iff _ _).mp h))]
  · rename_i h; rw [min_eq_right ((ltE_false_iff _ _).mp (Bool.eq_false_iff.mpr h))]

theorem ltE_irrefl (a : ERat) : ltE a a = false := by
  rw [ltE_false_iff]

theorem argmaxE_le (n : Nat) (f : Nat → ERat) : argmaxE n f ≤ n := by
  induction n with
  | zero => exact Nat.le_refl 0
  | succ k ih =>
    rw [argmaxE]
    split
    · exact Nat.le_succ k
    · exact Nat.le_succ_of_le ih

theorem argmaxE_lt {n : Nat} (hn : 0 < n) (f : Nat → ERat) : argmaxE n f < n := by
  cases n with
  | zero => exact absurd hn (Nat.lt_irrefl 0)
  | succ k =>
    rw [argmaxE]
    split
    · exact Nat.lt_succ_self k
    · exact Nat.lt_succ_of_le (argmaxE_le k f)

theorem argmaxE_max (n : Nat) (f : Nat → ERat) :
    ∀ x, x < n → toWT (f x) ≤ toWT (f (argmaxE n f)) := by
  induction n with
  | zero => intro x hx; omega
  | succ k ih =>
    intro x hx
    simp only [argmaxE]
    split
    · rename_i h
      rw [ltE_iff] at h
      rcases Nat.lt_succ_iff_lt_or_eq.mp hx with hx | hx
      · exact le_trans (ih x hx) (le_of_lt h)
      · subst hx; exact le_refl _
    · rename_i h
      have h' : toWT (f k) ≤ toWT (f (argmaxE k f)) := by
        rw [← ltE_false_iff]; simpa using h
      rcases Nat.lt_succ_iff_lt_or_eq.mp hx with hx | hx
      · exact ih x hx
      · subst hx; exact h'

theorem argmaxE_first (n : Nat) (f : Nat → ERat) :
    ∀ x, x < argmaxE n f → toWT (f x) < toWT (f (argmaxE n f)) := by
  induction n with
  | zero => intro x hx; simp [argmaxE] at hx
  | succ k ih =>
    intro x
    simp only [argmaxE]
    split
    · rename_i h
      rw [ltE_iff] at h
      intro hx
      exact lt_of_le_of_lt (argmaxE_max k f x hx) h
    · intro hx; exact ih x hx

theorem argmaxE_none (n : Nat) : argmaxE n (fun _ => none) = 0 := by
  by_contra h
  have := argmaxE_first n (fun _ => none) 0 (Nat.pos_of_ne_zero h)
  simp at this

theorem argmaxE_spec {n : Nat} (hn : 0 < n) (f : Nat → ERat) :
    argmaxE n f < n ∧ (∀ x, x < n → leE (f x) (f (argmaxE n f)) = true) ∧
      (∀ x, x < argmaxE n f → ltE (f x) (f (argmaxE n f)) = true) :=
  ⟨argmaxE_lt hn f, fun x hx => (leE_iff _ _).mpr (argmaxE_max n f x hx),
    fun x hx => (ltE_iff _ _).mpr (argmaxE_first n f x hx)⟩

theorem argmaxE_congr (n : Nat) (f g : Nat → ERat) (h : ∀ x, x < n → f x = g x) :
    argmaxE n f = argmaxE n g := by
  induction n with
  | zero => rfl
  | succ k ih =>
    have ih' := ih (fun x hx => h x (Nat.lt_succ_of_lt hx))
    simp only [argmaxE, ih']
    rw [h k (Nat.lt_succ_self k), h (argmaxE k g) (Nat.lt_succ_of_le (argmaxE_le k g))]

theorem argminOn_spec (p : Nat → Bool) (f : Nat → ERat) (n : Nat) :
    (argminOn p f n = none → ∀ x, x < n → p x = false) ∧
    (∀ b, argminOn p f n = some b → b < n ∧ p b = true ∧
      (∀ x, x < n → p x = true → toWT (f b) ≤ toWT (f x)) ∧
      (∀ x, x < b → p x = true → toWT (f b) < toWT (f x))) := by
  induction n with
  | zero => exact ⟨fun _ x hx => absurd hx (Nat.not_lt_zero x), fun b hb => nomatch hb⟩
  | succ k ih =>
    obtain ⟨ih1, ih2⟩ := ih
    -- a fact about all `x < k+1` from the same about all `x < k` and about `k`
    have ext : ∀ {P : Nat → Prop}, (∀ x, x < k → P x) → P k → ∀ x, x < k+1 → P x :=
      fun h hk x hx => (Nat.lt_succ_iff_lt_or_eq.mp hx).elim (h x) (fun e => e ▸ hk)
    rw [argminOn]
    cases hrec : argminOn p f k with
    | none =>
      have hno : ∀ x, x < k → ¬ p x = true := fun x hx => Bool.eq_false_iff.mp (ih1 hrec x hx)
      dsimp only
      by_cases hp : p k = true
      · rw [if_pos hp]
        refine ⟨nofun, fun b hb => ?_⟩
        cases hb
        exact ⟨Nat.lt_succ_self k, hp, ext (fun x hx hpx => absurd hpx (hno x hx)) (fun _ => le_refl _),
          fun x hx hpx => absurd hpx (hno x hx)⟩
      · rw [if_neg hp]
        exact ⟨fun _ => ext (ih1 hrec) (Bool.eq_false_iff.mpr hp), fun b hb => nomatch hb⟩
    | some b0 =>
      obtain ⟨hb0, hpb0, hmin, hfirst⟩ := ih2 b0 hrec
      dsimp only
      refine ⟨fun h => (by split at h <;> cases h), fun b hb => ?_⟩
      by_cases hc : (p k && ltE (f k) (f b0)) = true
      · rw [if_pos hc] at hb
        cases hb
        obtain ⟨hpk, hlt⟩ := (Bool.and_eq_true _ _).mp hc
        rw [ltE_iff] at hlt
        exact ⟨Nat.lt_succ_self k, hpk,
          ext (fun x hx hpx => le_trans (le_of_lt hlt) (hmin x hx hpx)) (fun _ => le_refl _),
          fun x hx hpx => lt_of_lt_of_le hlt (hmin x hx hpx)⟩
      · rw [if_neg hc] at hb
        cases hb
        refine ⟨Nat.lt_succ_of_lt hb0, hpb0, ext hmin (fun hpk => ?_), hfirst⟩
        rw [hpk, Bool.true_and] at hc
        exact (ltE_false_iff _ _).mp (Bool.eq_false_iff.mpr hc)

end Ens.KC
