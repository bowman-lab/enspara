import Proofs.C18Real
import Mathlib.Algebra.BigOperators.Group.Finset.Sigma
import Mathlib.Data.Finset.Card
/-!
Mutual information of a finite joint table `P : ℕ → ℕ → ℝ` (rows `< nA`, columns `< nB`) and
its laws: non-negativity, symmetry under transposition, diagonal = entropy, bounded by each
marginal entropy, invariance under relabelling of rows / columns.
-/
namespace Ens.InfoR
open Finset

noncomputable def rowS (P : ℕ → ℕ → ℝ) (nB : ℕ) (u : ℕ) : ℝ := ∑ v ∈ range nB, P u v
noncomputable def colS (P : ℕ → ℕ → ℝ) (nA : ℕ) (v : ℕ) : ℝ := ∑ u ∈ range nA, P u v

/-- `Σ_uv P_uv log (P_uv / (P_u· P_·v))` -/
noncomputable def miF (P : ℕ → ℕ → ℝ) (nA nB : ℕ) : ℝ :=
  ∑ u ∈ range nA, ∑ v ∈ range nB, P u v * Real.log (P u v / (rowS P nB u * colS P nA v))

/-- `−Σ_u p_u log p_u` -/
noncomputable def entF (p : ℕ → ℝ) (n : ℕ) : ℝ := - ∑ u ∈ range n, p u * Real.log (p u)

theorem le_rowS (P : ℕ → ℕ → ℝ) (nA nB : ℕ) (hP : ∀ u < nA, ∀ v < nB, 0 ≤ P u v)
    (u v : ℕ) (hu : u < nA) (hv : v < nB) : P u v ≤ rowS P nB u := by
  unfold rowS
  exact Finset.single_le_sum (f := fun v => P u v) (fun w hw => hP u hu w (mem_range.1 hw)) (mem_range.2 hv)

theorem rowS_nonneg (P : ℕ → ℕ → ℝ) (nA nB : ℕ) (hP : ∀ u < nA, ∀ v < nB, 0 ≤ P u v)
    (u : ℕ) (hu : u < nA) : 0 ≤ rowS P nB u :=
  Finset.sum_nonneg fun v hv => hP u hu v (mem_range.1 hv)

/-- the column sums are the row sums of the transposed table -/
theorem le_colS (P : ℕ → ℕ → ℝ) (nA nB : ℕ) (hP : ∀ u < nA, ∀ v < nB, 0 ≤ P u v)
    (u v : ℕ) (hu : u < nA) (hv : v < nB) : P u v ≤ colS P nA v :=
  le_rowS (fun v u => P u v) nB nA (fun v hv u hu => hP u hu v hv) v u hv hu

theorem colS_nonneg (P : ℕ → ℕ → ℝ) (nA nB : ℕ) (hP : ∀ u < nA, ∀ v < nB, 0 ≤ P u v)
    (v : ℕ) (hv : v < nB) : 0 ≤ colS P nA v :=
  rowS_nonneg (fun v u => P u v) nB nA (fun v hv u hu => hP u hu v hv) v hv

theorem sum_colS (P : ℕ → ℕ → ℝ) (nA nB : ℕ) :
    ∑ v ∈ range nB, colS P nA v = ∑ u ∈ range nA, rowS P nB u := by
  unfold colS rowS; exact Finset.sum_comm

theorem miF_eq_klSum (P : ℕ → ℕ → ℝ) (nA nB : ℕ) :
    miF P nA nB = klSum (range nA ×ˢ range nB) (fun x => P x.1 x.2)
      (fun x => rowS P nB x.1 * colS P nA x.2) := by
  unfold miF klSum
  rw [Finset.sum_product]

/-- mutual information is non-negative for every non-negative table of total mass ≤ 1 -/
theorem miF_nonneg (P : ℕ → ℕ → ℝ) (nA nB : ℕ) (hP : ∀ u < nA, ∀ v < nB, 0 ≤ P u v)
    (hS : ∑ u ∈ range nA, rowS P nB u ≤ 1) : 0 ≤ miF P nA nB := by
  rw [miF_eq_klSum]
  have hS0 : 0 ≤ ∑ u ∈ range nA, rowS P nB u :=
    Finset.sum_nonneg fun u hu => rowS_nonneg P nA nB hP u (mem_range.1 hu)
  have hm : ∀ x ∈ range nA ×ˢ range nB, x.1 < nA ∧ x.2 < nB := fun x hx =>
    ⟨mem_range.1 (Finset.mem_product.1 hx).1, mem_range.1 (Finset.mem_product.1 hx).2⟩
  apply klSum_nonneg
  · exact fun x hx => hP _ (hm x hx).1 _ (hm x hx).2
  · exact fun x hx => mul_nonneg (rowS_nonneg P nA nB hP _ (hm x hx).1) (colS_nonneg P nA nB hP _ (hm x hx).2)
  · exact fun x hx hpos => mul_pos
      (lt_of_lt_of_le hpos (le_rowS P nA nB hP _ _ (hm x hx).1 (hm x hx).2))
      (lt_of_lt_of_le hpos (le_colS P nA nB hP _ _ (hm x hx).1 (hm x hx).2))
  · rw [Finset.sum_product, Finset.sum_product]
    show ∑ u ∈ range nA, ∑ v ∈ range nB, rowS P nB u * colS P nA v ≤ ∑ u ∈ range nA, rowS P nB u
    rw [← Finset.sum_mul_sum, sum_colS]
    exact mul_le_of_le_one_left hS0 hS

theorem miF_transpose (P : ℕ → ℕ → ℝ) (nA nB : ℕ) :
    miF (fun v u => P u v) nB nA = miF P nA nB := by
  unfold miF
  rw [Finset.sum_comm]
  apply Finset.sum_congr rfl; intro u _
  apply Finset.sum_congr rfl; intro v _
  have e1 : rowS (fun v u => P u v) nA v = colS P nA v := rfl
  have e2 : colS (fun v u => P u v) nB u = rowS P nB u := rfl
  rw [e1, e2, mul_comm (colS P nA v)]

theorem miF_diag (p : ℕ → ℝ) (n : ℕ) :
    miF (fun u v => if u = v then p u else 0) n n = entF p n := by
  unfold miF entF
  rw [← Finset.sum_neg_distrib]
  apply Finset.sum_congr rfl; intro u hu
  have hr : rowS (fun u v => if u = v then p u else 0) n u = p u := by
    unfold rowS; simp [Finset.sum_ite_eq, hu]
  rw [Finset.sum_eq_single u]
  · have hc : colS (fun u v => if u = v then p u else 0) n u = p u := by
      unfold colS; simp [Finset.sum_ite_eq', hu]
    rw [hr, hc]
    by_cases h0 : p u = 0
    · simp [h0]
    · simp only [if_true]
      rw [div_mul_cancel_left₀ h0, Real.log_inv]; ring
  · intro v _ hvu
    have : ¬ u = v := fun e => hvu e.symm
    simp [this]
  · intro h; exact absurd hu h

/-- `I(X;Y) ≤ H(X)` (row marginal) -/
theorem miF_le_entF_row (P : ℕ → ℕ → ℝ) (nA nB : ℕ) (hP : ∀ u < nA, ∀ v < nB, 0 ≤ P u v) :
    miF P nA nB ≤ entF (rowS P nB) nA := by
  unfold miF entF
  rw [← Finset.sum_neg_distrib]
  apply Finset.sum_le_sum; intro u hu
  have hu' := mem_range.1 hu
  have : -(rowS P nB u * Real.log (rowS P nB u)) = ∑ v ∈ range nB, -(P u v * Real.log (rowS P nB u)) := by
    rw [Finset.sum_neg_distrib, ← Finset.sum_mul]; rfl
  rw [this]
  apply Finset.sum_le_sum; intro v hv
  have hv' := mem_range.1 hv
  rcases (hP u hu' v hv').eq_or_lt with h0 | hpos
  · rw [← h0]; simp
  · have a1 := le_rowS P nA nB hP u v hu' hv'
    have a2 := le_colS P nA nB hP u v hu' hv'
    have r0 : 0 < rowS P nB u := lt_of_lt_of_le hpos a1
    have c0 : 0 < colS P nA v := lt_of_lt_of_le hpos a2
    rw [Real.log_div hpos.ne' (mul_pos r0 c0).ne', Real.log_mul r0.ne' c0.ne']
    have : Real.log (P u v) ≤ Real.log (colS P nA v) := Real.log_le_log hpos a2
    rw [← mul_neg]
    exact mul_le_mul_of_nonneg_left (by linarith) hpos.le

/-- `I(X;Y) ≤ H(Y)` (column marginal) -/
theorem miF_le_entF_col (P : ℕ → ℕ → ℝ) (nA nB : ℕ) (hP : ∀ u < nA, ∀ v < nB, 0 ≤ P u v) :
    miF P nA nB ≤ entF (colS P nA) nB := by
  rw [← miF_transpose]
  exact miF_le_entF_row (fun v u => P u v) nB nA (fun v hv u hu => hP u hu v hv)

theorem miF_congr (P P' : ℕ → ℕ → ℝ) (nA nB : ℕ) (h : ∀ u < nA, ∀ v < nB, P u v = P' u v) :
    miF P nA nB = miF P' nA nB := by
  unfold miF
  apply Finset.sum_congr rfl; intro u hu
  apply Finset.sum_congr rfl; intro v hv
  have hu' := mem_range.1 hu
  have hv' := mem_range.1 hv
  have hr : rowS P nB u = rowS P' nB u :=
    Finset.sum_congr rfl fun w hw => h u hu' w (mem_range.1 hw)
  have hc : colS P nA v = colS P' nA v :=
    Finset.sum_congr rfl fun w hw => h w (mem_range.1 hw) v hv'
  rw [hr, hc, h u hu' v hv']

theorem sum_range_relabel (σ : ℕ → ℕ) (n : ℕ) (hmap : ∀ u < n, σ u < n)
    (hinj : ∀ u < n, ∀ u' < n, σ u = σ u' → u = u') (f : ℕ → ℝ) :
    ∑ u ∈ range n, f (σ u) = ∑ u ∈ range n, f u := by
  have hinj' : Set.InjOn σ (range n : Set ℕ) := by
    intro a ha b hb e
    exact hinj a (by simpa using ha) b (by simpa using hb) e
  have himg : (range n).image σ = range n := by
    apply Finset.eq_of_subset_of_card_le
    · intro x hx
      obtain ⟨u, hu, rfl⟩ := Finset.mem_image.1 hx
      exact mem_range.2 (hmap u (mem_range.1 hu))
    · rw [Finset.card_image_of_injOn hinj']
  rw [← Finset.sum_image (f := f) (s := range n) (g := σ) (fun a ha b hb e => hinj' ha hb e), himg]

theorem miF_relabel (P : ℕ → ℕ → ℝ) (nA nB : ℕ) (σ ρ : ℕ → ℕ)
    (hσ : ∀ u < nA, σ u < nA) (hσi : ∀ u < nA, ∀ u' < nA, σ u = σ u' → u = u')
    (hρ : ∀ v < nB, ρ v < nB) (hρi : ∀ v < nB, ∀ v' < nB, ρ v = ρ v' → v = v') :
    miF (fun u v => P (σ u) (ρ v)) nA nB = miF P nA nB := by
  unfold miF
  have hr : ∀ u, rowS (fun u v => P (σ u) (ρ v)) nB u = rowS P nB (σ u) := by
    intro u; unfold rowS
    exact sum_range_relabel ρ nB hρ hρi (fun v => P (σ u) v)
  have hc : ∀ v, colS (fun u v => P (σ u) (ρ v)) nA v = colS P nA (ρ v) := by
    intro v; unfold colS
    exact sum_range_relabel σ nA hσ hσi (fun u => P u (ρ v))
  simp only [hr, hc]
  rw [sum_range_relabel σ nA hσ hσi
    (fun u => ∑ v ∈ range nB, P u (ρ v) * Real.log (P u (ρ v) / (rowS P nB u * colS P nA (ρ v))))]
  apply Finset.sum_congr rfl; intro u _
  exact sum_range_relabel ρ nB hρ hρi
    (fun v => P u v * Real.log (P u v / (rowS P nB u * colS P nA v)))

end Ens.InfoR
