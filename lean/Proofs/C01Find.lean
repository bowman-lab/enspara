import Proofs.C01Run
import Mathlib.Data.List.Sort
/-!
C01/C09: `find_cluster_centers` recovers the center indices of a consistent
state (used by the warm starts: `kcenters(init_centers=…)`, `kmedoids(assignments, distances)`).
-/
namespace Ens.Cluster

variable {D : Table} {n : Nat} {s : St}

theorem mem_insertUniq {x z : Int} : ∀ {l : List Int}, z ∈ insertUniq x l ↔ z = x ∨ z ∈ l := by
  intro l
  induction l with
  | nil => simp [insertUniq]
  | cons y ys ih =>
    unfold insertUniq
    split
    · simp
    · split
      · rename_i h1 h2; subst h2; simp
      · simp only [List.mem_cons, ih]
        exact or_left_comm

theorem pairwise_insertUniq {x : Int} : ∀ {l : List Int}, l.Pairwise (· < ·) → (insertUniq x l).Pairwise (· < ·) := by
  intro l
  induction l with
  | nil => intro _; simp [insertUniq]
  | cons y ys ih =>
    intro h
    obtain ⟨h1, h2⟩ := List.pairwise_cons.mp h
    unfold insertUniq
    split
    · rename_i hxy
      refine List.pairwise_cons.mpr ⟨?_, h⟩
      intro z hz
      rcases List.mem_cons.mp hz with rfl | hz'
      · exact hxy
      · exact lt_trans hxy (h1 z hz')
    · split
      · exact h
      · rename_i hxy hne
        refine List.pairwise_cons.mpr ⟨?_, ih h2⟩
        intro z hz
        rcases mem_insertUniq.mp hz with rfl | hz'
        · omega
        · exact h1 z hz'

theorem mem_uniqueLabels {g : Nat → Int} {z : Int} : ∀ {n : Nat}, z ∈ uniqueLabels g n ↔ ∃ f, f < n ∧ g f = z := by
  intro n
  induction n with
  | zero => simp [uniqueLabels]
  | succ k ih =>
    simp only [uniqueLabels, mem_insertUniq, ih]
    constructor
    · rintro (h | ⟨f, hf, e⟩)
      · exact ⟨k, Nat.lt_succ_self k, h.symm⟩
      · exact ⟨f, Nat.lt_succ_of_lt hf, e⟩
    · rintro ⟨f, hf, e⟩
      rcases Nat.lt_succ_iff_lt_or_eq.mp hf with h | h
      · right; exact ⟨f, h, e⟩
      · left; rw [← e, h]

theorem pairwise_uniqueLabels {g : Nat → Int} : ∀ {n : Nat}, (uniqueLabels g n).Pairwise (· < ·) := by
  intro n
  induction n with
  | zero => simp [uniqueLabels]
  | succ k ih => exact pairwise_insertUniq ih

/-- `np.unique(assignments)` of a consistent labelling is `0, 1, …, k-1` -/
theorem uniqueLabels_eq (hs : Consistent D n s) :
    uniqueLabels s.arr.assign n = (List.range s.ctrInds.length).map (fun (j : Nat) => (j : Int)) := by
  apply List.Pairwise.eq_of_mem_iff (r := (· < ·)) pairwise_uniqueLabels
  · rw [List.pairwise_map]
    exact List.Pairwise.imp (fun h => by exact_mod_cast h) List.pairwise_lt_range
  · intro z
    rw [mem_uniqueLabels]
    simp only [List.mem_map, List.mem_range]
    constructor
    · rintro ⟨f, hf, e⟩
      obtain ⟨k, c, h1, h2, _⟩ := hs.lab f hf
      exact ⟨k, getElem?_lt h2, by rw [← e, h1]⟩
    · rintro ⟨j, hj, e⟩
      have hc : s.ctrInds[j]? = some s.ctrInds[j] := List.getElem?_eq_getElem hj
      exact ⟨s.ctrInds[j], hs.inds_lt _ (List.getElem_mem hj), by rw [(hs.own j _ hc).1, e]⟩

theorem firstMinIn_spec (a : Arr) (c : Int) : ∀ (m : Nat),
    (∀ b, firstMinIn a c m = some b → b < m ∧ a.assign b = c ∧
        ∀ f, f < m → a.assign f = c → a.fresh = false → ¬ a.dist f < a.dist b) ∧
    (firstMinIn a c m = none → ∀ f, f < m → a.assign f ≠ c) := by
  intro m
  induction m with
  | zero => exact ⟨nofun, fun _ _ hf => nomatch hf⟩
  | succ k ih =>
    obtain ⟨ih1, ih2⟩ := ih
    rw [firstMinIn]
    -- frames `< k+1` are the frames `< k` (induction hypothesis) and frame `k` (the test just made)
    cases hprev : firstMinIn a c k with
    | none =>
      have hnone := ih2 hprev
      dsimp only
      by_cases hk : a.assign k = c
      · rw [if_pos hk]
        refine ⟨fun b hb => ?_, nofun⟩
        cases hb
        exact ⟨Nat.lt_succ_self _, hk, Nat.forall_lt_succ_right.mpr
          ⟨fun f hf hfc => absurd hfc (hnone f hf), fun _ _ => lt_irrefl _⟩⟩
      · rw [if_neg hk]
        exact ⟨nofun, fun _ => Nat.forall_lt_succ_right.mpr ⟨hnone, hk⟩⟩
    | some b0 =>
      obtain ⟨hb0, hb0c, hb0min⟩ := ih1 b0 hprev
      dsimp only
      by_cases hk : a.assign k = c ∧ a.fresh = false ∧ a.dist k < a.dist b0
      · rw [if_pos hk]
        refine ⟨fun b hb => ?_, nofun⟩
        cases hb
        exact ⟨Nat.lt_succ_self _, hk.1, Nat.forall_lt_succ_right.mpr
          ⟨fun f hf hfc hfr hlt => hb0min f hf hfc hfr (lt_trans hlt hk.2.2), fun _ _ => lt_irrefl _⟩⟩
      · rw [if_neg hk]
        refine ⟨fun b hb => ?_, nofun⟩
        cases hb
        exact ⟨Nat.lt_succ_of_lt hb0, hb0c, Nat.forall_lt_succ_right.mpr
          ⟨hb0min, fun hfc hfr hlt => hk ⟨hfc, hfr, hlt⟩⟩⟩

theorem firstMinIn_center (T : TableOK D n) (hs : Consistent D n s)
    {j c : Nat} (hj : s.ctrInds[j]? = some c) : firstMinIn s.arr (j : Int) n = some c := by
  have hc : c < n := hs.inds_lt c (List.mem_of_getElem? hj)
  obtain ⟨hown1, hown2⟩ := hs.own j c hj
  obtain ⟨sp1, sp2⟩ := firstMinIn_spec s.arr (j : Int) n
  cases hres : firstMinIn s.arr (j : Int) n with
  | none => exact absurd hown1 (sp2 hres c hc)
  | some b =>
    obtain ⟨hb, hbj, hmin⟩ := sp1 b hres
    have h1 := hmin c hc hown1 hs.notFresh
    rw [hown2] at h1
    obtain ⟨k', c', e1, e2, e3⟩ := hs.lab b hb
    have hk : k' = j := by rw [hbj] at e1; exact_mod_cast e1.symm
    subst hk
    have hcc : c' = c := by rw [hj] at e2; injection e2 with e2; exact e2.symm
    subst hcc
    have h0 : s.arr.dist b = 0 := le_antisymm (not_lt.mp h1) (hs.dist_nonneg T hb)
    have : b = c' := T.distinct b c' hb hc (by rw [← e3]; exact h0)
    rw [this]

theorem mapM_eq_of_forall {f : Int → Option Nat} :
    ∀ (l : List Nat) (js : List Nat), js.length = l.length →
      (∀ i, i < l.length → ∃ j c, js[i]? = some j ∧ l[i]? = some c ∧ f (j : Int) = some c) →
      (js.map (fun (j : Nat) => (j : Int))).mapM f = some l := by
  intro l
  induction l with
  | nil => intro js h _; rw [List.eq_nil_of_length_eq_zero h]; rfl
  | cons c l ih =>
    intro js h hall
    cases js with
    | nil => cases h
    | cons j js =>
      obtain ⟨j0, c0, e1, e2, e3⟩ := hall 0 (Nat.succ_pos _)
      cases e1
      cases e2
      have := ih js (Nat.succ.inj h) (fun i hi => hall (i+1) (Nat.succ_lt_succ hi))
      rw [List.map_cons, List.mapM_cons, e3, this]
      rfl

theorem findClusterCenters_eq (T : TableOK D n) (hs : Consistent D n s) :
    findClusterCenters n s.arr = some s.ctrInds := by
  unfold findClusterCenters
  rw [uniqueLabels_eq hs]
  apply mapM_eq_of_forall s.ctrInds (List.range s.ctrInds.length) (by simp)
  intro i hi
  refine ⟨i, s.ctrInds[i], by simp [hi], List.getElem?_eq_getElem hi, ?_⟩
  exact firstMinIn_center T hs (List.getElem?_eq_getElem hi)

end Ens.Cluster
