import Model.Dist
import Mathlib.Algebra.Order.Ring.Rat
import Mathlib.Tactic.Linarith
import Mathlib.Tactic.Ring
import Mathlib.Tactic.NormNum
import Mathlib.Tactic.Positivity
/-! C integer arithmetic of the kernels: wrap-around is the identity on values that fit;
8/16-bit element types can never overflow the promoted `int` / `long`. -/
namespace Ens.Dist

theorem wrapC_of_fits (c : CArith) (x : Int) (h : c.fits x) : wrapC c x = x := by
  obtain ⟨lo, hi⟩ := h
  cases c
  · exact Int.bmod_eq_of_le lo (Int.lt_add_one_iff.mpr hi)
  · exact Int.emod_eq_of_lt lo (Int.lt_add_one_iff.mpr hi)
  · exact Int.bmod_eq_of_le lo (Int.lt_add_one_iff.mpr hi)
  · exact Int.emod_eq_of_lt lo (Int.lt_add_one_iff.mpr hi)

theorem wrapC_fits (c : CArith) (x : Int) : c.fits (wrapC c x) := by
  cases c
  · exact ⟨Int.le_bmod (by decide), Int.bmod_le (by decide)⟩
  · exact ⟨Int.emod_nonneg _ (by decide), Int.lt_add_one_iff.mp (Int.emod_lt_of_pos _ (by decide))⟩
  · exact ⟨Int.le_bmod (by decide), Int.bmod_le (by decide)⟩
  · exact ⟨Int.emod_nonneg _ (by decide), Int.lt_add_one_iff.mp (Int.emod_lt_of_pos _ (by decide))⟩

theorem diffC_of_noOverflow (c : CArith) (x y : Int) (h : NoOverflowDiff c x y) :
    diffC c x y = x - y := wrapC_of_fits c _ h

theorem squareC_of_noOverflow (c : CArith) (x y : Int) (h : NoOverflowSq c x y) :
    squareC c x y = (x - y) * (x - y) := by
  unfold squareC
  simp only [diffC_of_noOverflow c x y h.1]
  exact wrapC_of_fits _ _ h.2

/-- the 8- and 16-bit element types (signed or unsigned) -/
def DType.isSmallInt : DType → Bool
  | .i8 | .i16 | .u8 | .u16 => true
  | _ => false

theorem smallInt_promote (t : DType) (h : t.isSmallInt = true) : t.promote = some .s32 := by
  cases t <;> revert h <;> decide

/-- 32-bit signed data: only the subtraction can overflow, never the square (it is done in `long`) -/
theorem s32_noOverflowSq_of_diff (x y : Int) (h : NoOverflowDiff .s32 x y) : NoOverflowSq .s32 x y :=
  have hsq : (x - y) * (x - y) ≤ 2147483648 * 2147483648 :=
    mul_self_le_mul_self_of_le_of_neg_le (le_trans h.2 (by decide)) (neg_le.mp h.1)
  ⟨h, le_trans (by decide) (mul_self_nonneg (x - y)), le_trans hsq (by decide)⟩

theorem smallInt_range (t : DType) (h : t.isSmallInt = true) : -32768 ≤ t.lo ∧ t.hi ≤ 65535 := by
  cases t <;> revert h <;> decide

/-- the kernels cannot overflow on int8, int16 (uint8, uint16) data -/
theorem smallInt_noOverflow (t : DType) (h : t.isSmallInt = true) (x y : Int)
    (hx : t.inRange x) (hy : t.inRange y) : NoOverflowSq .s32 x y := by
  obtain ⟨hlo, hhi⟩ := smallInt_range t h
  obtain ⟨hx1, hx2⟩ := hx
  obtain ⟨hy1, hy2⟩ := hy
  exact s32_noOverflowSq_of_diff x y
    ⟨show (-2147483648 : Int) ≤ x - y by omega, show x - y ≤ (2147483647 : Int) by omega⟩

theorem ite_neg_eq_abs (d : Rat) : (if d < 0 then -d else d) = |d| := by
  split
  · rename_i h; rw [abs_of_neg h]
  · rename_i h; rw [abs_of_nonneg (not_lt.mp h)]

/-- the repaired arithmetic: exact for every pair, no hypothesis -/
theorem termInt_euclid_viaDouble (c : CArith) (x y : Int) :
    termInt .viaDouble .euclidean c x y = ((x : Rat) - y) * ((x : Rat) - y) := rfl

theorem termInt_euclid (a : IntArith) (c : CArith) (x y : Int)
    (h : a = .viaDouble ∨ NoOverflowSq c x y) :
    termInt a .euclidean c x y = ((x : Rat) - y) ^ 2 := by
  cases a
  · have h := h.resolve_left IntArith.noConfusion
    simp only [termInt, squareC_of_noOverflow c x y h]; push_cast; ring
  · exact (sq _).symm

theorem termInt_manhattan (a : IntArith) (c : CArith) (x y : Int)
    (h : a = .viaDouble ∨ NoOverflowDiff c x y) :
    termInt a .manhattan c x y = |(x : Rat) - y| := by
  cases a
  · have h := h.resolve_left IntArith.noConfusion
    simp only [termInt, diffC_of_noOverflow c x y h, Int.natCast_natAbs]; push_cast; rfl
  · exact ite_neg_eq_abs _

theorem termRat_manhattan (x y : Rat) : termRat .manhattan x y = |x - y| :=
  ite_neg_eq_abs (x - y)

theorem termInt_hamming (a : IntArith) (c : CArith) (x y : Int) :
    termInt a .hamming c x y = if x ≠ y then 1 else 0 := by
  simp only [termInt]; by_cases h : x = y <;> simp [h, eq_comm]

end Ens.Dist
