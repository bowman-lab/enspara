import Model.Mle
import Mathlib.Algebra.BigOperators.Fin
import Mathlib.Algebra.BigOperators.Field
import Mathlib.Algebra.Order.BigOperators.Ring.Finset
import Mathlib.Algebra.Order.Field.Basic
import Mathlib.Tactic.Ring
import Mathlib.Tactic.LinearCombination

/-! Plumbing for C12: `get`/`set` on the `Vector`-based matrices of `Model.Mle`, the bridge
from the model's `sumFin` to `Finset.univ.sum`, and how one or two members of a non-negative
family compare with its sum. -/

set_option linter.unusedSectionVars false

namespace Ens.C12P
open Ens Ens.Mle

section plumbing
variable {α : Type} {n : Nat}

theorem vget_vset (x : Vec α n) (i a : Fin n) (v : α) :
    vget (vset x i v) a = if a = i then v else vget x a := by
  unfold vset vget
  rw [Vector.getElem_set]
  exact if_congr ⟨fun e => Fin.ext e.symm, fun e => e ▸ rfl⟩ rfl rfl

theorem mget_mset (X : Mat α n) (i j a b : Fin n) (v : α) :
    mget (mset X i j v) a b = if a = i ∧ b = j then v else mget X a b := by
  unfold mset mget
  rw [Vector.getElem_set]
  by_cases h : a = i
  · subst h
    rw [if_pos rfl, Vector.getElem_set]
    exact if_congr ⟨fun e => ⟨rfl, Fin.ext e.symm⟩, fun e => e.2 ▸ rfl⟩ rfl rfl
  · rw [if_neg fun e => h (Fin.ext e.symm), if_neg fun e => h e.1]

theorem vget_ofFn (f : Fin n → α) (i : Fin n) : vget (Vector.ofFn f : Vec α n) i = f i := by
  simp [vget]

theorem mget_ofFn (f : Fin n → Fin n → α) (i j : Fin n) :
    mget (Vector.ofFn (fun i => Vector.ofFn (f i)) : Mat α n) i j = f i j := by
  simp [mget]

theorem vec_ext {x y : Vec α n} (h : ∀ i, vget x i = vget y i) : x = y :=
  Vector.ext fun i hi => h ⟨i, hi⟩

theorem st_ext {st st' : St α n} (hX : ∀ i j, mget st.X i j = mget st'.X i j)
    (hr : ∀ i, vget st.rs i = vget st'.rs i) : st = st' := by
  cases st; cases st'
  rw [St.mk.injEq]
  exact ⟨Vector.ext fun i hi => Vector.ext fun j hj => hX ⟨i, hi⟩ ⟨j, hj⟩, vec_ext hr⟩

theorem fin2_other (i : Fin 2) : ∃ j, j ≠ i :=
  ⟨i.rev, by revert i; decide⟩

end plumbing

section sums
variable {K : Type} [Field K]

theorem sumFin_eq_sum : ∀ (n : Nat) (f : Fin n → K), sumFin n f = ∑ k, f k
  | 0, f => by simp [sumFin]
  | n+1, f => by
    rw [sumFin, sumFin_eq_sum n, Fin.sum_univ_castSucc]

theorem rowSumF_eq {n : Nat} (X : Mat K n) (i : Fin n) : rowSumF X i = ∑ j, mget X i j :=
  sumFin_eq_sum n _

theorem sum_update_one {n : Nat} (f : Fin n → K) (b : Fin n) (v : K) :
    ∑ j, (if j = b then v else f j) = ∑ j, f j + (v - f b) := by
  have h : ∀ j, (if j = b then v else f j) = f j + (if j = b then v - f b else 0) := by
    intro j; by_cases hj : j = b
    · subst hj; simp
    · simp [hj]
  simp only [h, Finset.sum_add_distrib, Finset.sum_ite_eq', Finset.mem_univ, if_true]

variable [LinearOrder K] [IsStrictOrderedRing K] {n : Nat}

theorem le_sum (f : Fin n → K) (hf : ∀ k, 0 ≤ f k) (j : Fin n) : f j ≤ ∑ l, f l :=
  Finset.single_le_sum (fun k _ => hf k) (Finset.mem_univ j)

theorem pair_le_sum (f : Fin n → K) (hf : ∀ k, 0 ≤ f k) {j k : Fin n} (hjk : j ≠ k) :
    f j + f k ≤ ∑ l, f l := by
  rw [← Finset.sum_pair hjk]
  exact Finset.sum_le_sum_of_subset_of_nonneg (Finset.subset_univ _) (fun l _ _ => hf l)

theorem eq_zero_of_sum_eq (f : Fin n → K) (hf : ∀ k, 0 ≤ f k) {j : Fin n}
    (h : ∑ l, f l = f j) {k : Fin n} (hk : k ≠ j) : f k = 0 := by
  have := pair_le_sum f hf hk.symm
  rw [h] at this
  exact le_antisymm ((add_le_iff_nonpos_right _).1 this) (hf k)

end sums
end Ens.C12P
