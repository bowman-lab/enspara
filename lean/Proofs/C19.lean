import Model.Masked
import Proofs.Basic
/-!
Lemmas about `Model.Masked` for C19 (core Lean only).  Every heap-independence statement comes down to
one of two facts: `npFull_eq_replicate` (an allocation that is overwritten forgets what it held) and
`maskedCells_eq_iff` (two buffers give the same masked result iff they agree on the masked-out cells).
Then: `shannon_entropy` with its zeroed `out` equals its specification, without `out` it turns a NaN
heap into NaN; the libdist wrappers see `out` only through its length (`wrapper_congr`, `wrapper_none`).
-/
namespace Ens.Masked

theorem npEmpty_length {β} (n : Nat) (g : Nat → β) : (npEmpty n g).length = n :=
  length_tabulate n g

/-- overwriting every cell erases what the block held: `np.full` is the constant list -/
theorem npFull_eq_replicate {β} (z : β) (n : Nat) (g : Nat → β) : npFull z n g = List.replicate n z := by
  rw [npFull, List.map_const', npEmpty_length]

theorem npFull_heap_independent {β} (z : β) (n : Nat) (g1 g2 : Nat → β) : npFull z n g1 = npFull z n g2 := by
  rw [npFull_eq_replicate, npFull_eq_replicate]

theorem npEmpty_const {β} (n : Nat) (b : β) : npEmpty n (fun _ => b) = List.replicate n b := by
  rw [npEmpty, tabulate, List.map_const', List.length_range]

theorem maskedCells_eq_zipWith {α β} (f : α → β) : ∀ (mask : List Bool) (args : List α) (buf : List β),
    maskedCells f mask args buf
      = List.zipWith (fun m (p : α × β) => if m then f p.1 else p.2) mask (args.zip buf)
  | m :: ms, a :: as, b :: bs => by
    rw [maskedCells, List.zip_cons_cons, List.zipWith_cons_cons, maskedCells_eq_zipWith f ms as bs]
  | [], _, _ => by simp [maskedCells]
  | _ :: _, [], _ => by simp [maskedCells]
  | _ :: _, _ :: _, [] => by simp [maskedCells]

theorem maskedCells_length {α β} (f : α → β) :
    ∀ (mask : List Bool) (args : List α) (buf : List β),
      mask.length = args.length → buf.length = args.length →
      (maskedCells f mask args buf).length = args.length := by
  intro mask args buf h1 h2
  rw [maskedCells_eq_zipWith, List.length_zipWith, List.length_zip]
  omega

theorem maskedCells_getElem? {α β} (f : α → β) (mask : List Bool) (args : List α) (buf : List β)
    (i : Nat) (m : Bool) (a : α) (b : β)
    (hm : mask[i]? = some m) (ha : args[i]? = some a) (hb : buf[i]? = some b) :
    (maskedCells f mask args buf)[i]? = some (if m then f a else b) := by
  rw [maskedCells_eq_zipWith, List.getElem?_zipWith, hm, List.getElem?_zip_eq_some (z := (a, b)) |>.mpr ⟨ha, hb⟩]

theorem maskedCells_eq_iff {α β} (f : α → β) (mask : List Bool) :
    ∀ (args : List α) (g1 g2 : List β),
      mask.length = args.length → g1.length = args.length → g2.length = args.length →
      (maskedCells f mask args g1 = maskedCells f mask args g2 ↔
        ∀ i : Nat, mask[i]? = some false → g1[i]? = g2[i]?) := by
  induction mask with
  | nil => intro args g1 g2 _ _ _; simp [maskedCells]
  | cons m ms ih =>
    intro args g1 g2 h h1 h2
    obtain ⟨a, as, rfl⟩ := List.exists_cons_of_length_eq_add_one h.symm
    obtain ⟨b1, bs1, rfl⟩ := List.exists_cons_of_length_eq_add_one h1
    obtain ⟨b2, bs2, rfl⟩ := List.exists_cons_of_length_eq_add_one h2
    rw [maskedCells, maskedCells, List.cons.injEq,
      ih as bs1 bs2 (Nat.succ.inj h) (Nat.succ.inj h1) (Nat.succ.inj h2)]
    constructor
    · rintro ⟨hb, ht⟩ (_ | i) hi
      · cases m
        · exact congrArg some hb
        · cases hi
      · exact ht i hi
    · intro H
      refine ⟨?_, fun i hi => H (i + 1) hi⟩
      cases m
      · exact Option.some.inj (H 0 rfl)
      · rfl

theorem maskedCells_some_false {α β} (f : α → β) (b1 b2 : β) (hb : b1 ≠ b2)
    (mask : List Bool) (args : List α) (hl : mask.length = args.length) (hf : false ∈ mask) :
    maskedCells f mask args (List.replicate args.length b1) ≠
    maskedCells f mask args (List.replicate args.length b2) := by
  obtain ⟨i, hi⟩ := List.mem_iff_getElem?.mp hf
  have hlt : i < args.length := hl ▸ (List.getElem?_eq_some_iff.mp hi).1
  intro h
  have := (maskedCells_eq_iff f mask args _ _ hl List.length_replicate List.length_replicate).mp h i hi
  simp only [List.getElem?_replicate, hlt, if_true, Option.some.injEq] at this
  exact hb this

theorem maskedApply_npFull_independent {α β} (f : α → β) (mask : List Bool) (args : List α) (z : β)
    (g1 g2 : Nat → β) (h1 h2 : List β) :
    maskedApply f mask args (some (npFull z args.length g1)) h1
      = maskedApply f mask args (some (npFull z args.length g2)) h2 := by
  rw [npFull_heap_independent z args.length g1 g2]
  rfl

theorem maskedApply_none_ok {α β} (f : α → β) (mask : List Bool) (args : List α) (g : List β)
    (hm : mask.length = args.length) (hg : g.length = args.length) :
    maskedApply f mask args none g = .ok (maskedCells f mask args g) := by
  simp [maskedApply, hm, hg]

theorem maskedApply_some_ok {α β} (f : α → β) (mask : List Bool) (args : List α) (o g : List β)
    (hm : mask.length = args.length) (ho : o.length = args.length) :
    maskedApply f mask args (some o) g = .ok (maskedCells f mask args o) := by
  simp [maskedApply, hm, ho]

/-- without `out`: independence of the heap content ⇔ no cell is masked out -/
theorem maskedApply_none_independent_iff {α β} (f : α → β) (mask : List Bool) (args : List α)
    (hm : mask.length = args.length) (b1 b2 : β) (hb : b1 ≠ b2) :
    (∀ g1 g2 : List β, g1.length = args.length → g2.length = args.length →
        maskedApply f mask args none g1 = maskedApply f mask args none g2)
      ↔ ∀ m ∈ mask, m = true := by
  constructor
  · intro h m hmem
    cases m with
    | true => rfl
    | false =>
      have h' := h (List.replicate args.length b1) (List.replicate args.length b2)
        List.length_replicate List.length_replicate
      rw [maskedApply_none_ok f mask args _ hm List.length_replicate,
          maskedApply_none_ok f mask args _ hm List.length_replicate] at h'
      exact absurd (Except.ok.inj h') (maskedCells_some_false f b1 b2 hb mask args hm hmem)
  · intro hall g1 g2 h1 h2
    rw [maskedApply_none_ok f mask args g1 hm h1, maskedApply_none_ok f mask args g2 hm h2,
        (maskedCells_eq_iff f mask args g1 g2 hm h1 h2).mpr
          (fun i hi => Bool.noConfusion (hall false (List.mem_of_getElem? hi)))]

theorem FV.add_zero_left (x : FV) : FV.add (some 0) x = x := by
  cases x with
  | none => rfl
  | some r => simp [FV.add, Rat.zero_add]

theorem FV.mul_zero_right (x : Rat) : FV.mul (some x) (some 0) = some 0 := by
  simp [FV.mul, Rat.mul_zero]

theorem maskedCells_replicate {α β} (f : α → β) (q : α → Bool) (z : β) : ∀ l : List α,
    maskedCells f (l.map q) l (List.replicate l.length z) = l.map (fun a => if q a then f a else z)
  | [] => rfl
  | a :: l => by
    rw [List.map_cons, List.length_cons, List.replicate_succ, maskedCells,
      maskedCells_replicate f q z l, List.map_cons]

theorem weighted_cells (lg : Rat → FV) (z : FV) (p : List Rat) :
    List.zipWith (fun x l => FV.mul (some x) l) p
        (maskedCells lg (p.map (fun x => decide (0 < x))) p (List.replicate p.length z))
      = p.map (fun x => FV.mul (some x) (if decide (0 < x) then lg x else z)) := by
  rw [maskedCells_replicate, List.zipWith_map_right, List.zipWith_self]

/-- with the zero-initialised `out`, the weighted sum over all cells is the sum over the
cells with `p_i > 0` -/
theorem entropy_cells_eq_spec (lg : Rat → FV) (p : List Rat) :
      FV.sum (List.zipWith (fun x l => FV.mul (some x) l) p
        (maskedCells lg (p.map (fun x => decide (0 < x))) p (List.replicate p.length (some 0))))
      = FV.sum ((p.filter (fun x => decide (0 < x))).map (fun x => FV.mul (some x) (lg x))) := by
  rw [weighted_cells]
  induction p with
  | nil => rfl
  | cons x xs ih =>
    unfold FV.sum at ih ⊢
    by_cases hx : 0 < x
    · rw [List.filter_cons_of_pos (by simpa using hx), List.map_cons, List.map_cons, List.foldr_cons,
        List.foldr_cons, ih, decide_eq_true hx, if_pos rfl]
    · rw [List.filter_cons_of_neg (by simpa using hx), List.map_cons, List.foldr_cons, ih,
        decide_eq_false hx, if_neg Bool.false_ne_true, FV.mul_zero_right, FV.add_zero_left]

theorem shannonEntropy_eq_spec (lg : Rat → FV) (p : List Rat) (g : Nat → FV) :
    shannonEntropy lg p g = .ok (entropySpec lg p) := by
  unfold shannonEntropy entropyWith
  rw [npFull_eq_replicate, maskedApply_some_ok lg _ p _ _ (by simp) (by simp)]
  exact congrArg (fun s => Except.ok (FV.neg s)) (entropy_cells_eq_spec lg p)

theorem FV.sum_eq_none_iff : ∀ l : List FV, FV.sum l = none ↔ none ∈ l
  | [] => by simp [FV.sum]
  | x :: xs => by
    have ih := FV.sum_eq_none_iff xs
    unfold FV.sum at ih ⊢
    rw [List.foldr_cons, List.mem_cons]
    cases x with
    | none => exact ⟨fun _ => .inl rfl, fun _ => rfl⟩
    | some r =>
      cases hs : List.foldr FV.add (some 0) xs with
      | none => exact ⟨fun _ => .inr (ih.mp hs), fun _ => rfl⟩
      | some t =>
        refine ⟨fun h => (nomatch h), fun h => ?_⟩
        rcases h with h | h
        · cases h
        · rw [ih.mpr h] at hs; cases hs

/-- without `out`, NaN garbage under a masked-out cell makes the whole sum NaN -/
theorem entropy_cells_nan (lg : Rat → FV) (p : List Rat) (h : ∃ x ∈ p, ¬ 0 < x) :
      none ∈ List.zipWith (fun x l => FV.mul (some x) l) p
        (maskedCells lg (p.map (fun x => decide (0 < x))) p (List.replicate p.length none)) := by
  obtain ⟨x, hx, hn⟩ := h
  rw [weighted_cells]
  exact List.mem_map.mpr ⟨x, hx, by rw [decide_eq_false hn, if_neg Bool.false_ne_true]; rfl⟩

theorem shannonEntropyNoOut_nan (lg : Rat → FV) (p : List Rat) (h : ∃ x ∈ p, ¬ 0 < x) :
    shannonEntropyNoOut lg p (fun _ => none) = .ok none := by
  unfold shannonEntropyNoOut entropyWith
  rw [npEmpty_const, maskedApply_none_ok lg _ p _ (by simp) (by simp)]
  exact congrArg (fun s => Except.ok (FV.neg s))
    ((FV.sum_eq_none_iff _).mpr (entropy_cells_nan lg p h))

theorem entropySpec_isSome (lg : Rat → FV) (p : List Rat)
    (hlg : ∀ x, 0 < x → (lg x).isSome) : (entropySpec lg p).isSome := by
  unfold entropySpec
  cases hs : FV.sum ((p.filter (fun x => decide (0 < x))).map
      (fun x => FV.mul (some x) (lg x))) with
  | some s => rfl
  | none =>
    obtain ⟨x, hx, hnone⟩ := List.mem_map.mp ((FV.sum_eq_none_iff _).mp hs)
    have hpos : 0 < x := by simpa using (List.mem_filter.mp hx).2
    cases hl : lg x with
    | none => have := hlg x hpos; rw [hl] at this; cases this
    | some v => rw [hl] at hnone; cases hnone

theorem zeroed_eq_replicate (out : List Rat) : zeroed out = List.replicate out.length 0 := by
  rw [zeroed, List.map_const']

theorem zeroed_congr (o1 o2 : List Rat) (h : o1.length = o2.length) : zeroed o1 = zeroed o2 := by
  rw [zeroed_eq_replicate, zeroed_eq_replicate, h]

theorem kernelGuard_congr (X : List (List Rat)) (ncols : Nat) (y o1 o2 : List Rat)
    (h : o1.length = o2.length) : kernelGuard X ncols y o1 = kernelGuard X ncols y o2 := by
  simp [kernelGuard, h]

theorem manhattanKernel_congr (X : List (List Rat)) (ncols : Nat) (y o1 o2 : List Rat)
    (h : o1.length = o2.length) : manhattanKernel X ncols y o1 = manhattanKernel X ncols y o2 := by
  simp only [manhattanKernel, kernelGuard_congr X ncols y o1 o2 h, zeroed_congr o1 o2 h]

theorem euclideanKernel_congr (sqrtF : Rat → Rat) (X : List (List Rat)) (ncols : Nat)
    (y o1 o2 : List Rat) (h : o1.length = o2.length) :
    euclideanKernel sqrtF X ncols y o1 = euclideanKernel sqrtF X ncols y o2 := by
  simp only [euclideanKernel, kernelGuard_congr X ncols y o1 o2 h, zeroed_congr o1 o2 h]

theorem hammingKernel_congr (X : List (List Rat)) (ncols : Nat) (y o1 o2 : List Rat)
    (h : o1.length = o2.length) : hammingKernel X ncols y o1 = hammingKernel X ncols y o2 := by
  simp only [hammingKernel, kernelGuard_congr X ncols y o1 o2 h, zeroed_congr o1 o2 h]

/-- a wrapper `prepare >>= kernel` depends on a supplied `out` only through its length, and
agrees with the call without `out` when the length is right -/
theorem wrapper_congr {γ} (k : List Rat → Except Err γ)
    (hk : ∀ o1 o2 : List Rat, o1.length = o2.length → k o1 = k o2)
    (X : List (List Rat)) (ncols : Nat) (y o1 o2 : List Rat) (g1 g2 : Nat → Rat)
    (h : o1.length = o2.length) :
    (prepare X ncols y (some o1) g1 >>= k) = (prepare X ncols y (some o2) g2 >>= k) := by
  unfold prepare
  by_cases hc : ncols ≠ y.length
  · simp [hc]
  · by_cases hl : o2.length ≠ X.length
    · simp [hc, hl, h]
    · simp only [hc, h, hl, if_false]
      show k o1 = k o2
      exact hk o1 o2 h

theorem wrapper_none {γ} (k : List Rat → Except Err γ)
    (hk : ∀ o1 o2 : List Rat, o1.length = o2.length → k o1 = k o2)
    (X : List (List Rat)) (ncols : Nat) (y o : List Rat) (g1 g2 : Nat → Rat) (h : o.length = X.length) :
    (prepare X ncols y (some o) g1 >>= k) = (prepare X ncols y none g2 >>= k) := by
  unfold prepare
  by_cases hc : ncols ≠ y.length
  · simp [hc]
  · have hl : ¬ o.length ≠ X.length := by simp [h]
    simp only [hc, hl, if_false]
    show k o = k (npFull 0 X.length g2)
    exact hk _ _ (by simp [h, npFull_eq_replicate])

theorem wrapper_heap_independent {γ} (k : List Rat → Except Err γ)
    (hk : ∀ o1 o2 : List Rat, o1.length = o2.length → k o1 = k o2)
    (X : List (List Rat)) (ncols : Nat) (y : List Rat) (out : Option (List Rat)) (g1 g2 : Nat → Rat) :
    (prepare X ncols y out g1 >>= k) = (prepare X ncols y out g2 >>= k) := by
  cases out with
  | none => unfold prepare; rw [npFull_heap_independent 0 X.length g1 g2]
  | some o => exact wrapper_congr k hk X ncols y o o g1 g2 rfl

theorem matrixBincount2d_heap_independent (a : List (List Int)) (fa : Nat) (b : List (List Int))
    (fb na nb : Nat) (g1 g2 : Nat → Nat) :
    matrixBincount2d a fa b fb na nb g1 = matrixBincount2d a fa b fb na nb g2 := by
  unfold matrixBincount2d
  rw [npFull_heap_independent 0 _ g1 g2]

theorem argumentsOnly_of_world_independent {W} (r : Routine W) (w0 : W)
    (h1 : ∀ w a, (r.run w a).1 = (r.run w0 a).1) (h2 : ∀ w a, (r.run w a).2 = a) :
    ArgumentsOnly r :=
  ⟨⟨fun a => (r.run w0 a).1, h1⟩, fun _ => h2⟩

end Ens.Masked
