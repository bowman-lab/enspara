import Model.Dist
import Mathlib.Tactic.Linarith
import Mathlib.Tactic.Ring
/-! Strided memory: extents, in-bounds reads, C / Fortran layouts and basic-slicing views. -/
namespace Ens.Dist

theorem allSome_eq_some_iff {α} (l : List (Option α)) (r : List α) :
    allSome l = some r ↔ l = r.map some := by
  induction l generalizing r with
  | nil => cases r <;> simp [allSome]
  | cons o os ih =>
    cases o with
    | none => cases r <;> simp [allSome]
    | some a =>
      cases r with
      | nil => simp [allSome]
      | cons b bs =>
        simp only [allSome, Option.map_eq_some_iff, List.map_cons, List.cons.injEq, Option.some.injEq]
        constructor
        · rintro ⟨t, ht, rfl, rfl⟩; exact ⟨rfl, (ih t).mp ht⟩
        · rintro ⟨rfl, h⟩; exact ⟨bs, (ih bs).mpr h, rfl, rfl⟩

theorem allSome_map_some {α} (r : List α) : allSome (r.map some) = some r :=
  (allSome_eq_some_iff _ _).mpr rfl

theorem allSome_map_of_eq {α β} (l : List β) (f : β → Option α) (g : β → α)
    (h : ∀ b ∈ l, f b = some (g b)) : allSome (l.map f) = some (l.map g) :=
  (allSome_eq_some_iff _ _).mpr (by rw [List.map_map]; exact List.map_congr_left h)

theorem allSome_length {α} {l : List (Option α)} {r : List α} (h : allSome l = some r) :
    r.length = l.length := by
  rw [(allSome_eq_some_iff l r).mp h, List.length_map]

theorem allSome_isSome {α} : ∀ l : List (Option α), (∀ o ∈ l, o.isSome) → (allSome l).isSome
  | [], _ => rfl
  | none :: _, h => Bool.noConfusion (h none List.mem_cons_self)
  | some a :: rest, h => by
    have ih := allSome_isSome rest (fun o ho => h o (List.mem_cons_of_mem _ ho))
    simp only [allSome, Option.isSome_map, ih]

theorem allSome_range_isSome {α} (n : Nat) (f : Nat → Option α) (h : ∀ k, k < n → (f k).isSome) :
    (allSome ((List.range n).map f)).isSome :=
  allSome_isSome _ (by
    simp only [List.mem_map, List.mem_range]
    rintro _ ⟨k, hk, rfl⟩
    exact h k hk)

theorem mul_stride_bounds (i n : Nat) (s : Int) (h : i < n) :
    (if s < 0 then ((n : Int) - 1) * s else 0) ≤ (i : Int) * s ∧
    (i : Int) * s ≤ (if s < 0 then 0 else ((n : Int) - 1) * s) := by
  have hi : (i : Int) ≤ (n : Int) - 1 := by omega
  have h0 : (0 : Int) ≤ i := Int.natCast_nonneg i
  by_cases hs : s < 0
  · rw [if_pos hs, if_pos hs]
    exact ⟨Int.mul_le_mul_of_nonpos_right hi (Int.le_of_lt hs),
      Int.mul_nonpos_of_nonneg_of_nonpos h0 (Int.le_of_lt hs)⟩
  · rw [if_neg hs, if_neg hs]
    exact ⟨Int.mul_nonneg h0 (Int.not_lt.mp hs), Int.mul_le_mul_of_nonneg_right hi (Int.not_lt.mp hs)⟩

theorem extentOk_bounds {ε} (a : Arr ε) (hok : a.extentOk = true) (hne : ∀ n ∈ a.shape, n ≠ 0) :
    0 ≤ extentLo a.offset a.shape a.strides ∧
      extentHi a.offset a.shape a.strides < (a.buf.size : Int) := by
  simp only [Arr.extentOk, Bool.and_eq_true, Bool.or_eq_true, List.any_eq_true, beq_iff_eq,
    decide_eq_true_eq] at hok
  rcases hok.2 with ⟨n, hn, h0⟩ | h
  · exact absurd h0 (hne n hn)
  · exact h

/-- in bounds of the flat buffer -/
def Arr.InBuf {ε} (a : Arr ε) (k : Int) : Prop := 0 ≤ k ∧ k < (a.buf.size : Int)

theorem at?_of_inBuf {ε} (a : Arr ε) (k : Int) (h : a.InBuf k) :
    ∃ v, a.at? k = some v := by
  obtain ⟨h0, h1⟩ := h
  have : k.toNat < a.buf.size := by omega
  exact ⟨a.buf[k.toNat], by simp [Arr.at?, h0, this]⟩

theorem inBuf_of_at? {ε} (a : Arr ε) (k : Int) (v : ε) (h : a.at? k = some v) : a.InBuf k := by
  unfold Arr.at? at h
  by_cases h0 : 0 ≤ k
  · simp only [h0, if_true] at h
    have := (Array.getElem?_eq_some_iff.mp h).1
    exact ⟨h0, by omega⟩
  · simp [h0] at h

/-- numpy's invariant gives in-bounds indices for every logical 2-D position -/
theorem extent2_inBuf {ε} (a : Arr ε) (n w : Nat) (s0 s1 : Int)
    (hs : a.shape = [n, w]) (hst : a.strides = [s0, s1]) (hok : a.extentOk = true)
    (i j : Nat) (hi : i < n) (hj : j < w) : a.InBuf (idx2 a.offset s0 s1 i j) := by
  have hb := extentOk_bounds a hok (by
    intro m hm; rw [hs] at hm
    rcases List.mem_cons.mp hm with rfl | hm
    · omega
    · rw [List.mem_singleton.mp hm]; omega)
  rw [hs, hst] at hb
  obtain ⟨b0l, b0h⟩ := mul_stride_bounds i n s0 hi
  obtain ⟨b1l, b1h⟩ := mul_stride_bounds j w s1 hj
  exact ⟨Int.le_trans hb.1 (Int.add_le_add (Int.add_le_add_left b0l _) b1l),
    Int.lt_of_le_of_lt (Int.add_le_add (Int.add_le_add_left b0h _) b1h) hb.2⟩

theorem extent1_inBuf {ε} (a : Arr ε) (w : Nat) (s0 : Int)
    (hs : a.shape = [w]) (hst : a.strides = [s0]) (hok : a.extentOk = true)
    (j : Nat) (hj : j < w) : a.InBuf (idx1 a.offset s0 j) := by
  have hb := extentOk_bounds a hok (by
    intro m hm; rw [hs, List.mem_singleton] at hm; omega)
  rw [hs, hst] at hb
  obtain ⟨b1l, b1h⟩ := mul_stride_bounds j w s0 hj
  exact ⟨Int.le_trans hb.1 (Int.add_le_add_left b1l _),
    Int.lt_of_le_of_lt (Int.add_le_add_left b1h _) hb.2⟩

theorem extentOk_strides_length {ε} (a : Arr ε) (hok : a.extentOk = true) :
    a.strides.length = a.shape.length := by
  unfold Arr.extentOk at hok
  simp only [Bool.and_eq_true, beq_iff_eq] at hok
  exact hok.1.symm

theorem read2?_isSome {ε} (a : Arr ε) (n w : Nat) (hs : a.shape = [n, w]) (hok : a.extentOk = true)
    (i j : Nat) (hi : i < n) (hj : j < w) : (a.read2? i j).isSome := by
  have hl := extentOk_strides_length a hok
  rw [hs] at hl
  match hst : a.strides, hl with
  | [s0, s1], _ =>
    obtain ⟨v, hv⟩ := at?_of_inBuf a _ (extent2_inBuf a n w s0 s1 hs hst hok i j hi hj)
    simp [Arr.read2?, hst, hv]

theorem read1?_isSome {ε} (a : Arr ε) (w : Nat) (hs : a.shape = [w]) (hok : a.extentOk = true)
    (j : Nat) (hj : j < w) : (a.read1? j).isSome := by
  have hl := extentOk_strides_length a hok
  rw [hs] at hl
  match hst : a.strides, hl with
  | [s0], _ =>
    obtain ⟨v, hv⟩ := at?_of_inBuf a _ (extent1_inBuf a w s0 hs hst hok j hj)
    simp [Arr.read1?, hst, hv]

theorem at?_ofFn {ε} {m : Nat} (a : Arr ε) (g : Fin m → ε) (hbuf : a.buf = Array.ofFn g)
    (k : Nat) (h : k < m) : a.at? (k : Int) = some (g ⟨k, h⟩) := by
  simp only [Arr.at?, hbuf, Int.natCast_nonneg, if_true, Int.toNat_natCast, Array.getElem?_ofFn, h,
    dite_true]

theorem read2?_ofFnC {ε} (n w : Nat) (f : Nat → Nat → ε) (i j : Nat) (hi : i < n) (hj : j < w) :
    (Arr.ofFnC n w f).read2? i j = some (f i j) := by
  have hlt : i * w + j < n * w :=
    Nat.lt_of_lt_of_le (Nat.add_lt_add_left hj _) (Nat.succ_mul i w ▸ Nat.mul_le_mul_right w hi)
  have hidx : idx2 0 (w : Int) 1 i j = ((i * w + j : Nat) : Int) := by
    rw [idx2, Int.zero_add, Int.mul_one, Int.natCast_add, Int.natCast_mul]
  show Arr.at? _ (idx2 0 (w : Int) 1 i j) = _
  rw [hidx, at?_ofFn _ _ rfl _ hlt]
  show some (f ((i * w + j) / w) ((i * w + j) % w)) = _
  rw [Nat.mul_comm i w, Nat.mul_add_div (Nat.zero_lt_of_lt hj), Nat.mul_add_mod, Nat.div_eq_of_lt hj,
    Nat.mod_eq_of_lt hj, Nat.add_zero]

theorem read2?_ofFnF {ε} (n w : Nat) (f : Nat → Nat → ε) (i j : Nat) (hi : i < n) (hj : j < w) :
    (Arr.ofFnF n w f).read2? i j = some (f i j) := by
  have hlt : i + j * n < n * w :=
    calc i + j * n < (j + 1) * n := by rw [Nat.add_mul, Nat.one_mul]; omega
      _ ≤ n * w := Nat.mul_comm n w ▸ Nat.mul_le_mul_right n hj
  have hidx : idx2 0 1 (n : Int) i j = ((i + j * n : Nat) : Int) := by
    rw [idx2, Int.zero_add, Int.mul_one, Int.natCast_add, Int.natCast_mul]
  show Arr.at? _ (idx2 0 1 (n : Int) i j) = _
  rw [hidx, at?_ofFn _ _ rfl _ hlt]
  show some (f ((i + j * n) % n) ((i + j * n) / n)) = _
  rw [Nat.add_mul_mod_self_right, Nat.add_mul_div_right _ _ (Nat.zero_lt_of_lt hi), Nat.div_eq_of_lt hi,
    Nat.mod_eq_of_lt hi, Nat.zero_add]

theorem read1?_ofFn1 {ε} (w : Nat) (g : Nat → ε) (j : Nat) (hj : j < w) :
    (Arr.ofFn1 w g).read1? j = some (g j) := by
  have hidx : idx1 0 1 j = ((j : Nat) : Int) := by unfold idx1; omega
  show Arr.at? _ (idx1 0 1 j) = _
  rw [hidx, at?_ofFn _ _ rfl _ hj]

/-- a basic-slicing view reads the base array at the sliced logical position -/
theorem read2?_sub2 {ε} (a : Arr ε) (s0 s1 : Int) (hst : a.strides = [s0, s1])
    (r0 : Nat) (rs : Int) (nr : Nat) (c0 : Nat) (cs : Int) (nc : Nat) (i j i' j' : Nat)
    (hi : (r0 : Int) + (i : Int) * rs = (i' : Int)) (hj : (c0 : Int) + (j : Int) * cs = (j' : Int)) :
    (a.sub2 r0 rs nr c0 cs nc).read2? i j = a.read2? i' j' := by
  simp only [Arr.sub2, hst, Arr.read2?, Arr.at?]
  have : idx2 (a.offset + (r0 : Int) * s0 + (c0 : Int) * s1) (rs * s0) (cs * s1) i j
      = idx2 a.offset s0 s1 i' j' := by
    unfold idx2; rw [← hi, ← hj]; ring
  rw [this]

theorem read1?_sub1 {ε} (a : Arr ε) (s0 : Int) (hst : a.strides = [s0])
    (c0 : Nat) (cs : Int) (nc : Nat) (j j' : Nat)
    (hj : (c0 : Int) + (j : Int) * cs = (j' : Int)) :
    (a.sub1 c0 cs nc).read1? j = a.read1? j' := by
  simp only [Arr.sub1, hst, Arr.read1?, Arr.at?]
  have : idx1 (a.offset + (c0 : Int) * s0) (cs * s0) j = idx1 a.offset s0 j' := by
    unfold idx1; rw [← hj]; ring
  rw [this]

/-- gathering a view whose reads are all known gives exactly the logical table -/
theorem rows?_of_reads {ε} (a : Arr ε) (n w : Nat) (g : Nat → Nat → ε)
    (h : ∀ i j, i < n → j < w → a.read2? i j = some (g i j)) :
    a.rows? n w = some ((List.range n).map (fun i => (List.range w).map (fun j => g i j))) :=
  allSome_map_of_eq _ _ _ fun i hi => allSome_map_of_eq _ _ _ fun j hj =>
    h i j (List.mem_range.mp hi) (List.mem_range.mp hj)

theorem elems?_of_reads {ε} (a : Arr ε) (w : Nat) (g : Nat → ε)
    (h : ∀ j, j < w → a.read1? j = some (g j)) :
    a.elems? w = some ((List.range w).map g) :=
  allSome_map_of_eq _ _ _ fun j hj => h j (List.mem_range.mp hj)

end Ens.Dist
