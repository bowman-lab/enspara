import Proofs.C06Mask
/-!
The hand-written slice arithmetic of the UNCHANGED `ra.py` (`_slice_to_list`,
`_get_iis_from_slices`) agrees with CPython's `slice.indices` on the "plain" slices:
positive (or no) step, start not below the axis (rows) / not negative (columns), row stop not beyond
the axis.  Together with "every selected row has a selected column" this puts the index in scope.
-/
namespace Ens
open Ens.RaggedW

/-- positive (or absent) step -/
def PosStep (s : PySlice) : Prop :=
  match s.step with
  | none => True
  | some k => 0 < k

instance (s : PySlice) : Decidable (PosStep s) := by
  unfold PosStep; split <;> infer_instance

theorem PosStep.pos {s : PySlice} (hp : PosStep s) : 0 < s.step.getD 1 := by
  unfold PosStep at hp
  cases hs : s.step with
  | none => exact Int.one_pos
  | some k => rw [hs] at hp; exact hp

namespace RaggedW

/-- row slices the unchanged `_slice_to_list` gets right -/
def PlainRowSlice (n : Nat) (s : PySlice) : Prop :=
  PosStep s ∧
  (match s.start with | none => True | some v => -(n : Int) ≤ v) ∧
  (match s.stop with | none => True | some v => v ≤ (n : Int))

instance (n : Nat) (s : PySlice) : Decidable (PlainRowSlice n s) := by
  unfold PlainRowSlice
  have : Decidable (match s.start with | none => True | some v => -(n : Int) ≤ v) := by
    split <;> infer_instance
  have : Decidable (match s.stop with | none => True | some v => v ≤ (n : Int)) := by
    split <;> infer_instance
  infer_instance

/-- column slices the unchanged `_get_iis_from_slices` gets right (for every row length) -/
def PlainColSlice (s : PySlice) : Prop :=
  PosStep s ∧ (match s.start with | none => True | some v => (0 : Int) ≤ v)

instance (s : PySlice) : Decidable (PlainColSlice s) := by
  unfold PlainColSlice
  have : Decidable (match s.start with | none => True | some v => (0 : Int) ≤ v) := by
    split <;> infer_instance
  infer_instance

theorem colsPy_of_pos (len : Nat) (s : PySlice) (hp : 0 < s.step.getD 1) :
    colsPy s len = .ok (((rangeAux (clipPos len len s.stop) (s.step.getD 1) (len + 1)
      (clipPos len 0 s.start)).map Int.toNat).map Int.ofNat) := by
  unfold colsPy pyIndices
  rw [PySlice.indices_of_step_pos len hp]

theorem sliceToListAsIs_plain (n : Nat) (s : PySlice) (h : PlainRowSlice n s) :
    sliceToListAsIs s n = specRowNums n (.slice s) := by
  obtain ⟨hp, hstart, hstop⟩ := h
  have hc := hp.pos
  rw [show specRowNums n (.slice s) = colsPy s n from rfl, colsPy_of_pos n s hc]
  unfold sliceToListAsIs
  simp only [if_neg (Int.ne_of_gt hc)]
  congr 1
  refine rangeAux_unclipped hc n (Nat.le_succ _) ?_ ?_
  · cases hs : s.start with
    | none => exact clipPos_none_start n
    | some v => simp only [hs] at hstart; exact clipPos_some_of_ge 0 hstart
  · cases hs : s.stop with
    | none => exact clipPos_none_stop n
    | some v => simp only [hs] at hstop; exact clipPos_some_of_le n hstop

theorem colsAsIs_plain (l : Nat) (s : PySlice) (h : PlainColSlice s) :
    colsAsIs s l = colsPy s l := by
  obtain ⟨hp, hstart⟩ := h
  have hc := hp.pos
  rw [colsPy_of_pos l s hc]
  unfold colsAsIs
  simp only [if_neg (Int.ne_of_gt hc)]
  congr 1
  refine rangeAux_unclipped hc l (Nat.le_succ _) ?_ ?_
  · cases hs : s.start with
    | none => exact clipPos_none_start l
    | some v => simp only [hs] at hstart; exact clipPos_some_of_nonneg 0 hstart
  · cases s.stop with
    | none => exact clipPos_none_stop l
    | some v => simp only [clipPos]; omega

variable {α : Type}

/-- the same variant of the code with the read-side repair switched on -/
def fixReads (cfg : Cfg) : Cfg := { cfg with readsFix := true }

/-- a 2-d index the UNCHANGED index helpers handle like CPython/numpy:
plain row slice (or a row list), plain column slice (or integer columns), at least one row, and for a
column slice at least one selected column in every selected row -/
def PlainIdx (ls : List Nat) (r : Sel) (c : CSel) : Prop :=
  (match r with
    | .slice rs => PlainRowSlice ls.length rs
    | .list _ => True) ∧
  (match specRowNums ls.length r with
    | .error _ => True
    | .ok nums =>
      match c with
      | .slice cs => PlainColSlice cs ∧ nums ≠ [] ∧
          ∀ num ∈ nums, ∀ l, lenAt ls num = .ok l → ∀ ix, pyIndices l cs = .ok ix → ix ≠ []
      | .int _ => nums ≠ []
      | .list l => nums ≠ [] ∧ l ≠ [])

theorem sliceToList_plain (cfg : Cfg) (n : Nat) (rs : PySlice) (h : PlainRowSlice n rs) :
    sliceToList cfg rs n = specRowNums n (.slice rs) := by
  by_cases hr : cfg.readsFix = true
  · exact sliceToList_fixed cfg hr rs n
  · unfold sliceToList
    simp only [hr, Bool.false_eq_true, if_false]
    exact sliceToListAsIs_plain n rs h

theorem rowPairs_plain (cfg : Cfg) (hr : cfg.readsFix = false) (cs : PySlice) (hc : PlainColSlice cs)
    (ls : List Nat) (num : Int) : rowPairs cfg cs ls num = rowPairs (fixReads cfg) cs ls num := by
  unfold rowPairs colsOf fixReads
  simp only [hr, Bool.false_eq_true, if_false, if_true]
  cases lenAt ls num with
  | error e => rfl
  | ok l =>
    simp only []
    rw [colsAsIs_plain l cs hc]

theorem rowPairs_fix_nonempty (cfg : Cfg) (cs : PySlice) (ls : List Nat) (num : Int) (g : List (Int × Int))
    (hg : rowPairs (fixReads cfg) cs ls num = .ok g)
    (hne : ∀ l, lenAt ls num = .ok l → ∀ ix, pyIndices l cs = .ok ix → ix ≠ []) : g ≠ [] := by
  refine AllOk.of_eq (Q := (· ≠ [])) ?_ hg
  unfold rowPairs colsOf colsPy fixReads
  simp only [if_true]
  cases hl : lenAt ls num with
  | error e => trivial
  | ok l =>
    dsimp only
    cases hp : pyIndices l cs with
    | error e => trivial
    | ok ix =>
      intro hnil
      simp only [List.map_map, List.map_eq_nil_iff] at hnil
      exact hne l hl ix hp hnil

theorem getIisFromSlices_plain (cfg : Cfg) (hr : cfg.readsFix = false) (nums : List Int) (cs : PySlice)
    (ls : List Nat) (hc : PlainColSlice cs) (hnums : nums ≠ [])
    (hne : ∀ num ∈ nums, ∀ l, lenAt ls num = .ok l → ∀ ix, pyIndices l cs = .ok ix → ix ≠ []) :
    getIisFromSlices cfg nums cs ls = getIisFromSlices (fixReads cfg) nums cs ls := by
  unfold getIisFromSlices
  rw [mapE_congr nums (fun num _ => rowPairs_plain cfg hr cs hc ls num)]
  cases hm : mapE (rowPairs (fixReads cfg) cs ls) nums with
  | error e => rfl
  | ok groups =>
    have hlen := (mapE_ok hm).1
    have h1 : groups.isEmpty = false := by
      cases groups with
      | nil =>
        simp at hlen
        exact absurd (List.eq_nil_of_length_eq_zero hlen.symm) hnums
      | cons g gs => rfl
    have h2 : groups.any (·.isEmpty) = false := by
      rw [List.any_eq_false]
      intro g hg
      obtain ⟨num, hnum, hgn⟩ := (mapE_ok hm).2 g hg
      have := rowPairs_fix_nonempty cfg cs ls num g hgn (hne num hnum)
      cases g with
      | nil => exact absurd rfl this
      | cons x xs => simp
    simp only [hr, Bool.false_eq_true, if_false, h1, h2, Bool.or_self, fixReads, if_true]

theorem getIisFromList_plain (cfg : Cfg) (nums cols : List Int) (hn : nums ≠ []) (hc : cols ≠ []) :
    getIisFromList cfg nums cols = getIisFromList (fixReads cfg) nums cols := by
  unfold getIisFromList
  have : (nums.flatMap fun r => cols.map fun j => (r, j)).isEmpty = false := by
    cases nums with
    | nil => exact absurd rfl hn
    | cons x xs =>
      cases cols with
      | nil => exact absurd rfl hc
      | cons y ys => simp
  simp only [this, Bool.false_and, Bool.false_eq_true, if_false]

/-- on plain indices the unchanged helpers compute what the repaired helpers compute -/
theorem iis2d_plain (cfg : Cfg) (hr : cfg.readsFix = false) (ls : List Nat) (r : Sel) (c : CSel)
    (h : PlainIdx ls r c) : iis2d cfg ls r c = iis2d (fixReads cfg) ls r c := by
  obtain ⟨hrow, hsel⟩ := h
  have hfix : (fixReads cfg).readsFix = true := rfl
  cases r with
  | slice rs =>
    simp only at hrow
    have e1 := sliceToList_plain cfg ls.length rs hrow
    have e2 := sliceToList_fixed (fixReads cfg) hfix rs ls.length
    cases hn : specRowNums ls.length (.slice rs) with
    | error e =>
      cases c <;> simp only [iis2d, e1, e2, hn]
    | ok nums =>
      rw [hn] at hsel
      cases c with
      | slice cs =>
        simp only at hsel
        simp only [iis2d, e1, e2, hn]
        exact getIisFromSlices_plain cfg hr nums cs ls hsel.1 hsel.2.1 hsel.2.2
      | int j =>
        simp only at hsel
        simp only [iis2d, e1, e2, hn]
        exact getIisFromList_plain cfg nums [j] hsel (by simp)
      | list l =>
        simp only at hsel
        simp only [iis2d, e1, e2, hn]
        exact getIisFromList_plain cfg nums l hsel.1 hsel.2
  | list nums =>
    cases c with
    | slice cs =>
      simp only [specRowNums] at hsel
      simp only [iis2d]
      exact getIisFromSlices_plain cfg hr nums cs ls hsel.1 hsel.2.1 hsel.2.2
    | int j => rfl
    | list l => rfl

/-- **the unchanged code addresses the right cells on every plain 2-d index** -/
theorem idxAgree_plain (cfg : Cfg) {s : State α} (hc : Coherent s) (r : Sel) (c : CSel)
    (h : PlainIdx s.lengths r c) : IdxAgree cfg s r c := by
  by_cases hr : cfg.readsFix = true
  · exact idxAgree_fixed cfg hr hc r c
  · have hr' : cfg.readsFix = false := Bool.eq_false_iff.mpr hr
    have := idxAgree_fixed (fixReads cfg) rfl hc r c
    unfold IdxAgree flatIdx at this ⊢
    rw [iis2d_plain cfg hr' s.lengths r c h]
    exact this

/-- decidable form of "every selected row has a selected column" -/
def rowsNonEmptyB (ls : List Nat) (nums : List Int) (cs : PySlice) : Bool :=
  nums.all fun num => match lenAt ls num with
    | .ok l => (match pyIndices l cs with
      | .ok ix => !ix.isEmpty
      | .error _ => true)
    | .error _ => true

theorem rowsNonEmptyB_spec (ls : List Nat) (nums : List Int) (cs : PySlice)
    (h : rowsNonEmptyB ls nums cs = true) :
    ∀ num ∈ nums, ∀ l, lenAt ls num = .ok l → ∀ ix, pyIndices l cs = .ok ix → ix ≠ [] := by
  intro num hnum l hl ix hix
  unfold rowsNonEmptyB at h
  rw [List.all_eq_true] at h
  have := h num hnum
  simp only [hl, hix] at this
  intro hnil
  subst hnil
  simp at this

/-- decidable sufficient condition for `PlainIdx` -/
def plainIdxB (ls : List Nat) (r : Sel) (c : CSel) : Bool :=
  (match r with
    | .slice rs => decide (PlainRowSlice ls.length rs)
    | .list _ => true) &&
  (match specRowNums ls.length r with
    | .error _ => true
    | .ok nums =>
      match c with
      | .slice cs => decide (PlainColSlice cs) && !nums.isEmpty && rowsNonEmptyB ls nums cs
      | .int _ => !nums.isEmpty
      | .list l => !nums.isEmpty && !l.isEmpty)

theorem plainIdx_of_B (ls : List Nat) (r : Sel) (c : CSel) (h : plainIdxB ls r c = true) :
    PlainIdx ls r c := by
  unfold plainIdxB at h
  rw [Bool.and_eq_true] at h
  obtain ⟨h1, h2⟩ := h
  refine ⟨?_, ?_⟩
  · cases r with
    | slice rs => exact of_decide_eq_true h1
    | list l => trivial
  · cases hn : specRowNums ls.length r with
    | error e => trivial
    | ok nums =>
      rw [hn] at h2
      have hne : ∀ (l : List Int), (!l.isEmpty) = true → l ≠ [] := by
        intro l hl hnil; subst hnil; simp at hl
      cases c with
      | slice cs =>
        simp only [Bool.and_eq_true] at h2
        exact ⟨of_decide_eq_true h2.1.1, hne nums h2.1.2, rowsNonEmptyB_spec ls nums cs h2.2⟩
      | int j => exact hne nums h2
      | list l =>
        simp only [Bool.and_eq_true] at h2
        exact ⟨hne nums h2.1, hne l h2.2⟩

end RaggedW
end Ens
