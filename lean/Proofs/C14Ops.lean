import Proofs.C14Stripe
import Mathlib.Data.List.Nodup
/-!
Reassembly (`assembleStripedRagged`, `assembleStripedArray`) and the index conversions: the frames
held by the ranks (`localFrames`) are a bijective copy of `0 … sum L - 1`, `randind` is a
bijection, `ctr_ids_mpi` / `locate` invert `convertLocal`.
-/
namespace Ens.Mpi

variable {α β : Type}

theorem mem_stripeIdx (w : Nat) (hw : 0 < w) (n r i : Nat) (hr : r < w) :
    i ∈ stripeIdx w n r ↔ i < n ∧ i % w = r := by
  unfold stripeIdx
  rw [List.mem_iff_getElem?]
  constructor
  · rintro ⟨j, hj⟩
    rw [getElem?_stripe w hw] at hj
    have h1 : r + j * w < n := by
      by_contra hc
      rw [List.getElem?_eq_none (by simpa using Nat.le_of_not_lt hc)] at hj
      cases hj
    rw [List.getElem?_range h1] at hj
    injection hj with hj
    subst hj
    refine ⟨h1, ?_⟩
    rw [Nat.add_mul_mod_self_right, Nat.mod_eq_of_lt hr]
  · rintro ⟨hi, rfl⟩
    refine ⟨i / w, ?_⟩
    rw [getElem?_stripe_mod_div w hw, List.getElem?_range hi]

theorem assemble_ragged_ok (w : Nat) (hw : 0 < w) (L : List Nat) (hT : w ≤ L.length)
    (xs : List α) (hx : xs.length = L.sum) :
    assembleStripedRagged w L (fun r => (stripe w (splitBy L xs) r).flatten) = .ok xs := by
  have hrows : (splitBy L xs).map List.length = L := map_length_splitBy L xs (by omega)
  have hll : ∀ r, stripe w L r = (stripe w (splitBy L xs) r).map List.length := by
    intro r; rw [← stripe_map, hrows]
  have hpos : ∀ r, r < w → 0 < (stripe w (splitBy L xs) r).length := by
    intro r hr
    exact length_stripe_pos w hw _ r (by rw [length_splitBy]; omega)
  have herr : firstErr w (raggedErr w L fun r => (stripe w (splitBy L xs) r).flatten) = none := by
    rw [firstErr_eq_none]
    intro r hr
    have := hpos r hr
    unfold raggedErr
    simp only [hll r, List.length_map, List.length_flatten]
    by_cases h1 : (stripe w (splitBy L xs) r).length > 1
    · rw [if_pos h1, if_pos trivial]
    · rw [if_neg h1, if_pos (by omega)]
  have hrws : ∀ r, r < w → raggedRows w L (fun r => (stripe w (splitBy L xs) r).flatten) r
      = stripe w (splitBy L xs) r := by
    intro r hr
    have := hpos r hr
    unfold raggedRows
    simp only [hll r, List.length_map]
    by_cases h1 : (stripe w (splitBy L xs) r).length > 1
    · rw [if_pos h1]; exact splitBy_lengths_flatten _
    · obtain ⟨a, ha⟩ := List.length_eq_one_iff.mp (Nat.le_antisymm (Nat.le_of_not_lt h1) this)
      rw [if_neg h1, ha, List.flatten_cons, List.flatten_nil, List.append_nil]
  unfold assembleStripedRagged
  rw [herr]
  simp only
  rw [unstripe_congr w L.length hw _ _ hrws]
  have : L.length = (splitBy L xs).length := by simp
  rw [this, unstripe_stripe w hw, flatten_splitBy L xs (by omega)]

theorem localFrames_map (w : Nat) (L : List Nat) (f : Nat → α) (r : Nat) :
    (stripe w (splitBy L ((List.range L.sum).map f)) r).flatten = (localFrames w L r).map f := by
  unfold localFrames
  rw [splitBy_map, stripe_map, List.map_flatten]

theorem localFrames_perm (w : Nat) (hw : 0 < w) (L : List Nat) :
    ((List.range w).flatMap (localFrames w L)).Perm (List.range L.sum) := by
  have h := (stripe_perm w hw (splitBy L (List.range L.sum))).flatten
  rw [flatten_splitBy L _ (by simp)] at h
  have e : ((List.range w).flatMap fun r => stripe w (splitBy L (List.range L.sum)) r).flatten
      = (List.range w).flatMap (localFrames w L) := by
    simp only [List.flatMap_def, List.flatten_flatten, List.map_map]
    rfl
  rw [e] at h
  exact h

theorem convertLocal_ok_iff (w : Nat) (L : List Nat) (r i g : Nat) (hr : r < L.length) (hw : 0 < w) :
    convertLocal w L (r, i) = .ok g ↔ (localFrames w L r)[i]? = some g := by
  unfold convertLocal
  have : (stripe w L r).length ≠ 0 := by
    have := length_stripe_pos w hw L r hr; omega
  simp only [this, if_false]
  cases h : (localFrames w L r)[i]? <;> simp

theorem nodup_flatten_pair_inj {rows : List (List β)} (h : rows.flatten.Nodup)
    {r r' i i' : Nat} {a a' : List β} {b : β}
    (h1 : rows[r]? = some a) (h2 : a[i]? = some b) (h1' : rows[r']? = some a') (h2' : a'[i']? = some b) :
    r = r' ∧ i = i' := by
  rw [List.nodup_flatten] at h
  obtain ⟨hn, hp⟩ := h
  rw [List.pairwise_iff_getElem] at hp
  obtain ⟨hr, rfl⟩ := List.getElem?_eq_some_iff.mp h1
  obtain ⟨hr', rfl⟩ := List.getElem?_eq_some_iff.mp h1'
  have hb : b ∈ rows[r] := List.mem_of_getElem? h2
  have hb' : b ∈ rows[r'] := List.mem_of_getElem? h2'
  have hrr : r = r' := by
    rcases Nat.lt_trichotomy r r' with hlt | heq | hgt
    · exact absurd hb' ((hp r r' hr hr' hlt) hb)
    · exact heq
    · exact absurd hb ((hp r' r hr' hr hgt) hb')
  subst hrr
  refine ⟨rfl, ?_⟩
  have hnd : rows[r].Nodup := hn _ (List.getElem_mem hr)
  obtain ⟨hi, e1⟩ := List.getElem?_eq_some_iff.mp h2
  obtain ⟨hi', e2⟩ := List.getElem?_eq_some_iff.mp h2'
  exact (List.Nodup.getElem_inj_iff hnd).mp (e1.trans e2.symm)

theorem mem_flatten_iff_getElem? {rows : List (List β)} {b : β} :
    b ∈ rows.flatten ↔ ∃ (r : Nat) (a : List β) (i : Nat), rows[r]? = some a ∧ a[i]? = some b := by
  rw [List.mem_flatten]
  constructor
  · rintro ⟨a, ha, hb⟩
    obtain ⟨r, hr⟩ := List.mem_iff_getElem?.mp ha
    obtain ⟨i, hi⟩ := List.mem_iff_getElem?.mp hb
    exact ⟨r, a, i, hr, hi⟩
  · rintro ⟨r, a, i, hr, hi⟩
    exact ⟨a, List.mem_of_getElem? hr, List.mem_of_getElem? hi⟩

theorem localFrames_rows_nodup (w : Nat) (hw : 0 < w) (L : List Nat) :
    (((List.range w).map (localFrames w L)).flatten).Nodup := by
  rw [← List.flatMap_def]
  exact (localFrames_perm w hw L).nodup_iff.mpr List.nodup_range

/-- every global frame is held by exactly one `(rank, local index)` -/
theorem localFrames_bijective (w : Nat) (hw : 0 < w) (L : List Nat) :
    (∀ g, g < L.sum → ∃ (r i : Nat), r < w ∧ (localFrames w L r)[i]? = some g) ∧
    (∀ (r i r' i' g : Nat), r < w → r' < w → (localFrames w L r)[i]? = some g →
        (localFrames w L r')[i']? = some g → r = r' ∧ i = i') ∧
    (∀ (r i g : Nat), r < w → (localFrames w L r)[i]? = some g → g < L.sum) := by
  have hperm := localFrames_perm w hw L
  refine ⟨?_, ?_, ?_⟩
  · intro g hg
    have : g ∈ (List.range w).flatMap (localFrames w L) := hperm.mem_iff.mpr (List.mem_range.mpr hg)
    obtain ⟨r, hr, hm⟩ := List.mem_flatMap.mp this
    obtain ⟨i, hi⟩ := List.mem_iff_getElem?.mp hm
    exact ⟨r, i, List.mem_range.mp hr, hi⟩
  · intro r i r' i' g hr hr' h1 h2
    have hrow : ∀ r, r < w → ((List.range w).map (localFrames w L))[r]? = some (localFrames w L r) := by
      intro r hr; simp [hr]
    exact nodup_flatten_pair_inj (localFrames_rows_nodup w hw L) (hrow r hr) h1 (hrow r' hr') h2
  · intro r i g hr h
    have : g ∈ (List.range w).flatMap (localFrames w L) :=
      List.mem_flatMap.mpr ⟨r, List.mem_range.mpr hr, List.mem_of_getElem? h⟩
    exact List.mem_range.mp (hperm.mem_iff.mp this)

theorem findRC_some {rows : List (List Nat)} {g r i : Nat} (h : findRC rows g = some (r, i)) :
    ∃ a, rows[r]? = some a ∧ a[i]? = some g := by
  induction rows generalizing r with
  | nil => simp [findRC] at h
  | cons row rows ih =>
    unfold findRC at h
    cases hx : row.idxOf? g with
    | some j =>
      rw [hx] at h
      simp only [Option.some.injEq, Prod.mk.injEq] at h
      obtain ⟨rfl, rfl⟩ := h
      refine ⟨row, by simp, ?_⟩
      obtain ⟨hj, hje, _⟩ := List.idxOf?_eq_some_iff.mp hx
      rw [List.getElem?_eq_getElem hj, hje]
    | none =>
      rw [hx] at h
      simp only [Option.map_eq_some_iff] at h
      obtain ⟨⟨r0, i0⟩, hp, he⟩ := h
      simp only [Prod.mk.injEq] at he
      obtain ⟨rfl, rfl⟩ := he
      obtain ⟨a, ha, hg⟩ := ih hp
      exact ⟨a, by simpa using ha, hg⟩

theorem findRC_isSome {rows : List (List Nat)} {g : Nat} (h : g ∈ rows.flatten) :
    ∃ p, findRC rows g = some p := by
  induction rows with
  | nil => simp at h
  | cons row rows ih =>
    unfold findRC
    cases hx : row.idxOf? g with
    | some j => exact ⟨_, rfl⟩
    | none =>
      have hnot : g ∉ row := List.idxOf?_eq_none_iff.mp hx
      simp only [List.flatten_cons, List.mem_append] at h
      rcases h with h | h
      · exact absurd h hnot
      · obtain ⟨p, hp⟩ := ih h
        exact ⟨_, by rw [hp]; rfl⟩

theorem findRC_eq_some_iff {rows : List (List Nat)} (hnd : rows.flatten.Nodup) {g r i : Nat} :
    findRC rows g = some (r, i) ↔ ∃ a, rows[r]? = some a ∧ a[i]? = some g := by
  refine ⟨findRC_some, fun ⟨a, ha, hi⟩ => ?_⟩
  obtain ⟨⟨r', i'⟩, hp⟩ := findRC_isSome (mem_flatten_iff_getElem?.mpr ⟨r, a, i, ha, hi⟩)
  obtain ⟨a', ha', hi'⟩ := findRC_some hp
  obtain ⟨rfl, rfl⟩ := nodup_flatten_pair_inj hnd ha' hi' ha hi
  exact hp

theorem randindTable_perm (lens : List Nat) (hw : 0 < lens.length) :
    (randindTable lens).flatten.Perm (List.range lens.sum) ∧
    (randindTable lens).map List.length = lens := by
  unfold randindTable
  have hp := stripe_perm lens.length hw (List.range lens.sum)
  have hl : ((List.range lens.length).flatMap fun r => stripeIdx lens.length lens.sum r).length = lens.sum := by
    have := hp.length_eq
    simpa [stripeIdx] using this
  constructor
  · simp only
    rw [flatten_splitBy _ _ (by omega)]
    exact hp
  · exact map_length_splitBy _ _ (by omega)

theorem randind_ok_iff (lens : List Nat) (hN : 1 ≤ lens.sum) (g r i : Nat) :
    randind lens g = .ok (r, i) ↔ findRC (randindTable lens) g = some (r, i) := by
  unfold randind
  have : ¬ lens.sum < 1 := by omega
  simp only [this, if_false]
  cases h : findRC (randindTable lens) g <;> simp

/-- the draw `g ↦ (owner, local index)` is a bijection from `0 … N-1` onto the elements of
    the striped array, whatever the local lengths (packed or not) -/
theorem randind_bijective (lens : List Nat) (hw : 0 < lens.length) (hN : 1 ≤ lens.sum) :
    (∀ g, g < lens.sum → ∃ (r i l : Nat), randind lens g = .ok (r, i) ∧ lens[r]? = some l ∧ i < l) ∧
    (∀ (g g' : Nat) (p : Nat × Nat), randind lens g = .ok p → randind lens g' = .ok p → g = g') ∧
    (∀ (r i l : Nat), lens[r]? = some l → i < l → ∃ g, g < lens.sum ∧ randind lens g = .ok (r, i)) := by
  obtain ⟨hperm, hlen⟩ := randindTable_perm lens hw
  have hiff : ∀ g r i, randind lens g = .ok (r, i) ↔
      ∃ a, (randindTable lens)[r]? = some a ∧ a[i]? = some g := fun g r i =>
    (randind_ok_iff lens hN g r i).trans (findRC_eq_some_iff (hperm.nodup_iff.mpr List.nodup_range))
  have hmem : ∀ g, g < lens.sum ↔ ∃ r a i, (randindTable lens)[r]? = some a ∧ a[i]? = some g := fun g => by
    rw [← List.mem_range, ← hperm.mem_iff, mem_flatten_iff_getElem?]
  have hrowlen : ∀ (r : Nat) (a : List Nat), (randindTable lens)[r]? = some a → lens[r]? = some a.length := by
    intro r a ha
    rw [← hlen, List.getElem?_map, ha]; rfl
  refine ⟨?_, ?_, ?_⟩
  · intro g hg
    obtain ⟨r, a, i, ha, hi⟩ := (hmem g).mp hg
    exact ⟨r, i, a.length, (hiff g r i).mpr ⟨a, ha, hi⟩, hrowlen r a ha, (List.getElem?_eq_some_iff.mp hi).1⟩
  · rintro g g' ⟨r, i⟩ h1 h2
    obtain ⟨a, ha, hi⟩ := (hiff g r i).mp h1
    obtain ⟨a', ha', hi'⟩ := (hiff g' r i).mp h2
    cases ha.symm.trans ha'
    exact Option.some.inj (hi.symm.trans hi')
  · intro r i l hl hi
    have hr : r < (randindTable lens).length := by
      rw [← List.length_map (f := List.length), hlen]; exact (List.getElem?_eq_some_iff.mp hl).1
    have ha := List.getElem?_eq_getElem hr
    have hi2 : i < ((randindTable lens)[r]).length := by
      rw [Option.some.inj ((hrowlen r _ ha).symm.trans hl)]; exact hi
    have hg := List.getElem?_eq_getElem hi2
    exact ⟨_, (hmem _).mpr ⟨r, _, i, ha, hg⟩, (hiff _ r i).mpr ⟨_, ha, hg⟩⟩

theorem getElem?_flatten_offset (S : List (List β)) (j f : Nat) (a : List β)
    (hj : S[j]? = some a) (hf : f < a.length) :
    S.flatten[((S.take j).map List.length).sum + f]? = a[f]? := by
  induction S generalizing j with
  | nil => cases hj
  | cons b S ih =>
    cases j with
    | zero =>
      cases hj
      rw [List.take_zero, List.map_nil, List.sum_nil, Nat.zero_add, List.flatten_cons,
        List.getElem?_append_left hf]
    | succ j =>
      rw [List.flatten_cons, List.take_succ_cons, List.map_cons, List.sum_cons, Nat.add_assoc,
        List.getElem?_append_right (Nat.le_add_right _ _), Nat.add_sub_cancel_left]
      exact ih j hj

theorem getElem?_splitBy (L : List Nat) (xs : List β) (t l : Nat) (ht : L[t]? = some l) :
    (splitBy L xs)[t]? = some ((xs.drop (L.take t).sum).take l) := by
  induction L generalizing xs t with
  | nil => simp at ht
  | cons l0 ls ih =>
    cases t with
    | zero =>
      simp only [List.getElem?_cons_zero, Option.some.injEq] at ht
      subst ht
      simp [splitBy]
    | succ t =>
      simp only [List.getElem?_cons_succ] at ht
      simp only [splitBy, List.getElem?_cons_succ, List.take_succ_cons, List.sum_cons]
      rw [ih _ t ht, List.drop_drop]

theorem sum_take_add_le (L : List Nat) (t l : Nat) (ht : L[t]? = some l) :
    (L.take t).sum + l ≤ L.sum := by
  induction L generalizing t with
  | nil => cases ht
  | cons l0 ls ih =>
    cases t with
    | zero =>
      cases ht
      rw [List.take_zero, List.sum_nil, List.sum_cons, Nat.zero_add]
      exact Nat.le_add_right _ _
    | succ t =>
      rw [List.take_succ_cons, List.sum_cons, List.sum_cons, Nat.add_assoc]
      exact Nat.add_le_add_left (ih t ht) _

theorem localFrames_getElem?_offset (w : Nat) (hw : 0 < w) (L : List Nat) (t f l : Nat)
    (ht : L[t]? = some l) (hf : f < l) :
    (localFrames w L (t % w))[((stripe w L (t % w)).take (t / w)).sum + f]? = some ((L.take t).sum + f) := by
  unfold localFrames
  have hS : (stripe w (splitBy L (List.range L.sum)) (t % w))[t / w]? =
      some (((List.range L.sum).drop (L.take t).sum).take l) := by
    rw [getElem?_stripe_mod_div w hw]; exact getElem?_splitBy L _ t l ht
  have hle := sum_take_add_le L t l ht
  have hlen : (((List.range L.sum).drop (L.take t).sum).take l).length = l := by
    rw [List.length_take, List.length_drop, List.length_range]
    exact Nat.min_eq_left (Nat.le_sub_of_add_le' hle)
  have hll : stripe w L (t % w) = (stripe w (splitBy L (List.range L.sum)) (t % w)).map List.length := by
    rw [← stripe_map, map_length_splitBy L _ (by simp)]
  rw [hll, ← List.map_take, getElem?_flatten_offset _ (t / w) f _ hS (hlen.symm ▸ hf),
    List.getElem?_take_of_lt hf, List.getElem?_drop,
    List.getElem?_range (Nat.lt_of_lt_of_le (Nat.add_lt_add_left hf _) hle)]

/-- `(traj t, frame f)` ↦ `(rank, local index)` ↦ global frame id is `offset t + f` -/
theorem ctrIdMpi_inverse (w : Nat) (hw : 0 < w) (L : List Nat) (t f l : Nat)
    (ht : L[t]? = some l) (hf : f < l) :
    ∃ p, ctrIdMpi w L (t, f) = .ok p ∧ p.1 < w ∧ convertLocal w L p = .ok ((L.take t).sum + f) := by
  have hown : (stripe w L (t % w))[t / w]? = some l := by
    rw [getElem?_stripe_mod_div w hw]; exact ht
  refine ⟨(t % w, ((stripe w L (t % w)).take (t / w)).sum + f), ?_, Nat.mod_lt t hw, ?_⟩
  · unfold ctrIdMpi
    simp only [hown, hf, if_true]
  · rw [convertLocal_ok_iff w L _ _ _ (Nat.lt_of_le_of_lt (Nat.mod_le t w) (List.getElem?_eq_some_iff.mp ht).1) hw]
    exact localFrames_getElem?_offset w hw L t f l ht hf

theorem locate_spec (L : List Nat) (g : Nat) (hg : g < L.sum) :
    ∃ t f l, locate L g = some (t, f) ∧ L[t]? = some l ∧ f < l ∧ (L.take t).sum + f = g := by
  induction L generalizing g with
  | nil => exact absurd hg (Nat.not_lt_zero _)
  | cons l0 ls ih =>
    unfold locate
    by_cases h : g < l0
    · exact ⟨0, g, l0, if_pos h, rfl, h, Nat.zero_add g⟩
    · rw [if_neg h]
      have hle := Nat.le_of_not_lt h
      rw [List.sum_cons] at hg
      obtain ⟨t, f, l, h1, h2, h3, h4⟩ := ih (g - l0) (Nat.sub_lt_left_of_lt_add hle hg)
      refine ⟨t + 1, f, l, by rw [h1]; rfl, h2, h3, ?_⟩
      rw [List.take_succ_cons, List.sum_cons, Nat.add_assoc, h4, Nat.add_sub_cancel' hle]

theorem locate_none (L : List Nat) (g : Nat) (hg : L.sum ≤ g) : locate L g = none := by
  induction L generalizing g with
  | nil => rfl
  | cons l0 ls ih =>
    rw [List.sum_cons] at hg
    rw [locate, if_neg (Nat.not_lt.mpr (Nat.le_trans (Nat.le_add_right _ _) hg)),
      ih (g - l0) (Nat.le_sub_of_add_le' hg)]
    rfl

/-- a flat global frame id is sent to a `(rank, local index)` that converts back to it -/
theorem ctrIdMpi_flat_inverse (w : Nat) (hw : 0 < w) (L : List Nat) (g : Nat) (hg : g < L.sum) :
    ∃ p, ctrIdsMpiFlat w L [g] = .ok [p] ∧ p.1 < w ∧ convertLocal w L p = .ok g := by
  obtain ⟨t, f, l, h1, h2, h3, h4⟩ := locate_spec L g hg
  obtain ⟨p, hp, hpw, hc⟩ := ctrIdMpi_inverse w hw L t f l h2 h3
  refine ⟨p, ?_, hpw, by rw [hc, h4]⟩
  unfold ctrIdsMpiFlat
  simp only [List.mapM_cons, List.mapM_nil, h1, hp]
  rfl

theorem length_stripe_congr {β γ : Type} (w : Nat) (xs : List β) (ys : List γ) (h : xs.length = ys.length) (r : Nat) :
    (stripe w xs r).length = (stripe w ys r).length := by
  induction xs generalizing ys r with
  | nil =>
    cases ys with
    | nil => simp
    | cons y ys => simp at h
  | cons x xs ih =>
    cases ys with
    | nil => simp at h
    | cons y ys =>
      have h' : xs.length = ys.length := by simpa using h
      cases r with
      | zero => simp only [stripe, List.length_cons, ih ys h']
      | succ r => simp only [stripe]; exact ih ys h' r

theorem stripe_one (xs : List β) : stripe 1 xs 0 = xs := by
  induction xs with
  | nil => rfl
  | cons a l ih => simp only [stripe]; rw [ih]

theorem sumTo_length_stripe (w : Nat) (hw : 0 < w) (xs : List β) :
    Ens.sumTo w (fun r => (stripe w xs r).length) = xs.length := by
  have h := (stripe_perm w hw xs).length_eq
  rw [List.length_flatMap] at h
  rw [← h]
  exact sumTo_eq_sum_map w _

theorem firstErr_eq_some {w : Nat} {chk : Nat → Option Err} {e : Err} (r0 : Nat) (hr0 : r0 < w)
    (h0 : chk r0 = some e) (hall : ∀ r, r < w → chk r = none ∨ chk r = some e) : firstErr w chk = some e := by
  unfold firstErr
  cases hf : (List.range w).findSome? chk with
  | none =>
    rw [List.findSome?_eq_none_iff] at hf
    have := hf r0 (List.mem_range.mpr hr0)
    rw [h0] at this; cases this
  | some e' =>
    obtain ⟨r, hr, he⟩ := List.exists_of_findSome?_eq_some hf
    rcases hall r (List.mem_range.mp hr) with h | h
    · rw [h] at he; cases he
    · rw [h] at he; exact he.symm ▸ rfl

/-- gathering the stripes of a positive integer array gives the array back on every rank;
    a non-positive entry raises ImproperlyConfigured (world size > 1) -/
theorem assembleStripedArray_stripes (w : Nat) (hw : 0 < w) (xs : List Int) :
    ((∀ x ∈ xs, 0 < x) → assembleStripedArray w (fun r => stripe w xs r) = .ok xs) ∧
    (w ≠ 1 → (∃ x ∈ xs, x ≤ 0) →
      assembleStripedArray w (fun r => stripe w xs r) = .error .improperlyConfigured) := by
  constructor
  · intro hpos
    have e1 : firstErr w (fun r => if (stripe w xs r).all (fun x => decide (0 < x)) then none
        else some Err.improperlyConfigured) = none :=
      firstErr_eq_none.mpr fun r _ =>
        if_pos (List.all_eq_true.mpr fun x hx => decide_eq_true (hpos x (mem_stripe hx)))
    have e2 : firstErr w (fun r => if (stripe w xs r).length = (stripeIdx w xs.length r).length then none
        else some Err.valueError) = none :=
      firstErr_eq_none.mpr fun r _ => if_pos (length_stripe_congr w xs (List.range xs.length) (by simp) r)
    unfold assembleStripedArray
    by_cases h1 : w = 1
    · subst h1; simp only [if_true, stripe_one]
    · simp only [h1, if_false]
      rw [sumTo_length_stripe w hw xs]
      simp only [e1, e2, unstripe_stripe w hw xs]
  · rintro h1 ⟨x, hx, hx0⟩
    obtain ⟨r0, hr0, hxr⟩ := List.mem_flatMap.mp ((stripe_perm w hw xs).mem_iff.mpr hx)
    have e1 : firstErr w (fun r => if (stripe w xs r).all (fun x => decide (0 < x)) then none
        else some Err.improperlyConfigured) = some Err.improperlyConfigured :=
      firstErr_eq_some r0 (List.mem_range.mp hr0)
        (if_neg fun hall => absurd (of_decide_eq_true (List.all_eq_true.mp hall x hxr)) (Int.not_lt.mpr hx0))
        (fun r _ => ite_eq_or_eq _ _ _)
    unfold assembleStripedArray
    simp only [h1, if_false, e1]

end Ens.Mpi
