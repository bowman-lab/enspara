import Model.Store
import Proofs.Basic
/-!
C15, part 3: cell writes into a buffer.

Every cell of the result buffer is written exactly once (the windows are disjoint and tile
`[0, total)`), hence *any* permutation of the individual cell writes — in particular any
interleaving of the workers' window writes and any completion order — leaves the buffer equal
to the concatenation.  Core Lean only.
-/
namespace Ens.Store

variable {β : Type}

theorem runCells_nil (buf : Nat → β) : runCells [] buf = buf := rfl

theorem runCells_cons (c : Nat × β) (cs : List (Nat × β)) (buf : Nat → β) :
    runCells (c :: cs) buf = runCells cs (setCell buf c) := rfl

theorem runCells_append (a b : List (Nat × β)) (buf : Nat → β) :
    runCells (a ++ b) buf = runCells b (runCells a buf) :=
  List.foldl_append

theorem runCells_untouched : ∀ (cells : List (Nat × β)) (buf : Nat → β) (k : Nat),
    (∀ c ∈ cells, c.1 ≠ k) → runCells cells buf k = buf k
  | [], _, _, _ => rfl
  | c :: cs, buf, k, h => by
    rw [runCells_cons, runCells_untouched cs _ k (fun d hd => h d (by simp [hd]))]
    have : c.1 ≠ k := h c (by simp)
    simp only [setCell]
    rw [if_neg (fun e => this e.symm)]

/-- a position written exactly once holds the written value, wherever the write occurs -/
theorem runCells_written : ∀ (cells : List (Nat × β)) (buf : Nat → β) (p : Nat) (x : β),
    (cells.map (·.1)).Nodup → (p, x) ∈ cells → runCells cells buf p = x
  | [], _, _, _, _, h => by simp at h
  | c :: cs, buf, p, x, hnd, hmem => by
    rw [List.map_cons, List.nodup_cons] at hnd
    rw [runCells_cons]
    rcases List.mem_cons.mp hmem with heq | htail
    · subst heq
      rw [runCells_untouched cs _ p]
      · simp [setCell]
      · intro d hd hp
        exact hnd.1 (List.mem_map.mpr ⟨d, hd, hp⟩)
    · exact runCells_written cs _ p x hnd.2 htail

/-- **order independence of cell writes**: two arrangements of the same writes, no position
written twice, give the same buffer. -/
theorem runCells_perm {c1 c2 : List (Nat × β)} (hp : c1.Perm c2) (hnd : (c1.map (·.1)).Nodup)
    (buf : Nat → β) : runCells c1 buf = runCells c2 buf := by
  funext k
  have hnd2 : (c2.map (·.1)).Nodup := (hp.map _).nodup_iff.mp hnd
  by_cases h : ∃ c ∈ c1, c.1 = k
  · obtain ⟨⟨p, x⟩, hc, hk⟩ := h
    simp only at hk
    subst hk
    rw [runCells_written c1 buf p x hnd hc, runCells_written c2 buf p x hnd2 (hp.subset hc)]
  · have h1 : ∀ c ∈ c1, c.1 ≠ k := fun c hc e => h ⟨c, hc, e⟩
    have h2 : ∀ c ∈ c2, c.1 ≠ k := fun c hc e => h ⟨c, hp.symm.subset hc, e⟩
    rw [runCells_untouched c1 buf k h1, runCells_untouched c2 buf k h2]

theorem blockCells_positions (pos : Nat) (xs : List β) :
    (blockCells pos xs).map (·.1) = List.range' pos xs.length := by
  unfold blockCells
  rw [List.map_map]
  have : ((fun (c : Nat × β) => c.1) ∘ fun (x : β × Nat) => (x.2, x.1)) = Prod.snd := by
    funext x; rfl
  rw [this, List.zipIdx_map_snd]

theorem blockCells_nodup (pos : Nat) (xs : List β) : ((blockCells pos xs).map (·.1)).Nodup := by
  rw [blockCells_positions]
  exact List.nodup_range'

theorem mem_blockCells {pos p : Nat} {x : β} {xs : List β} :
    (p, x) ∈ blockCells pos xs ↔ pos ≤ p ∧ xs[p - pos]? = some x := by
  unfold blockCells
  rw [List.mem_map]
  constructor
  · rintro ⟨⟨y, q⟩, hm, heq⟩
    simp only [Prod.mk.injEq] at heq
    obtain ⟨rfl, rfl⟩ := heq
    exact List.mem_zipIdx_iff_le_and_getElem?_sub.mp hm
  · intro h
    exact ⟨(x, p), List.mem_zipIdx_iff_le_and_getElem?_sub.mpr h, rfl⟩

theorem blockCells_append (pos : Nat) (xs ys : List β) :
    blockCells pos (xs ++ ys) = blockCells pos xs ++ blockCells (pos + xs.length) ys := by
  simp [blockCells, List.zipIdx_append]

/-- **reading back**: after any arrangement of the cell writes of `flat` (each cell once), the
first `|flat|` cells of the buffer are `flat`, whatever the buffer held before. -/
theorem tabulate_runCells (flat : List β) (cells : List (Nat × β)) (hp : cells.Perm (blockCells 0 flat))
    (buf : Nat → β) : (List.range flat.length).map (runCells cells buf) = flat := by
  have hnd : (cells.map (·.1)).Nodup := (hp.map _).nodup_iff.mpr (blockCells_nodup 0 flat)
  apply List.ext_getElem
  · simp
  · intro i h1 h2
    simp only [List.getElem_map, List.getElem_range]
    apply runCells_written cells buf i flat[i] hnd
    apply hp.symm.subset
    rw [mem_blockCells]
    exact ⟨Nat.zero_le _, by simp [h2]⟩

theorem writeWindow_ok (total : Nat) (buf : Nat → β) (pos : Nat) (xs : List β)
    (h : pos + xs.length ≤ total) :
    writeWindow total buf pos xs = .ok (runCells (blockCells pos xs) buf) := by
  simp [writeWindow, h]

/-- a write that is clipped by the end of the buffer: error, or (one frame into an empty
window) nothing happens -/
theorem writeWindow_clipped (total : Nat) (buf : Nat → β) (pos : Nat) (xs : List β)
    (h : total < pos + xs.length) :
    writeWindow total buf pos xs = if xs.length = 1 then .ok buf else .error .valueError := by
  simp [writeWindow, Nat.not_le.mpr h]

/-- the sequential fill of `ra.load` performs exactly the cell writes of the concatenation -/
theorem fillSeq_ok (total : Nat) : ∀ (xss : List (List β)) (start : Nat) (buf : Nat → β),
    start + xss.flatten.length ≤ total →
    fillSeq total xss start buf = .ok (runCells (blockCells start xss.flatten) buf)
  | [], _, _, _ => rfl
  | xs :: rest, start, buf, h => by
    rw [List.flatten_cons, List.length_append, ← Nat.add_assoc] at h
    rw [fillSeq, writeWindow_ok total buf start xs (Nat.le_trans (Nat.le_add_right _ _) h), List.flatten_cons,
      blockCells_append, runCells_append]
    exact fillSeq_ok total rest (start + xs.length) _ h

theorem rowsOf_flatten : ∀ (xss : List (List β)), rowsOf xss.flatten (xss.map List.length) = xss
  | [] => rfl
  | xs :: rest => by
    simp only [List.flatten_cons, List.map_cons, rowsOf, List.take_left', List.drop_left']
    rw [rowsOf_flatten rest]

end Ens.Store
