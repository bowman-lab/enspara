import Proofs.C02Order

/-! The `while` loop of `kcenters`: one iteration, then the fuelled `loop` through its equations and,
for successful runs, through the fuel-free relation `Run`. -/
namespace Ens.KC

theorem update_dist (n : Nat) (s : St) (cand : Nat → ERat) (c f : Nat) :
    (update n s cand c).dist f = if ltE (cand f) (s.dist f) then cand f else s.dist f := by
  simp only [update, look_tab]

theorem update_assign (n : Nat) (s : St) (cand : Nat → ERat) (c f : Nat) :
    (update n s cand c).assign f =
      if ltE (cand f) (s.dist f) then (s.ctrInds.length : Int) else s.assign f := by
  simp only [update, look_tab]

@[simp] theorem update_ctrInds (n : Nat) (s : St) (cand : Nat → ERat) (c : Nat) :
    (update n s cand c).ctrInds = s.ctrInds ++ [c] := rfl

@[simp] theorem update_centers (n : Nat) (s : St) (cand : Nat → ERat) (c : Nat) :
    (update n s cand c).centers = s.centers ++ [c] := rfl

theorem update_dist_min (n : Nat) (s : St) (cand : Nat → ERat) (c f : Nat) :
    toWT ((update n s cand c).dist f) = min (toWT (cand f)) (toWT (s.dist f)) := by
  rw [update_dist, toWT_ite_ltE]

theorem update_dist_le (n : Nat) (s : St) (cand : Nat → ERat) (c f : Nat) :
    toWT ((update n s cand c).dist f) ≤ toWT (s.dist f) := by
  rw [update_dist_min]; exact min_le_right _ _

theorem iter_ok {D : Table} {n : Nat} {tri : Bool} {s s' : St} (h : iter D n tri s = .ok s') :
    ∃ cand : Nat → ERat, s' = update n s cand (argmaxE n s.dist) ∧
      ∀ f, cand f = some (D f (argmaxE n s.dist)) ∨ cand f = s.dist f := by
  unfold iter at h
  split at h
  · unfold iterTri at h
    split at h
    · injection h with h
      refine ⟨triCand D s (argmaxE n s.dist), h.symm, fun f => ?_⟩
      unfold triCand
      split
      · split
        · exact Or.inl rfl
        · exact Or.inr rfl
      · exact Or.inr rfl
    · cases h
  · injection h with h
    exact ⟨fun f => some (D f (argmaxE n s.dist)), h.symm, fun f => Or.inl rfl⟩

theorem iter_plain (D : Table) (n : Nat) (s : St) : iter D n false s = .ok (iterPlain D n s) := by
  simp [iter]

theorem iter_ne_outOfFuel (D : Table) (n : Nat) (tri : Bool) (s : St) :
    iter D n tri s ≠ .error .outOfFuel := by
  unfold iter iterTri
  split
  · split <;> nofun
  · nofun

theorem iter_ctrInds {D : Table} {n : Nat} {tri : Bool} {s s' : St} (h : iter D n tri s = .ok s') :
    s'.ctrInds = s.ctrInds ++ [argmaxE n s.dist] := by
  obtain ⟨cand, rfl, _⟩ := iter_ok h; rfl

theorem iter_centers {D : Table} {n : Nat} {tri : Bool} {s s' : St} (h : iter D n tri s = .ok s') :
    s'.centers = s.centers ++ [argmaxE n s.dist] := by
  obtain ⟨cand, rfl, _⟩ := iter_ok h; rfl

theorem iter_dist_le {D : Table} {n : Nat} {tri : Bool} {s s' : St} (h : iter D n tri s = .ok s')
    (f : Nat) : toWT (s'.dist f) ≤ toWT (s.dist f) := by
  obtain ⟨cand, rfl, _⟩ := iter_ok h; exact update_dist_le _ _ _ _ _

theorem radius_ge (n : Nat) (s : St) (f : Nat) (hf : f < n) : toWT (s.dist f) ≤ toWT (radius n s) :=
  argmaxE_max n s.dist f hf

theorem radius_mono {n : Nat} (hn : 0 < n) {s s' : St}
    (h : ∀ f, f < n → toWT (s'.dist f) ≤ toWT (s.dist f)) : toWT (radius n s') ≤ toWT (radius n s) := by
  have hlt := argmaxE_lt hn s'.dist
  exact le_trans (h _ hlt) (radius_ge n s _ hlt)

theorem radius_congr {n : Nat} {s t : St} (h : ∀ f, f < n → s.dist f = t.dist f) (hn : 0 < n) :
    radius n s = radius n t := by
  unfold radius
  rw [argmaxE_congr n s.dist t.dist h]
  exact h _ (argmaxE_lt hn t.dist)

theorem iterN_succ {D : Table} {n : Nat} {tri : Bool} (j : Nat) {s s1 : St}
    (h : iter D n tri s = .ok s1) : iterN D n tri (j+1) s = iterN D n tri j s1 := by
  rw [iterN, h]

theorem iterN_inv {D : Table} {n : Nat} {tri : Bool} (P : St → Prop)
    (step : ∀ s s', P s → iter D n tri s = .ok s' → P s') :
    ∀ (j : Nat) (s sj : St), P s → iterN D n tri j s = .ok sj → P sj := by
  intro j
  induction j with
  | zero =>
    intro s sj hP h
    injection h with h
    exact h ▸ hP
  | succ j ih =>
    intro s sj hP h
    cases h1 : iter D n tri s with
    | error e => rw [iterN, h1] at h; cases h
    | ok s1 => exact ih s1 sj (step s s1 hP h1) (iterN_succ j h1 ▸ h)

section loop
variable {D : Table} {n : Nat} {tri : Bool} {nc : Option Int} {cut : ERat}

theorem loop_stop (fuel : Nat) {s : St} (hg : guard nc cut n s = false) :
    loop D n tri nc cut fuel s = .ok (s, []) := by
  cases fuel <;> simp [loop, hg]

theorem loop_zero {s : St} (hg : guard nc cut n s = true) :
    loop D n tri nc cut 0 s = .error .outOfFuel := by
  simp [loop, hg]

theorem loop_iter_error (fuel : Nat) {s : St} {e : Err} (hg : guard nc cut n s = true)
    (hi : iter D n tri s = .error e) : loop D n tri nc cut (fuel+1) s = .error e := by
  simp [loop, hg, hi]

theorem loop_step (fuel : Nat) {s s1 : St} (hg : guard nc cut n s = true)
    (hi : iter D n tri s = .ok s1) :
    loop D n tri nc cut (fuel+1) s =
      (loop D n tri nc cut fuel s1).map (fun p => (p.1, (argmaxE n s.dist, radius n s) :: p.2)) := by
  rw [loop, if_pos hg, hi]
  dsimp only
  rcases loop D n tri nc cut fuel s1 with e | ⟨sf, tr⟩ <;> rfl

/-- A finished run of the `while` loop from `s`: the final state and the trace, without the fuel.
The guard held before each executed iteration and fails at the end. -/
inductive Run (D : Table) (n : Nat) (tri : Bool) (nc : Option Int) (cut : ERat) :
    St → St → List (Nat × ERat) → Prop
  | stop {s : St} : guard nc cut n s = false → Run D n tri nc cut s s []
  | step {s s1 sf : St} {tr : List (Nat × ERat)} : guard nc cut n s = true →
      iter D n tri s = .ok s1 → Run D n tri nc cut s1 sf tr →
      Run D n tri nc cut s sf ((argmaxE n s.dist, radius n s) :: tr)

theorem loop_ok_run : ∀ (fuel : Nat) {s sf : St} {tr : List (Nat × ERat)},
    loop D n tri nc cut fuel s = .ok (sf, tr) → Run D n tri nc cut s sf tr := by
  intro fuel
  induction fuel with
  | zero =>
    intro s sf tr h
    cases hg : guard nc cut n s with
    | true => rw [loop_zero hg] at h; cases h
    | false => rw [loop_stop _ hg] at h; cases h; exact .stop hg
  | succ fuel ih =>
    intro s sf tr h
    cases hg : guard nc cut n s with
    | false => rw [loop_stop _ hg] at h; cases h; exact .stop hg
    | true =>
      cases hi : iter D n tri s with
      | error e => rw [loop_iter_error _ hg hi] at h; cases h
      | ok s1 =>
        rw [loop_step _ hg hi] at h
        cases hl : loop D n tri nc cut fuel s1 with
        | error e => rw [hl] at h; cases h
        | ok p => rw [hl] at h; cases h; exact .step hg hi (ih hl)

namespace Run
variable {s sf : St} {tr : List (Nat × ERat)}

theorem guard_final (h : Run D n tri nc cut s sf tr) : guard nc cut n sf = false := by
  induction h with
  | stop hg => exact hg
  | step _ _ _ ih => exact ih

theorem iterN_final (h : Run D n tri nc cut s sf tr) : iterN D n tri tr.length s = .ok sf := by
  induction h with
  | stop _ => rfl
  | step _ hi _ ih => exact (iterN_succ _ hi).trans ih

theorem lists (h : Run D n tri nc cut s sf tr) :
    sf.ctrInds = s.ctrInds ++ tr.map Prod.fst ∧ sf.centers = s.centers ++ tr.map Prod.fst := by
  induction h with
  | stop _ => exact ⟨(List.append_nil _).symm, (List.append_nil _).symm⟩
  | step _ hi _ ih =>
    rw [ih.1, ih.2, iter_ctrInds hi, iter_centers hi, List.append_assoc, List.append_assoc]
    exact ⟨rfl, rfl⟩

/-- the state before the `j`-th executed iteration -/
theorem before (h : Run D n tri nc cut s sf tr) : ∀ (j : Nat) (hj : j < tr.length),
    ∃ sj, iterN D n tri j s = .ok sj ∧ guard nc cut n sj = true ∧
      tr[j] = (argmaxE n sj.dist, radius n sj) ∧
      sj.ctrInds = s.ctrInds ++ (tr.map Prod.fst).take j ∧
      sj.centers = s.centers ++ (tr.map Prod.fst).take j := by
  induction h with
  | stop _ => intro j hj; exact absurd hj (Nat.not_lt_zero _)
  | step hg hi _ ih =>
    intro j hj
    cases j with
    | zero => exact ⟨_, rfl, hg, rfl, (List.append_nil _).symm, (List.append_nil _).symm⟩
    | succ j =>
      obtain ⟨sj, h1, h2, h3, h4, h5⟩ := ih j (Nat.lt_of_succ_lt_succ hj)
      refine ⟨sj, (iterN_succ _ hi).trans h1, h2, h3, ?_, ?_⟩
      · rw [h4, iter_ctrInds hi, List.append_assoc]; rfl
      · rw [h5, iter_centers hi, List.append_assoc]; rfl

theorem head (h : Run D n tri nc cut s sf tr) {c : Nat} (hc : (tr.map Prod.fst).head? = some c) :
    c = argmaxE n s.dist := by
  cases h with
  | stop _ => cases hc
  | step _ _ _ => injection hc with hc; exact hc.symm

theorem nil (h : Run D n tri nc cut s sf tr) :
    (tr = [] ↔ guard nc cut n s = false) ∧ (tr = [] → sf = s) := by
  cases h with
  | stop hg => simp [hg]
  | step hg _ _ => simp [hg]

theorem radii (hn : 0 < n) (h : Run D n tri nc cut s sf tr) :
    (∀ r ∈ tr.map Prod.snd ++ [radius n sf], toWT r ≤ toWT (radius n s)) ∧
    (tr.map Prod.snd ++ [radius n sf]).Pairwise (fun a b => toWT b ≤ toWT a) := by
  induction h with
  | stop _ =>
    exact ⟨fun r hr => le_of_eq (congrArg toWT (List.mem_singleton.mp hr)), List.pairwise_singleton _ _⟩
  | @step s s1 sf tr _ hi _ ih =>
    have hb : ∀ r ∈ tr.map Prod.snd ++ [radius n sf], toWT r ≤ toWT (radius n s) :=
      fun r hr => le_trans (ih.1 r hr) (radius_mono hn (fun f _ => iter_dist_le hi f))
    rw [List.map_cons, List.cons_append]
    exact ⟨List.forall_mem_cons.mpr ⟨le_refl _, hb⟩, List.pairwise_cons.mpr ⟨hb, ih.2⟩⟩

end Run

/-- If a measure is positive whenever the guard holds and every successful iteration under a true
guard lowers it, then that much fuel is never exhausted. -/
theorem loop_ne_outOfFuel (μ : St → Nat)
    (hpos : ∀ s, guard nc cut n s = true → 0 < μ s)
    (hdec : ∀ s s', guard nc cut n s = true → iter D n tri s = .ok s' → μ s' < μ s) :
    ∀ (fuel : Nat) (s : St), μ s ≤ fuel → loop D n tri nc cut fuel s ≠ .error .outOfFuel := by
  intro fuel
  induction fuel with
  | zero =>
    intro s hf
    cases hg : guard nc cut n s with
    | true => exact absurd (Nat.lt_of_lt_of_le (hpos s hg) hf) (Nat.lt_irrefl _)
    | false => rw [loop_stop _ hg]; intro hc; cases hc
  | succ fuel ih =>
    intro s hf
    cases hg : guard nc cut n s with
    | false => rw [loop_stop _ hg]; intro hc; cases hc
    | true =>
      cases hi : iter D n tri s with
      | error e =>
        rw [loop_iter_error _ hg hi]
        intro hc
        injection hc with hc
        exact iter_ne_outOfFuel D n tri s (hc ▸ hi)
      | ok s1 =>
        rw [loop_step _ hg hi]
        have := ih s1 (Nat.le_of_lt_succ (Nat.lt_of_lt_of_le (hdec s s1 hg hi) hf))
        cases hl : loop D n tri nc cut fuel s1 with
        | error e => intro hc; injection hc with hc; exact this (hc ▸ hl)
        | ok p => intro hc; cases hc

theorem loop_fuel_add (k : Nat) : ∀ (fuel : Nat) (s : St),
    loop D n tri nc cut fuel s ≠ .error .outOfFuel →
    loop D n tri nc cut (fuel+k) s = loop D n tri nc cut fuel s := by
  intro fuel
  induction fuel with
  | zero =>
    intro s h
    cases hg : guard nc cut n s with
    | true => exact absurd (loop_zero hg) h
    | false => rw [loop_stop _ hg, loop_stop _ hg]
  | succ fuel ih =>
    intro s h
    rw [Nat.add_right_comm]
    cases hg : guard nc cut n s with
    | false => rw [loop_stop _ hg, loop_stop _ hg]
    | true =>
      cases hi : iter D n tri s with
      | error e => rw [loop_iter_error _ hg hi, loop_iter_error _ hg hi]
      | ok s1 =>
        rw [loop_step _ hg hi] at h ⊢
        rw [loop_step _ hg hi, ih s1 (fun hc => h (by rw [hc]; rfl))]

end loop

end Ens.KC
