import Proofs.C06Ops
/-!
With the read-side repair (`cfg.readsFix`) the index helpers address, for EVERY 2-d index, exactly
the cells of the list-of-rows model (`IdxAgree`), with the same error otherwise.
-/
namespace Ens.RaggedW
variable {α : Type}

theorem mapE_append {β γ : Type} (f : β → Except Err γ) (a b : List β) :
    mapE f (a ++ b) = bindE (mapE f a) (fun ya => mapOk (ya ++ ·) (mapE f b)) := by
  induction a with
  | nil =>
    simp only [List.nil_append, mapE, bindE_ok]
    cases mapE f b <;> rfl
  | cons x xs ih =>
    simp only [List.cons_append, mapE]
    cases f x with
    | error e => rfl
    | ok y =>
      simp only [ih]
      cases mapE f xs with
      | error e => rfl
      | ok ys =>
        simp only [bindE_ok]
        cases mapE f b <;> rfl

/-- `F num`: the code's index pairs of row `num`; `G num`: the cells of that row in the list-of-rows model.
If, row by row, both fail alike or the pairs convert to the flat positions of the cells, then the pairs of
all rows convert to the flat positions of all cells (or fail alike). -/
theorem combine_rows (ls : List Nat) (F : Int → Except Err (List (Int × Int)))
    (G : Int → Except Err (List (Nat × Nat))) (nums : List Int)
    (h : ∀ num ∈ nums, (∃ e, F num = .error e ∧ G num = .error e) ∨
      (∃ pairs tg, F num = .ok pairs ∧ G num = .ok tg ∧
        convertFrom2d ls pairs = .ok (tg.map (flatOf ls)))) :
    bindE (mapOk List.flatten (mapE F nums)) (convertFrom2d ls) =
      mapOk (fun gs => gs.flatten.map (flatOf ls)) (mapE G nums) := by
  induction nums with
  | nil => simp [mapE, convertFrom2d]
  | cons num rest ih =>
    have ih' := ih (fun x hx => h x (by simp [hx]))
    simp only [mapE]
    rcases h num (by simp) with ⟨e, hF, hG⟩ | ⟨pairs, tg, hF, hG, hconv⟩
    · simp [hF, hG]
    · simp only [hF, hG]
      cases hFr : mapE F rest with
      | error e =>
        rw [hFr] at ih'
        simp only [mapOk_error, bindE_error] at ih'
        cases hGr : mapE G rest with
        | error e' =>
          rw [hGr] at ih'
          simp only [mapOk_error] at ih'
          injection ih' with ih'
          subst ih'
          simp
        | ok gs => rw [hGr] at ih'; simp at ih'
      | ok prs =>
        rw [hFr] at ih'
        simp only [mapOk_ok, bindE_ok] at ih'
        simp only [mapOk_ok, bindE_ok, List.flatten_cons]
        unfold convertFrom2d at hconv ih' ⊢
        rw [mapE_append, hconv, bindE_ok, ih']
        cases mapE G rest with
        | error e => rfl
        | ok gs => simp

/-- the same when the pairs `H num` of a row always exist (`_get_iis_from_list`) and only their conversion can fail -/
theorem combine_rows_total (ls : List Nat) (H : Int → List (Int × Int))
    (G : Int → Except Err (List (Nat × Nat))) (nums : List Int)
    (h : ∀ num ∈ nums, convertFrom2d ls (H num) = mapOk (List.map (flatOf ls)) (G num)) :
    convertFrom2d ls (nums.flatMap H) = mapOk (fun gs => gs.flatten.map (flatOf ls)) (mapE G nums) := by
  induction nums with
  | nil => simp [mapE, convertFrom2d]
  | cons num rest ih =>
    have ih' := ih (fun x hx => h x (by simp [hx]))
    have h0 := h num (by simp)
    simp only [List.flatMap_cons, mapE]
    unfold convertFrom2d at h0 ih' ⊢
    rw [mapE_append, h0, ih']
    cases G num with
    | error e => rfl
    | ok tg =>
      simp only [mapOk_ok, bindE_ok]
      cases mapE G rest with
      | error e => rfl
      | ok gs => simp

theorem mapE_eq_ok_map {β γ : Type} (f : β → Except Err γ) (g : β → γ) (l : List β)
    (h : ∀ x ∈ l, f x = .ok (g x)) : mapE f l = .ok (l.map g) := by
  induction l with
  | nil => rfl
  | cons x xs ih =>
    simp only [mapE, h x (by simp), ih (fun y hy => h y (by simp [hy])), List.map_cons]

theorem normIdx_ofNat {n j : Nat} (h : j < n) : normIdx n (Int.ofNat j) = .ok j := by
  unfold normIdx
  have h1 : (0 : Int) ≤ Int.ofNat j := Int.natCast_nonneg j
  have h2 : (Int.ofNat j) < (n : Int) := by
    show (j : Int) < (n : Int)
    exact_mod_cast h
  simp only [h1, if_true, h2]
  rfl

theorem mapOk_mapOk {β γ δ : Type} (f : β → γ) (g : γ → δ) (x : Except Err β) :
    mapOk g (mapOk f x) = mapOk (fun y => g (f y)) x := by
  cases x <;> rfl

theorem convertOne_row {rows : Rows α} {num : Int} {i : Nat} {row : List α}
    (hn : normIdx rows.length num = .ok i) (hrow : rows[i]? = some row) (j : Int) :
    convertOne (rows.map List.length) (num, j) =
      mapOk (fun c => flatOf (rows.map List.length) (i, c)) (normIdx row.length j) := by
  simp only [convertOne, List.length_map, hn, List.getElem?_map, hrow, Option.map_some]
  cases normIdx row.length j <;> rfl

theorem rowPairs_fixed (cfg : Cfg) (hr : cfg.readsFix = true) (rows : Rows α) (c : PySlice) (num : Int) :
    (∃ e, rowPairs cfg c (rows.map List.length) num = .error e ∧
        specRowCells rows (.slice c) num = .error e) ∨
    (∃ pairs tg, rowPairs cfg c (rows.map List.length) num = .ok pairs ∧
        specRowCells rows (.slice c) num = .ok tg ∧
        convertFrom2d (rows.map List.length) pairs = .ok (tg.map (flatOf (rows.map List.length)))) := by
  unfold rowPairs lenAt specRowCells
  simp only [List.length_map]
  cases hn : normIdx rows.length num with
  | error e => left; exact ⟨e, rfl, rfl⟩
  | ok i =>
    simp only [List.getElem?_map]
    cases hrow : rows[i]? with
    | none => left; exact ⟨_, rfl, rfl⟩
    | some row =>
      simp only [Option.map_some, colsOf, colsPy, hr, if_true, specColSel]
      cases hp : pyIndices row.length c with
      | error e => left; exact ⟨e, rfl, rfl⟩
      | ok ix =>
        right
        refine ⟨_, _, rfl, rfl, ?_⟩
        unfold convertFrom2d
        simp only [List.map_map]
        rw [mapE_map_arg]
        apply mapE_eq_ok_map
        intro j hj
        show convertOne _ (num, Int.ofNat j) = _
        rw [convertOne_row hn hrow, normIdx_ofNat (pyIndices_lt hp j hj)]
        rfl

theorem listCols_fixed (rows : Rows α) (cols : List Int) (num : Int) (i : Nat) (row : List α)
    (hn : normIdx rows.length num = .ok i) (hrow : rows[i]? = some row) :
    convertFrom2d (rows.map List.length) (cols.map fun j => (num, j)) =
      mapOk (List.map (flatOf (rows.map List.length)))
        (match mapE (normIdx row.length) cols with
          | .error e => .error e
          | .ok cs => .ok (cs.map fun j => (i, j))) := by
  unfold convertFrom2d
  rw [mapE_map_arg]
  rw [mapE_congr cols (fun j _ => convertOne_row hn hrow j), mapE_map_ok]
  cases mapE (normIdx row.length) cols with
  | error e => rfl
  | ok cs => simp only [mapOk_ok, List.map_map]; rfl

theorem specRowCells_list (rows : Rows α) (cols : List Int) (num : Int) (i : Nat) (row : List α)
    (hn : normIdx rows.length num = .ok i) (hrow : rows[i]? = some row) :
    specRowCells rows (.list cols) num =
      (match mapE (normIdx row.length) cols with
        | .error e => .error e
        | .ok cs => .ok (cs.map fun j => (i, j))) := by
  unfold specRowCells
  simp only [hn, hrow, specColSel]
  cases mapE (normIdx row.length) cols <;> rfl

theorem specRowNums_valid {n : Nat} {s : PySlice} {nums : List Int}
    (h : specRowNums n (.slice s) = .ok nums) : ∀ num ∈ nums, ∃ i, i < n ∧ normIdx n num = .ok i := by
  refine AllOk.of_eq (Q := fun nums => ∀ num ∈ nums, ∃ i, i < n ∧ normIdx n num = .ok i) ?_ h
  simp only [specRowNums]
  cases hp : pyIndices n s with
  | error e => trivial
  | ok ix =>
    intro num hnum
    obtain ⟨i, hi, rfl⟩ := List.mem_map.mp hnum
    exact ⟨i, pyIndices_lt hp i hi, normIdx_ofNat (pyIndices_lt hp i hi)⟩

theorem sliceToList_fixed (cfg : Cfg) (hr : cfg.readsFix = true) (s : PySlice) (n : Nat) :
    sliceToList cfg s n = specRowNums n (.slice s) := by
  unfold sliceToList specRowNums
  simp only [hr, if_true]

theorem getIisFromSlices_fixed (cfg : Cfg) (hr : cfg.readsFix = true) (nums : List Int) (c : PySlice)
    (ls : List Nat) :
    getIisFromSlices cfg nums c ls = mapOk List.flatten (mapE (rowPairs cfg c ls) nums) := by
  unfold getIisFromSlices
  cases mapE (rowPairs cfg c ls) nums with
  | error e => rfl
  | ok groups => simp [hr]

/-- integer columns with a row slice; a single integer column `j` is the list `[j]` -/
theorem slice_listCols_fixed (cfg : Cfg) (hr : cfg.readsFix = true) (rows : Rows α) (rs : PySlice)
    (cols : List Int) :
    bindE (match sliceToList cfg rs rows.length with
        | .error e => .error e
        | .ok nums => getIisFromList cfg nums cols) (convertFrom2d (rows.map List.length)) =
      specFlat rows (.slice rs) (.list cols) := by
  have hspec : specTargets rows (.slice rs) (.list cols) =
      (match specRowNums rows.length (.slice rs) with
        | .error e => .error e
        | .ok nums => match mapE (specRowCells rows (.list cols)) nums with
          | .error e => .error e
          | .ok groups => .ok groups.flatten) := rfl
  unfold specFlat
  rw [hspec, sliceToList_fixed cfg hr]
  cases hnums : specRowNums rows.length (.slice rs) with
  | error e => rfl
  | ok nums =>
    have hvalid := specRowNums_valid hnums
    simp only [getIisFromList, hr, Bool.not_true, Bool.and_false, Bool.false_eq_true, if_false, bindE_ok]
    rw [combine_rows_total (rows.map List.length) (fun r => cols.map fun j => (r, j))
      (specRowCells rows (.list cols)) nums]
    · cases mapE (specRowCells rows (.list cols)) nums <;> rfl
    · intro num hnum
      obtain ⟨i, hi, hn⟩ := hvalid num hnum
      have hrow : rows[i]? = some rows[i] := List.getElem?_eq_getElem hi
      rw [listCols_fixed rows cols num i rows[i] hn hrow,
        specRowCells_list rows cols num i rows[i] hn hrow]

theorem slices_fixed (cfg : Cfg) (hr : cfg.readsFix = true) (rows : Rows α) (nums : List Int) (cs : PySlice) :
    bindE (getIisFromSlices cfg nums cs (rows.map List.length)) (convertFrom2d (rows.map List.length)) =
      mapOk (fun gs => gs.flatten.map (flatOf (rows.map List.length)))
        (mapE (specRowCells rows (.slice cs)) nums) := by
  rw [getIisFromSlices_fixed cfg hr]
  exact combine_rows _ _ _ nums (fun num _ => rowPairs_fixed cfg hr rows cs num)

/-- **patched index helpers = list-of-rows addressing, for every 2-d index** -/
theorem idxAgree_fixed (cfg : Cfg) (hr : cfg.readsFix = true) {s : State α} (hc : Coherent s)
    (r : Sel) (c : CSel) : IdxAgree cfg s r c := by
  unfold IdxAgree flatIdx
  rw [hc.lengths_eq]
  cases r with
  | slice rs =>
    cases c with
    | slice cs =>
      simp only [iis2d, List.length_map]
      unfold specFlat specTargets
      simp only []
      rw [sliceToList_fixed cfg hr]
      cases hnums : specRowNums s.array.length (.slice rs) with
      | error e => rfl
      | ok nums =>
        simp only []
        rw [slices_fixed cfg hr]
        cases mapE (specRowCells s.array (.slice cs)) nums <;> rfl
    | int j =>
      simp only [iis2d, List.length_map]
      exact slice_listCols_fixed cfg hr s.array rs [j]
    | list l =>
      simp only [iis2d, List.length_map]
      exact slice_listCols_fixed cfg hr s.array rs l
  | list nums =>
    cases c with
    | slice cs =>
      simp only [iis2d]
      unfold specFlat specTargets
      simp only [specRowNums]
      rw [slices_fixed cfg hr]
      cases mapE (specRowCells s.array (.slice cs)) nums <;> rfl
    | int j => rfl
    | list l => rfl

end Ens.RaggedW
