import Proofs.C11Closure
import Proofs.Basic
/-!
C11, part 2: a valid SCC labelling (scipy's contract, checked per case by the driver) makes
`keep_states` a strongly connected component of maximal weight.
-/
namespace Ens.Trim

/-- mutual reachability -/
def MutReach (n : Nat) (e : Nat → Nat → Bool) (i j : Nat) : Prop := Reach n e i j ∧ Reach n e j i

/-- unpacked form of `validLabeling (closure n e) n labels nsub = true` -/
structure Valid (n : Nat) (e : Nat → Nat → Bool) (labels : Nat → Nat) (nsub : Nat) : Prop where
  lt : ∀ i, i < n → labels i < nsub
  surj : ∀ l, l < nsub → ∃ i, i < n ∧ labels i = l
  iff : ∀ i, i < n → ∀ j, j < n →
    (labels i = labels j ↔ (reachB n e i j = true ∧ reachB n e j i = true))

theorem valid_of_validLabeling {n : Nat} {e : Nat → Nat → Bool} {labels : Nat → Nat} {nsub : Nat}
    (h : validLabeling (closure n e) n labels nsub = true) : Valid n e labels nsub := by
  simp only [validLabeling, Bool.and_eq_true, List.all_eq_true, List.mem_range, List.any_eq_true,
    decide_eq_true_eq, beq_iff_eq] at h
  obtain ⟨⟨h1, h2⟩, h3⟩ := h
  refine ⟨h1, h2, ?_⟩
  intro i hi j hj
  have := h3 i hi j hj
  unfold reachB
  rw [← Bool.and_eq_true, ← this]
  simp

theorem Valid.iff_mut {n : Nat} {e : Nat → Nat → Bool} {labels : Nat → Nat} {nsub : Nat}
    (v : Valid n e labels nsub) {i j : Nat} (hi : i < n) (hj : j < n) :
    labels i = labels j ↔ MutReach n e i j := by
  rw [v.iff i hi j hj, reachB_iff_reach n e hi hj, reachB_iff_reach n e hj hi]; rfl

theorem mem_members {labels : Nat → Nat} {n l i : Nat} :
    i ∈ members labels n l ↔ i < n ∧ labels i = l := by
  simp [members]

theorem members_pairwise (labels : Nat → Nat) (n l : Nat) :
    (members labels n l).Pairwise (· < ·) :=
  List.Pairwise.filter _ List.pairwise_lt_range

theorem sccOfM_pairwise (m : BMat) (n i : Nat) : (sccOfM m n i).Pairwise (· < ·) :=
  List.Pairwise.filter _ List.pairwise_lt_range

theorem mem_sccOf {C : Nat → Nat → Nat} {n : Nat} {thr : Int} {i j : Nat} (hi : i < n) :
    j ∈ sccOf C n thr i ↔ j < n ∧ MutReach n (edge C thr) i j := by
  simp only [sccOf, sccOfM, List.mem_filter, List.mem_range, Bool.and_eq_true]
  constructor
  · rintro ⟨hj, h1, h2⟩
    exact ⟨hj, (reachB_iff_reach n _ hi hj).1 h1, (reachB_iff_reach n _ hj hi).1 h2⟩
  · rintro ⟨hj, h1, h2⟩
    exact ⟨hj, (reachB_iff_reach n _ hi hj).2 h1, (reachB_iff_reach n _ hj hi).2 h2⟩

/-- the members of a label class are the SCC of any of its states -/
theorem members_eq_sccOf {C : Nat → Nat → Nat} {n : Nat} {thr : Int} {labels : Nat → Nat} {nsub : Nat}
    (v : Valid n (edge C thr) labels nsub) {i : Nat} (hi : i < n) :
    members labels n (labels i) = sccOf C n thr i := by
  unfold members sccOf sccOfM
  apply List.filter_congr
  intro j hj
  have hj : j < n := List.mem_range.1 hj
  have := v.iff i hi j hj
  unfold reachB at this
  rw [Bool.eq_iff_iff, beq_iff_eq, Bool.and_eq_true, ← this]
  exact eq_comm

/-! ### argmax -/

/-- `np.argmax` returns the FIRST maximum -/
theorem argmaxTo_spec (f : Nat → Nat) {n : Nat} (hn : 0 < n) :
    argmaxTo n f < n ∧ (∀ l, l < n → f l ≤ f (argmaxTo n f)) ∧
      (∀ l, l < argmaxTo n f → f l < f (argmaxTo n f)) := by
  obtain ⟨h1, h2, h3⟩ := Ens.argmaxTo_spec Nat.lt_irrefl Nat.lt_trans Nat.lt_trichotomy f hn
  exact ⟨h1, fun l hl => Nat.le_of_not_lt (h2 l hl), h3⟩

/-! ### keep_states -/

section
variable {C : Nat → Nat → Nat} {n : Nat} {thr : Int} {labels : Nat → Nat} {nsub : Nat}

theorem valid_nsub_pos (v : Valid n (edge C thr) labels nsub) : 0 < nsub ↔ 0 < n := by
  constructor
  · intro h; obtain ⟨i, hi, _⟩ := v.surj 0 h; exact Nat.zero_lt_of_lt hi
  · intro h; exact Nat.zero_lt_of_lt (v.lt 0 h)

/-- `keep_states` is the SCC of each of its states -/
theorem keepStates_eq_sccOf (v : Valid n (edge C thr) labels nsub) {i : Nat}
    (hi : i ∈ keepStates C n labels nsub) : keepStates C n labels nsub = sccOf C n thr i := by
  obtain ⟨hin, hl⟩ := mem_members.1 hi
  rw [← members_eq_sccOf v hin, hl, keepStates]

theorem keepStates_nonempty (v : Valid n (edge C thr) labels nsub) (h0 : nsub ≠ 0) :
    ∃ i, i ∈ keepStates C n labels nsub := by
  obtain ⟨i, hi, hl⟩ := v.surj _ (argmaxTo_spec (subgraphPop C n labels) (Nat.pos_of_ne_zero h0)).1
  exact ⟨i, mem_members.2 ⟨hi, hl⟩⟩

theorem keepStates_weight_ge (v : Valid n (edge C thr) labels nsub) {j : Nat} (hj : j < n) :
    weight C n (sccOf C n thr j) ≤ weight C n (keepStates C n labels nsub) := by
  rw [← members_eq_sccOf v hj]
  exact (argmaxTo_spec (subgraphPop C n labels) (Nat.zero_lt_of_lt (v.lt j hj))).2.1 _ (v.lt j hj)

theorem keepStates_mem_heaviest (v : Valid n (edge C thr) labels nsub) (h0 : nsub ≠ 0) :
    keepStates C n labels nsub ∈ heaviest C n thr := by
  obtain ⟨i, hi⟩ := keepStates_nonempty (C := C) v h0
  have hin := (mem_members.1 hi).1
  simp only [heaviest, heaviestM, List.mem_filter, List.mem_map, List.mem_range, List.all_eq_true,
    decide_eq_true_eq, forall_exists_index, and_imp, forall_apply_eq_imp_iff₂]
  refine ⟨⟨i, hin, ?_⟩, ?_⟩
  · exact (keepStates_eq_sccOf v hi).symm
  · intro j hj
    exact keepStates_weight_ge v hj

/-- everything in `heaviest` is an SCC of maximal weight (the label-free specification) -/
theorem mem_heaviest_iff {S : List Nat} :
    S ∈ heaviest C n thr ↔
      (∃ i, i < n ∧ S = sccOf C n thr i) ∧
      ∀ j, j < n → weight C n (sccOf C n thr j) ≤ weight C n S := by
  simp only [heaviest, heaviestM, List.mem_filter, List.mem_map, List.mem_range, List.all_eq_true,
    decide_eq_true_eq, forall_exists_index, and_imp, forall_apply_eq_imp_iff₂, sccOf]
  constructor
  · rintro ⟨⟨i, hi, rfl⟩, h⟩; exact ⟨⟨i, hi, rfl⟩, h⟩
  · rintro ⟨⟨i, hi, rfl⟩, h⟩; exact ⟨⟨i, hi, rfl⟩, h⟩

end

end Ens.Trim
