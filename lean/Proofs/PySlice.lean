import Model.PySlice
/-! `range` and `slice.indices` in closed form, and what hand-written slice arithmetic that only wraps
negative bounds has to satisfy to agree with them (`rangeAux_unclipped`).  `PySlice.adjust` is unfolded
in this file only; outside it `adjust_of_pos` and `adjust_of_neg` say what it returns.  Core Lean only. -/
namespace Ens

theorem mem_rangeAux {stop step : Int} {fuel : Nat} {cur x : Int} (h : x ∈ rangeAux stop step fuel cur) :
    (0 < step ∧ cur ≤ x ∧ x < stop) ∨ (step < 0 ∧ x ≤ cur ∧ stop < x) := by
  induction fuel generalizing cur with
  | zero => cases h
  | succ f ih =>
    rw [rangeAux] at h
    split at h
    · rename_i hc
      rcases List.mem_cons.mp h with rfl | h
      · exact hc.imp (fun a => ⟨a.1, Int.le_refl _, a.2⟩) (fun a => ⟨a.1, Int.le_refl _, a.2⟩)
      · have := ih h; omega
    · cases h

theorem rangeAux_pos_empty {stop step : Int} (hs : 0 < step) (fuel : Nat) {cur : Int} (h : stop ≤ cur) :
    rangeAux stop step fuel cur = [] := by
  cases fuel with
  | zero => rfl
  | succ f =>
    rw [rangeAux, if_neg fun hc => hc.elim (fun a => Int.not_lt.mpr h a.2) (fun a => Int.lt_asymm hs a.1)]

theorem ceilDiv_step {c d : Nat} (hc : 0 < c) (hd : 0 < d) : (d + c - 1) / c = (d - c + c - 1) / c + 1 := by
  have e : d + c - 1 = (d - 1) + c := Nat.sub_add_comm hd
  rw [e, Nat.add_div_right _ hc]
  by_cases h : c ≤ d
  · rw [Nat.sub_add_cancel h]
  · have hdc : d < c := Nat.lt_of_not_le h
    rw [Nat.div_eq_of_lt (Nat.lt_of_le_of_lt (Nat.sub_le d 1) hdc), Nat.sub_eq_zero_of_le (Nat.le_of_lt hdc),
      Nat.zero_add, Nat.zero_add, Nat.div_eq_of_lt (Nat.sub_lt hc Nat.one_pos)]

theorem rangeAux_pos {stop step : Int} (hs : 0 < step) {fuel : Nat} {cur : Int}
    (hf : (stop - cur).toNat ≤ fuel) :
    rangeAux stop step fuel cur =
      (List.range (((stop - cur).toNat + step.toNat - 1) / step.toNat)).map fun k : Nat => cur + k * step := by
  have hempty : ∀ cur, stop ≤ cur →
      (List.range (((stop - cur).toNat + step.toNat - 1) / step.toNat)).map (fun k : Nat => cur + k * step) = [] := by
    intro cur h
    rw [Int.toNat_eq_zero.mpr (Int.sub_nonpos_of_le h), Nat.zero_add,
      Nat.div_eq_of_lt (Nat.sub_lt (Int.lt_toNat.mpr hs) Nat.one_pos)]; rfl
  induction fuel generalizing cur with
  | zero => rw [hempty cur (Int.le_of_sub_nonpos (Int.toNat_eq_zero.mp (Nat.le_zero.mp hf)))]; rfl
  | succ f ih =>
    by_cases hc : cur < stop
    · have e : (stop - (cur + step)).toNat = (stop - cur).toNat - step.toNat := by omega
      rw [rangeAux, if_pos (Or.inl ⟨hs, hc⟩), ih (by omega), e,
        ceilDiv_step (Int.lt_toNat.mpr hs) (Int.lt_toNat.mpr (Int.sub_pos.mpr hc)),
        List.range_succ_eq_map, List.map_cons, List.map_map]
      congr 1
      · simp
      · apply List.map_congr_left
        intro k _
        simp only [Function.comp, Nat.succ_eq_add_one]
        push_cast
        rw [Int.add_mul, Int.one_mul, Int.add_assoc, Int.add_comm step]
    · rw [rangeAux_pos_empty hs _ (Int.not_lt.mp hc), hempty cur (Int.not_lt.mp hc)]

theorem map_ofNat_toNat {l : List Int} (h : ∀ x ∈ l, 0 ≤ x) : (l.map Int.toNat).map Int.ofNat = l := by
  rw [List.map_map]
  conv => rhs; rw [← List.map_id l]
  exact List.map_congr_left fun x hx => Int.toNat_of_nonneg (h x hx)

/-- A hand-written `range(S, T, step)` over wrapped bounds that clips neither `S` to `n` nor `T` to `0`,
against the range of `slice.indices(n)`: where the clipping matters both are empty.  The fuel is the caller's. -/
theorem rangeAux_unclipped {step : Int} (hpos : 0 < step) (n : Nat) {S T A B : Int} {fuel : Nat}
    (hf : (T - S).natAbs ≤ fuel) (hS : 0 ≤ S ∧ A = min S n) (hT : T ≤ n ∧ B = max 0 T) :
    rangeAux T step fuel S = ((rangeAux B step (n + 1) A).map Int.toNat).map Int.ofNat := by
  obtain ⟨hS, rfl⟩ := hS
  obtain ⟨hT, rfl⟩ := hT
  rw [map_ofNat_toNat fun x hx => by have := mem_rangeAux hx; omega]
  by_cases h : S ≤ n ∧ 0 ≤ T
  · rw [Int.min_eq_left h.1, Int.max_eq_right h.2, rangeAux_pos hpos (fuel := fuel) (by omega),
      rangeAux_pos hpos (fuel := n + 1) (by omega)]
  · rw [rangeAux_pos_empty hpos _ (by omega), rangeAux_pos_empty hpos _ (by omega)]

/-- a slice bound after `PySlice_AdjustIndices` for a positive step; `d` stands for an absent bound -/
def clipPos (n d : Int) : Option Int → Int
  | none => d
  | some v => if v < 0 then (if v + n < 0 then 0 else v + n) else if v ≥ n then n else v

/-- the same for a negative step -/
def clipNeg (n d : Int) : Option Int → Int
  | none => d
  | some v => if v < 0 then (if v + n < 0 then -1 else v + n) else if v ≥ n then n - 1 else v

theorem clipPos_mem {n d : Int} (hd : 0 ≤ d ∧ d ≤ n) (o : Option Int) :
    0 ≤ clipPos n d o ∧ clipPos n d o ≤ n := by
  cases o with
  | none => exact hd
  | some v => simp only [clipPos]; omega

theorem clipNeg_mem {n d : Int} (hd : -1 ≤ d ∧ d ≤ n - 1) (o : Option Int) :
    -1 ≤ clipNeg n d o ∧ clipNeg n d o ≤ n - 1 := by
  cases o with
  | none => exact hd
  | some v => simp only [clipNeg]; omega

theorem clipPos_start_mem (n : Nat) (o : Option Int) : 0 ≤ clipPos n 0 o ∧ clipPos n 0 o ≤ n :=
  clipPos_mem ⟨Int.le_refl 0, Int.natCast_nonneg n⟩ o

theorem clipPos_stop_mem (n : Nat) (o : Option Int) : 0 ≤ clipPos n n o ∧ clipPos n n o ≤ n :=
  clipPos_mem ⟨Int.natCast_nonneg n, Int.le_refl _⟩ o

/-! The premises `hS`, `hT` of `rangeAux_unclipped`, for the bounds a positive-step slice can have. -/

/-- a start not below `-n`: CPython's bound is the wrapped start clipped to `n` -/
theorem clipPos_some_of_ge {n : Nat} {v : Int} (d : Int) (h : -(n : Int) ≤ v) :
    0 ≤ (if v < 0 then n + v else v) ∧ clipPos n d (some v) = min (if v < 0 then n + v else v) n := by
  simp only [clipPos]; omega

theorem clipPos_some_of_nonneg {n : Nat} {v : Int} (d : Int) (h : 0 ≤ v) :
    0 ≤ v ∧ clipPos n d (some v) = min v n := by
  simp only [clipPos]; omega

/-- a stop not above `n`: CPython's bound is the wrapped stop clipped to `0` -/
theorem clipPos_some_of_le {n : Nat} {v : Int} (d : Int) (h : v ≤ n) :
    (if v < 0 then n + v else v) ≤ n ∧ clipPos n d (some v) = max 0 (if v < 0 then n + v else v) := by
  simp only [clipPos]; omega

theorem clipPos_none_start (n : Nat) : (0 : Int) ≤ 0 ∧ clipPos n 0 none = min (0 : Int) n :=
  ⟨Int.le_refl 0, (Int.min_eq_left (Int.natCast_nonneg n)).symm⟩

theorem clipPos_none_stop (n : Nat) : (n : Int) ≤ n ∧ clipPos n n none = max (0 : Int) n :=
  ⟨Int.le_refl _, (Int.max_eq_right (Int.natCast_nonneg n)).symm⟩

namespace PySlice

theorem adjust_of_pos {s : PySlice} (len : Nat) (h : 0 < s.step.getD 1) :
    s.adjust len = some (clipPos len 0 s.start, clipPos len len s.stop, s.step.getD 1) := by
  simp only [adjust, if_neg (Int.ne_of_gt h), Int.not_lt.mpr (Int.le_of_lt h), if_false]
  cases s.start <;> cases s.stop <;> rfl

theorem adjust_of_neg {s : PySlice} (len : Nat) (h : s.step.getD 1 < 0) :
    s.adjust len = some (clipNeg len (len - 1) s.start, clipNeg len (-1) s.stop, s.step.getD 1) := by
  simp only [adjust, if_neg (Int.ne_of_lt h), h, if_true]
  cases s.start <;> cases s.stop <;> rfl

theorem indices_isSome {s : PySlice} (hs : s.step ≠ some 0) (len : Nat) : ∃ ix, s.indices len = some ix := by
  have : ¬ (s.step.getD 1 = 0) := by
    cases hst : s.step with
    | none => simp
    | some v => intro h0; exact hs (by rw [hst, ← h0]; rfl)
  rw [indices, adjust, if_neg this]
  exact ⟨_, rfl⟩

theorem indices_lt {len : Nat} {s : PySlice} {ix : List Nat} (h : s.indices len = some ix) :
    ∀ k ∈ ix, k < len := by
  intro k hk
  rcases Int.lt_trichotomy (s.step.getD 1) 0 with hs | hs | hs
  · rw [indices, adjust_of_neg len hs] at h
    cases h
    obtain ⟨x, hx, rfl⟩ := List.mem_map.mp hk
    have hx := mem_rangeAux hx
    have h1 := clipNeg_mem (n := len) (d := len - 1) (by omega) s.start
    have h2 := clipNeg_mem (n := len) (d := -1) (by omega) s.stop
    omega
  · rw [indices, adjust, if_pos hs] at h
    cases h
  · rw [indices, adjust_of_pos len hs] at h
    cases h
    obtain ⟨x, hx, rfl⟩ := List.mem_map.mp hk
    have hx := mem_rangeAux hx
    have h1 := clipPos_start_mem len s.start
    have h2 := clipPos_stop_mem len s.stop
    omega

theorem indices_of_step_pos {s : PySlice} (len : Nat) (h : 0 < s.step.getD 1) :
    s.indices len =
      some ((rangeAux (clipPos len len s.stop) (s.step.getD 1) (len + 1) (clipPos len 0 s.start)).map Int.toNat) := by
  rw [indices, adjust_of_pos len h]
  rfl

theorem indices_of_pos {s : PySlice} {len c lo hi : Nat} (hc : 0 < c) (hstep : s.step.getD 1 = c)
    (hlo : clipPos len 0 s.start = lo) (hhi : clipPos len len s.stop = hi) :
    s.indices len = some ((List.range ((hi - lo + c - 1) / c)).map fun k => lo + k * c) := by
  have hle := (clipPos_stop_mem len s.stop).2
  have e : ((hi : Int) - lo).toNat = hi - lo := by omega
  rw [indices_of_step_pos len (by rw [hstep]; exact Int.natCast_pos.mpr hc), hlo, hhi, hstep,
    rangeAux_pos (Int.natCast_pos.mpr hc) (by omega), e, Int.toNat_natCast, List.map_map]
  rfl

end PySlice

end Ens
