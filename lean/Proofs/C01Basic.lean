import Model.Cluster
import Proofs.Basic
import Mathlib.Algebra.Order.Field.Rat
import Mathlib.Tactic.Linarith
/-!
C01/C09: array reads, `TableOK`, lists without repeats (`Inj`), the running minimum `MinAt` and the invariant
`RunMin` of `assign_to_nearest_center` / `_kcenters_iteration`, which is `MinAt` frame by frame.
-/
namespace Ens.Cluster

variable {D : Table} {n : Nat}

@[simp] theorem tab_fresh (n : Nat) (fr : Bool) (d : Nat → Rat) (l : Nat → Int) :
    (Arr.tab n fr d l).fresh = fr := rfl

theorem tab_dist (fr : Bool) (d : Nat → Rat) (l : Nat → Int) {f : Nat} (h : f < n) :
    (Arr.tab n fr d l).dist f = d f := by
  simp [Arr.tab, Arr.dist, Array.getD, h]

theorem tab_assign (fr : Bool) (d : Nat → Rat) (l : Nat → Int) {f : Nat} (h : f < n) :
    (Arr.tab n fr d l).assign f = l f := by
  simp [Arr.tab, Arr.assign, Array.getD, h]

/-- distinct points under a distance: zero exactly on the diagonal, never negative.
(Symmetry and the triangle inequality are *not* needed for C01/C09.) -/
structure TableOK (D : Table) (n : Nat) : Prop where
  self : ∀ i, i < n → D i i = 0
  nonneg : ∀ i j, i < n → j < n → 0 ≤ D i j
  distinct : ∀ i j, i < n → j < n → D i j = 0 → i = j

theorem getElem?_lt {l : List Nat} {k c : Nat} (h : l[k]? = some c) : k < l.length :=
  (List.getElem?_eq_some_iff.mp h).1

theorem getElem?_concat_eq_some {pre : List Nat} {c x k : Nat} :
    (pre ++ [c])[k]? = some x ↔ pre[k]? = some x ∨ (k = pre.length ∧ x = c) := by
  rcases Nat.lt_trichotomy k pre.length with h | rfl | h
  · rw [List.getElem?_append_left h]
    exact ⟨Or.inl, fun h' => h'.elim id fun e => absurd e.1 (Nat.ne_of_lt h)⟩
  · rw [List.getElem?_append_right (Nat.le_refl _), Nat.sub_self, List.getElem?_eq_none (Nat.le_refl _)]
    exact ⟨fun e => Or.inr ⟨rfl, (Option.some.inj e).symm⟩, fun h' => h'.elim nofun fun e => e.2 ▸ rfl⟩
  · rw [List.getElem?_eq_none (by simp; omega), List.getElem?_eq_none (Nat.le_of_lt h)]
    exact ⟨nofun, fun h' => h'.elim nofun fun e => absurd e.1 (Nat.ne_of_gt h)⟩

/-- positions determine entries: the list has no repeated entry -/
def Inj (l : List Nat) : Prop := ∀ (i j c : Nat), l[i]? = some c → l[j]? = some c → i = j

theorem Inj_of_nodup {l : List Nat} (h : l.Nodup) : Inj l :=
  fun _ _ _ hi hj => (List.getElem?_inj (getElem?_lt hi) h).mp (hi.trans hj.symm)

theorem Inj.concat {l : List Nat} {c : Nat} (h : Inj l) (hc : ∀ j : Nat, l[j]? ≠ some c) : Inj (l ++ [c]) := by
  intro i j x hi hj
  rcases getElem?_concat_eq_some.mp hi with hi' | ⟨rfl, rfl⟩
  · rcases getElem?_concat_eq_some.mp hj with hj' | ⟨rfl, rfl⟩
    · exact h i j x hi' hj'
    · exact absurd hi' (hc i)
  · rcases getElem?_concat_eq_some.mp hj with hj' | ⟨rfl, _⟩
    · exact absurd hj' (hc j)
    · rfl

/-- running-minimum invariant: `a` is what the relax loop has computed after the centers `pre`
(labels = positions in `pre`). -/
structure RunMin (D : Table) (n : Nat) (pre : List Nat) (a : Arr) : Prop where
  fresh_iff : a.fresh = true ↔ pre = []
  lab : pre ≠ [] → ∀ f, f < n → ∃ (k c : Nat), a.assign f = (k : Nat) ∧ pre[k]? = some c ∧ a.dist f = D f c
  best : ∀ f, f < n → ∀ (k c : Nat), pre[k]? = some c → ¬ D f c < a.dist f

/-- what a running minimum of `g` holds after the list `cs`: a position `k` of `cs` whose entry has the
value `v`, and no entry of `cs` has a value below `v` -/
def MinAt (g : Nat → Rat) (cs : List Nat) (k : Nat) (v : Rat) : Prop :=
  (∃ c, cs[k]? = some c ∧ v = g c) ∧ ∀ (j c : Nat), cs[j]? = some c → ¬ g c < v

theorem MinAt.single (g : Nat → Rat) (c : Nat) : MinAt g [c] 0 (g c) :=
  ⟨⟨c, rfl, rfl⟩, fun _ _ hj => List.mem_singleton.mp (List.mem_of_getElem? hj) ▸ lt_irrefl _⟩

theorem MinAt.push_lt {g : Nat → Rat} {pre : List Nat} {k c : Nat} {v : Rat} (h : MinAt g pre k v)
    (hlt : g c < v) : MinAt g (pre ++ [c]) pre.length (g c) := by
  refine ⟨⟨c, getElem?_concat_eq_some.mpr (Or.inr ⟨rfl, rfl⟩), rfl⟩, fun j c' hj => ?_⟩
  rcases getElem?_concat_eq_some.mp hj with hj | ⟨_, rfl⟩
  · exact fun h' => h.2 j c' hj (lt_trans h' hlt)
  · exact lt_irrefl _

theorem MinAt.push_ge {g : Nat → Rat} {pre : List Nat} {k c : Nat} {v : Rat} (h : MinAt g pre k v)
    (hge : ¬ g c < v) : MinAt g (pre ++ [c]) k v := by
  obtain ⟨⟨c0, e1, e2⟩, hb⟩ := h
  refine ⟨⟨c0, getElem?_concat_eq_some.mpr (Or.inl e1), e2⟩, fun j c' hj => ?_⟩
  rcases getElem?_concat_eq_some.mp hj with hj | ⟨_, rfl⟩
  · exact hb j c' hj
  · exact hge

theorem RunMin.minAt {pre : List Nat} {a : Arr} (h : RunMin D n pre a) (hne : pre ≠ [])
    {f : Nat} (hf : f < n) : ∃ k : Nat, a.assign f = (k : Nat) ∧ MinAt (D f) pre k (a.dist f) := by
  obtain ⟨k, c, h1, h2, h3⟩ := h.lab hne f hf
  exact ⟨k, h1, ⟨c, h2, h3⟩, h.best f hf⟩

theorem RunMin.of_minAt {pre : List Nat} {a : Arr} (hfr : a.fresh = true ↔ pre = [])
    (h : pre ≠ [] → ∀ f, f < n → ∃ k : Nat, a.assign f = (k : Nat) ∧ MinAt (D f) pre k (a.dist f)) :
    RunMin D n pre a := by
  refine ⟨hfr, fun hne f hf => ?_, fun f hf k c hk => ?_⟩
  · obtain ⟨k, h1, ⟨c, h2, h3⟩, _⟩ := h hne f hf
    exact ⟨k, c, h1, h2, h3⟩
  · obtain ⟨_, _, _, hb⟩ := h (fun e => by rw [e] at hk; cases hk) f hf
    exact hb k c hk

theorem RunMin.nil (D : Table) (n : Nat) (d : Nat → Rat) (l : Nat → Int) :
    RunMin D n [] (Arr.tab n true d l) :=
  RunMin.of_minAt (by simp) fun h => absurd rfl h

theorem relax_dist (a : Arr) (lbl : Int) (c : Nat) {f : Nat} (h : f < n) :
    (a.relax D n lbl c).dist f = if a.fresh || decide (D f c < a.dist f) then D f c else a.dist f := by
  unfold Arr.relax; rw [tab_dist _ _ _ h]

theorem relax_assign (a : Arr) (lbl : Int) (c : Nat) {f : Nat} (h : f < n) :
    (a.relax D n lbl c).assign f = if a.fresh || decide (D f c < a.dist f) then lbl else a.assign f := by
  unfold Arr.relax; rw [tab_assign _ _ _ h]

theorem RunMin.relax {pre : List Nat} {a : Arr} (h : RunMin D n pre a) (c : Nat) :
    RunMin D n (pre ++ [c]) (a.relax D n (pre.length : Nat) c) := by
  refine RunMin.of_minAt (by simp [Arr.relax]) fun _ f hf => ?_
  rw [relax_dist a _ c hf, relax_assign a _ c hf]
  cases hfr : a.fresh
  · obtain ⟨k, hk, hm⟩ := h.minAt (fun e => by simpa [hfr] using h.fresh_iff.mpr e) hf
    by_cases hlt : D f c < a.dist f
    · simp only [hlt, decide_true, Bool.or_true, if_true]
      exact ⟨pre.length, rfl, hm.push_lt hlt⟩
    · simp only [hlt, decide_false, Bool.or_false, Bool.false_eq_true, if_false]
      exact ⟨k, hk, hm.push_ge hlt⟩
  · obtain rfl := h.fresh_iff.mp hfr
    simp only [Bool.true_or, if_true]
    exact ⟨0, rfl, MinAt.single _ c⟩

theorem RunMin.assignLoop (cs : List Nat) :
    ∀ {pre : List Nat} {a : Arr}, RunMin D n pre a → RunMin D n (pre ++ cs) (assignLoop D n cs pre.length a) := by
  induction cs with
  | nil => intro pre a h; simpa [Cluster.assignLoop] using h
  | cons c cs ih =>
    intro pre a h
    have h1 := h.relax c
    have h2 := ih h1
    simpa [Cluster.assignLoop, List.append_assoc] using h2

/-- `assign_to_nearest_center` (loop branch) computes a nearest-center assignment -/
theorem RunMin.assignNearest (D : Table) (n : Nat) (cs : List Nat) : RunMin D n cs (assignNearest D n cs) := by
  have := RunMin.assignLoop (D := D) (n := n) cs (RunMin.nil D n (fun _ => 0) (fun _ => 0))
  simpa [Cluster.assignNearest, Arr.init0] using this

end Ens.Cluster
