import Proofs.C14Stripe
import Mathlib.Order.Defs.LinearOrder
import Mathlib.Algebra.Order.Ring.Unbundled.Rat
/-! `StrictTotal` instances and consequences of its laws; specifications of `argmaxTo`, `listMax`, `stripedMax`. -/
namespace Ens.Mpi
set_option linter.unusedSectionVars false

/-- every Mathlib linear order (ℕ, ℤ, ℚ, …) is a `StrictTotal` -/
instance (priority := 100) strictTotalOfLinearOrder {α : Type} [LinearOrder α] : StrictTotal α where
  irrefl := lt_irrefl
  trans := lt_trans
  tri := lt_trichotomy

instance : StrictTotal Dist where
  irrefl := by
    intro a h
    cases a with
    | fin x => exact lt_irrefl x h
    | inf => exact h
  trans := by
    intro a b c h1 h2
    cases a with
    | fin x =>
      cases b with
      | fin y =>
        cases c with
        | fin z => exact lt_trans (α := ℚ) h1 h2
        | inf => trivial
      | inf => exact False.elim h2
    | inf => exact False.elim h1
  tri := by
    intro a b
    cases a with
    | fin x =>
      cases b with
      | fin y =>
        rcases lt_trichotomy x y with h | h | h
        · exact Or.inl h
        · exact Or.inr (Or.inl (by rw [h]))
        · exact Or.inr (Or.inr h)
      | inf => exact Or.inl trivial
    | inf =>
      cases b with
      | fin y => exact Or.inr (Or.inr trivial)
      | inf => exact Or.inr (Or.inl rfl)

variable {α : Type} [LT α] [DecidableRel (α := α) (· < ·)] [StrictTotal α]

theorem st_irrefl (a : α) : ¬ a < a := StrictTotal.irrefl a
theorem st_trans {a b c : α} (h1 : a < b) (h2 : b < c) : a < c := StrictTotal.trans h1 h2
theorem st_tri (a b : α) : a < b ∨ a = b ∨ b < a := StrictTotal.tri a b

theorem st_ge_trans {a b c : α} (h1 : ¬ a < b) (h2 : ¬ b < c) : ¬ a < c := by
  intro h
  rcases st_tri b c with hbc | hbc | hbc
  · exact h2 hbc
  · subst hbc; exact h1 h
  · exact h1 (st_trans h hbc)

theorem st_lt_of_lt_of_ge {a b c : α} (h1 : a < b) (h2 : ¬ c < b) : a < c := by
  rcases st_tri b c with h | h | h
  · exact st_trans h1 h
  · subst h; exact h1
  · exact (h2 h).elim

theorem st_not_lt_of_lt {a b : α} (h : a < b) : ¬ b < a := fun h' => st_irrefl a (st_trans h h')

theorem st_lt_of_ge_of_lt {a b c : α} (h1 : ¬ b < a) (h2 : b < c) : a < c := by
  rcases st_tri a b with h | h | h
  · exact st_trans h h2
  · subst h; exact h2
  · exact (h1 h).elim

theorem st_eq_of_ge_of_ge {a b : α} (h1 : ¬ a < b) (h2 : ¬ b < a) : a = b := by
  rcases st_tri a b with h | h | h
  · exact (h1 h).elim
  · exact h
  · exact (h2 h).elim

/-- `np.argmax`: the FIRST index attaining the maximum -/
theorem argmaxTo_spec (n : Nat) (hn : 0 < n) (f : Nat → α) :
    Ens.argmaxTo n f < n ∧ (∀ i, i < n → ¬ f (Ens.argmaxTo n f) < f i) ∧
    (∀ i, i < Ens.argmaxTo n f → f i < f (Ens.argmaxTo n f)) :=
  Ens.argmaxTo_spec st_irrefl st_trans st_tri f hn

theorem foldl_max_spec (xs : List α) (x : α) :
    (xs.foldl (fun m y => if m < y then y else m) x = x ∨
      xs.foldl (fun m y => if m < y then y else m) x ∈ xs) ∧
    ¬ xs.foldl (fun m y => if m < y then y else m) x < x ∧
    ∀ y ∈ xs, ¬ xs.foldl (fun m y => if m < y then y else m) x < y := by
  induction xs generalizing x with
  | nil => simp [st_irrefl]
  | cons y ys ih =>
    simp only [List.foldl_cons]
    obtain ⟨h1, h2, h3⟩ := ih (if x < y then y else x)
    by_cases hxy : x < y
    · simp only [hxy, if_true] at h1 h2 h3 ⊢
      refine ⟨?_, ?_, ?_⟩
      · rcases h1 with h | h
        · exact Or.inr (by rw [h]; exact List.mem_cons_self)
        · exact Or.inr (List.mem_cons_of_mem _ h)
      · intro h; exact h2 (st_trans h hxy)
      · intro z hz
        rcases List.mem_cons.mp hz with rfl | hz
        · exact h2
        · exact h3 z hz
    · simp only [hxy, if_false] at h1 h2 h3 ⊢
      refine ⟨?_, h2, ?_⟩
      · rcases h1 with h | h
        · exact Or.inl h
        · exact Or.inr (List.mem_cons_of_mem _ h)
      · intro z hz
        rcases List.mem_cons.mp hz with rfl | hz
        · exact st_ge_trans h2 hxy
        · exact h3 z hz

theorem listMax_spec {xs : List α} {M : α} (h : listMax xs = some M) :
    M ∈ xs ∧ ∀ y ∈ xs, ¬ M < y := by
  cases xs with
  | nil => simp [listMax] at h
  | cons x xs =>
    simp only [listMax, Option.some.injEq] at h
    obtain ⟨h1, h2, h3⟩ := foldl_max_spec xs x
    rw [h] at h1 h2 h3
    refine ⟨?_, ?_⟩
    · rcases h1 with h1 | h1
      · rw [h1]; exact List.mem_cons_self
      · exact List.mem_cons_of_mem _ h1
    · intro y hy
      rcases List.mem_cons.mp hy with rfl | hy
      · exact h2
      · exact h3 y hy

theorem listMax_isSome {xs : List α} (h : xs ≠ []) : ∃ M, listMax xs = some M := by
  cases xs with
  | nil => exact absurd rfl h
  | cons x xs => exact ⟨_, rfl⟩

theorem stripedMax_spec (w : Nat) (locals : Nat → List α) (M : α) (h : stripedMax w locals = .ok M) :
    (∃ r, r < w ∧ M ∈ locals r) ∧ ∀ r, r < w → ∀ x ∈ locals r, ¬ M < x := by
  unfold stripedMax at h
  split at h
  · cases h
  · split at h
    · rename_i m hm
      injection h with h
      subst h
      obtain ⟨hmem, hmax⟩ := listMax_spec hm
      simp only [List.mem_filterMap, List.mem_range] at hmem
      obtain ⟨r, hr, hmr⟩ := hmem
      obtain ⟨hin, _⟩ := listMax_spec hmr
      refine ⟨⟨r, hr, hin⟩, ?_⟩
      intro r' hr' x hx
      have hne : locals r' ≠ [] := List.ne_nil_of_mem hx
      obtain ⟨m', hm'⟩ := listMax_isSome hne
      obtain ⟨_, hmax'⟩ := listMax_spec hm'
      have : m' ∈ (List.range w).filterMap fun r => listMax (locals r) := by
        simp only [List.mem_filterMap, List.mem_range]
        exact ⟨r', hr', hm'⟩
      exact st_ge_trans (hmax m' this) (hmax' x hx)
    · cases h

/-- `striped_array_max` returns the maximum of the whole (concatenated, in any order) array -/
theorem stripedMax_eq_listMax (w : Nat) (locals : Nat → List α) (xs : List α)
    (hp : xs.Perm ((List.range w).flatMap locals)) (M : α) (h : stripedMax w locals = .ok M) :
    listMax xs = some M := by
  obtain ⟨⟨r, hr, hM⟩, hmax⟩ := stripedMax_spec w locals M h
  have hMx : M ∈ xs := hp.mem_iff.mpr (List.mem_flatMap.mpr ⟨r, List.mem_range.mpr hr, hM⟩)
  have hmaxx : ∀ y ∈ xs, ¬ M < y := by
    intro y hy
    obtain ⟨r', hr', hy'⟩ := List.mem_flatMap.mp (hp.mem_iff.mp hy)
    exact hmax r' (List.mem_range.mp hr') y hy'
  obtain ⟨M', hM'⟩ := listMax_isSome (List.ne_nil_of_mem hMx)
  obtain ⟨h1, h2⟩ := listMax_spec hM'
  rw [hM', st_eq_of_ge_of_ge (h2 M hMx) (hmaxx M' h1)]

theorem stripedMax_ok (w : Nat) (hw : 0 < w) (locals : Nat → List α) (hne : ∀ r, r < w → locals r ≠ []) :
    ∃ M, stripedMax w locals = .ok M := by
  unfold stripedMax
  have herr : firstErr w (fun r => if (locals r).isEmpty then some Err.valueError else none) = none :=
    firstErr_eq_none.mpr fun r hr => if_neg (mt List.isEmpty_iff.mp (hne r hr))
  rw [herr]
  obtain ⟨m0, hm0⟩ := listMax_isSome (hne 0 hw)
  have hne2 : ((List.range w).filterMap fun r => listMax (locals r)) ≠ [] := by
    apply List.ne_nil_of_mem (a := m0)
    simp only [List.mem_filterMap, List.mem_range]
    exact ⟨0, hw, hm0⟩
  obtain ⟨M, hM⟩ := listMax_isSome hne2
  exact ⟨M, by simp only [hM]⟩

end Ens.Mpi
