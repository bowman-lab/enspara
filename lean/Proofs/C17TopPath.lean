/- C17 helper: `topPath` — initial invariant, back-pointer walk, validity / bottleneck / optimality. -/
import Proofs.C17Top

namespace Ens.Paths
open Ens

section
variable {n : Nat} {F : Nat → Nat → Nat} {S : List Nat}

theorem initSt_invS (hS : ∀ s ∈ S, s < n) : InvS n F S (initSt S) where
  vis_lt _ hv := absurd hv Bool.false_ne_true
  prev_spec _ _ hp := nomatch hp
  src_lab _ hv := if_pos (List.contains_iff_mem.2 hv)
  none_lab _ _ hv := if_neg fun h => hv (List.contains_iff_mem.1 h)
  rank := ⟨fun _ => nvis n (initSt S).visited, fun _ hv => absurd hv Bool.false_ne_true,
    fun _ _ => rfl, fun _ _ hp => nomatch hp⟩
  vis_lab _ hv := absurd hv Bool.false_ne_true
  q_lt _ hz := ⟨hS _ hz, fun h => nomatch (if_pos (List.contains_iff_mem.2 hz)).symm.trans h⟩
  q_mem _ _ hl := Classical.byContradiction fun hz =>
    hl (if_neg fun h => hz (List.contains_iff_mem.1 h))
  mono _ _ hy := absurd hy Bool.false_ne_true
  fix _ _ hx := absurd hx Bool.false_ne_true

theorem measure_initSt : measure n (initSt S) < loopFuel n S := by
  have := Nat.mul_le_mul_right (n + 1) (Nat.sub_le n (nvis n (initSt S).visited))
  have hq : (initSt S).queue.length = S.length := rfl
  simp only [measure, loopFuel]
  omega

theorem walkRev_isSome (prev : Nat → Option Nat) (rank : Nat → Nat)
    (hr : ∀ v u, prev v = some u → rank u < rank v) (fuel v : Nat) (h : rank v < fuel) :
    ∃ l, walkRev prev fuel v = some l := by
  induction fuel generalizing v with
  | zero => exact absurd h (Nat.not_lt_zero _)
  | succ fuel ih =>
    unfold walkRev
    cases hp : prev v with
    | none => exact ⟨_, rfl⟩
    | some u =>
      obtain ⟨l, hl⟩ := ih u (Nat.lt_of_lt_of_le (hr v u hp) (Nat.le_of_lt_succ h))
      exact ⟨v :: l, congrArg (Option.map (v :: ·)) hl⟩

theorem adj_snoc (F : Nat → Nat → Nat) (l : List Nat) (b a : Nat) :
    Adj F (l ++ [b, a]) ↔ Adj F (l ++ [b]) ∧ 0 < F b a := by
  induction l with
  | nil => exact ⟨fun h => ⟨trivial, h.1⟩, fun h => ⟨h.2, trivial⟩⟩
  | cons x l ih =>
    cases l with
    | nil => exact ⟨fun h => ⟨⟨h.1, trivial⟩, h.2.1⟩, fun h => ⟨h.1.1, h.2, trivial⟩⟩
    | cons y l => exact ⟨fun h => ⟨⟨h.1, (ih.1 h.2).1⟩, (ih.1 h.2).2⟩, fun h => ⟨h.1.1, ih.2 ⟨h.1.2, h.2⟩⟩⟩

theorem bneck_snoc (F : Nat → Nat → Nat) (l : List Nat) (b a : Nat) :
    bneck F (l ++ [b, a]) = min (bneck F (l ++ [b])) (Ext.fin (F b a)) := by
  induction l with
  | nil =>
    show min (Ext.fin (F b a)) Ext.pinf = min Ext.pinf (Ext.fin (F b a))
    rw [Ext.min_pinf, Ext.pinf_min]
  | cons x l ih =>
    cases l with
    | nil =>
      show min (Ext.fin (F x b)) (min (Ext.fin (F b a)) Ext.pinf) =
        min (min (Ext.fin (F x b)) Ext.pinf) (Ext.fin (F b a))
      rw [Ext.min_pinf, Ext.min_pinf]
    | cons y l =>
      show min (Ext.fin (F x y)) (bneck F (y :: l ++ [b, a])) =
        min (min (Ext.fin (F x y)) (bneck F (y :: l ++ [b]))) (Ext.fin (F b a))
      rw [ih, min_assoc]

theorem reverse_cons_cons (a b : Nat) (t : List Nat) :
    (a :: b :: t).reverse = t.reverse ++ [b, a] := by simp

/-- the back-pointer walk `[a, prev a, prev (prev a), …, x]`, `prev x = none`: in range, ranks go
down, reversed it is a walk whose bottleneck joins the labels of its two ends -/
theorem walkRev_facts {st : St} (h : InvW n F S st) (rank : Nat → Nat)
    (hr : ∀ v u, st.prev v = some u → rank u < rank v) (fuel a : Nat) (rp : List Nat) (ha : a < n)
    (hw : walkRev st.prev fuel a = some rp) :
    rp.head? = some a ∧ (∀ x ∈ rp, x < n) ∧ (∀ x ∈ rp.tail, rank x < rank a) ∧ rp.Nodup ∧
      Adj F rp.reverse ∧ (st.lab a = Ext.ninf → rp.length = 1) ∧
      ∃ x, rp.getLast? = some x ∧ st.prev x = none ∧
        st.lab a = min (st.lab x) (bneck F rp.reverse) := by
  induction fuel generalizing a rp with
  | zero => cases hw
  | succ fuel ih =>
    unfold walkRev at hw
    cases hp : st.prev a with
    | none =>
      rw [hp] at hw
      cases hw
      exact ⟨rfl, fun x hx => List.mem_singleton.1 hx ▸ ha, fun _ hx => absurd hx List.not_mem_nil,
        List.pairwise_singleton _ a, trivial, fun _ => rfl, a, rfl, hp, (Ext.min_pinf _).symm⟩
    | some b =>
      rw [hp] at hw
      dsimp only at hw
      obtain ⟨hvb, hpos, hlab, -, -⟩ := h.prev_spec a b hp
      cases hw' : walkRev st.prev fuel b with
      | none => rw [hw'] at hw; cases hw
      | some l =>
        rw [hw'] at hw
        cases hw
        obtain ⟨i0, i1, i2, i3, i4, -, y, i6, i7, i8⟩ := ih b l (h.vis_lt b hvb) hw'
        cases l with
        | nil => cases i0
        | cons b' t =>
          cases Option.some.inj i0
          have hrk : ∀ z ∈ b :: t, rank z < rank a := fun z hz =>
            (List.mem_cons.1 hz).elim (fun e => e ▸ hr a b hp) fun hz =>
              Nat.lt_trans (i2 z hz) (hr a b hp)
          refine ⟨rfl, fun z hz => (List.mem_cons.1 hz).elim (fun e => e ▸ ha) (i1 z), hrk,
            List.nodup_cons.2 ⟨fun hx => Nat.lt_irrefl _ (hrk a hx), i3⟩, ?_,
            fun hl => absurd (hlab.symm.trans hl) (relax_ne_ninf _ _ (h.vis_lab b hvb)), y,
            List.getLast?_cons_cons.trans i6, i7, ?_⟩
          · rw [reverse_cons_cons, adj_snoc, ← List.reverse_cons]
            exact ⟨i4, hpos⟩
          · rw [reverse_cons_cons, bneck_snoc, ← List.reverse_cons, hlab, relax_eq, i8, min_assoc]

theorem bneck_ne_ninf (F : Nat → Nat → Nat) (p : List Nat) : bneck F p ≠ Ext.ninf := by
  induction p with
  | nil => nofun
  | cons a t ih =>
    cases t with
    | nil => nofun
    | cons b t => exact Ext.min_ne_ninf nofun ih

theorem bneck_cons_cons_ne_pinf (F : Nat → Nat → Nat) (a b : Nat) (t : List Nat) :
    bneck F (a :: b :: t) ≠ Ext.pinf :=
  ne_of_lt (lt_of_le_of_lt (min_le_left (Ext.fin (F a b)) (bneck F (b :: t))) (Ext.fin_lt_pinf _))

theorem edges_cons_cons (a b : Nat) (t : List Nat) :
    edges (a :: b :: t) = (a, b) :: edges (b :: t) := rfl

theorem bneck_fin_spec (F : Nat → Nat → Nat) (p : List Nat) (f : Nat) (h : bneck F p = Ext.fin f) :
    (∀ e ∈ edges p, f ≤ F e.1 e.2) ∧ ∃ e ∈ edges p, F e.1 e.2 = f := by
  induction p generalizing f with
  | nil => cases h
  | cons a t ih =>
    cases t with
    | nil => cases h
    | cons b t =>
      rw [edges_cons_cons]
      rw [show bneck F (a :: b :: t) = min (Ext.fin (F a b)) (bneck F (b :: t)) from rfl] at h
      cases hbt : bneck F (b :: t) with
      | ninf => exact absurd hbt (bneck_ne_ninf F _)
      | pinf =>
        rw [hbt, Ext.min_pinf] at h
        cases h
        cases t with
        | nil =>
          refine ⟨fun e he => ?_, (a, b), List.mem_cons_self, rfl⟩
          cases List.mem_singleton.1 he
          exact Nat.le_refl _
        | cons c t' => exact absurd hbt (bneck_cons_cons_ne_pinf F b c t')
      | fin g =>
        rw [hbt, Ext.min_fin_fin] at h
        cases h
        obtain ⟨ih1, e, he, ih2⟩ := ih g hbt
        refine ⟨fun e' he' => ?_, ?_⟩
        · rcases List.mem_cons.1 he' with rfl | he'
          · exact Nat.min_le_left _ _
          · exact Nat.le_trans (Nat.min_le_right _ _) (ih1 e' he')
        · rcases Nat.le_total (F a b) g with hle | hle
          · exact ⟨(a, b), List.mem_cons_self, (Nat.min_eq_left hle).symm⟩
          · exact ⟨e, List.mem_cons_of_mem _ he, ih2.trans (Nat.min_eq_right hle).symm⟩

theorem bneck_mono (F G : Nat → Nat → Nat) (hle : ∀ i j, G i j ≤ F i j) (p : List Nat) :
    bneck G p ≤ bneck F p := by
  induction p with
  | nil => exact le_refl _
  | cons a t ih =>
    cases t with
    | nil => exact le_refl _
    | cons b t => exact min_le_min ((Ext.fin_le_fin _ _).2 (hle a b)) ih

theorem adj_iff (F : Nat → Nat → Nat) (p : List Nat) : Adj F p ↔ ∀ e ∈ edges p, 0 < F e.1 e.2 := by
  induction p with
  | nil => exact ⟨fun _ e he => absurd he List.not_mem_nil, fun _ => trivial⟩
  | cons a t ih =>
    cases t with
    | nil => exact ⟨fun _ e he => absurd he List.not_mem_nil, fun _ => trivial⟩
    | cons b t =>
      exact ⟨fun h e he => (List.mem_cons.1 he).elim (fun eq => eq ▸ h.1) (ih.1 h.2 e),
        fun h => ⟨h (a, b) List.mem_cons_self, ih.2 fun e he => h e (List.mem_cons_of_mem _ he)⟩⟩

theorem adj_mono (F G : Nat → Nat → Nat) (hle : ∀ i j, G i j ≤ F i j) (p : List Nat)
    (h : Adj G p) : Adj F p :=
  (adj_iff F p).2 fun e he => Nat.lt_of_lt_of_le ((adj_iff G p).1 h e he) (hle e.1 e.2)

end

/-- everything known about a successful `topPath` call -/
structure TopSpec (n : Nat) (F : Nat → Nat → Nat) (S T : List Nat) (p : List Nat) (fl : Ext) :
    Prop where
  src_lt : ∀ s ∈ S, s < n
  snk_lt : ∀ t ∈ T, t < n
  all_lt : ∀ x ∈ p, x < n
  nodup : p.Nodup
  adj : Adj F p
  last_mem : ∃ t, p.getLast? = some t ∧ t ∈ T
  /-- the walk starts in a source with the reported flux as its bottleneck, unless the sink was
  never reached (`fl = -inf`, `p = [first sink]`) -/
  head_cases : (∃ s, p.head? = some s ∧ s ∈ S ∧ bneck F p = fl) ∨ (fl = Ext.ninf ∧ p.length = 1)
  widest : ∀ (q : List Nat) (s t : Nat), q.head? = some s → s ∈ S → q.getLast? = some t → t ∈ T →
    Adj F q → (∀ x ∈ q, x < n) → bneck F q ≤ fl

theorem not_any_ge_iff {n : Nat} {S : List Nat} :
    ¬ S.any (fun s => decide (n ≤ s)) = true ↔ ∀ s ∈ S, s < n :=
  ⟨fun h s hs => Nat.lt_of_not_le fun hle => h (List.any_eq_true.2 ⟨s, hs, decide_eq_true hle⟩),
   fun hS h => by
    obtain ⟨s, hs, hle⟩ := List.any_eq_true.1 h
    exact Nat.not_le_of_lt (hS s hs) (of_decide_eq_true hle)⟩

theorem guard_iff {n : Nat} {S T : List Nat} :
    ¬ (S.any (fun s => decide (n ≤ s)) || T.any (fun s => decide (n ≤ s))) = true ↔
      (∀ s ∈ S, s < n) ∧ ∀ t ∈ T, t < n := by
  rw [Bool.or_eq_true, not_or, not_any_ge_iff, not_any_ge_iff]

theorem topPath_spec (n : Nat) (F : Nat → Nat → Nat) (S T : List Nat) (p : List Nat) (fl : Ext)
    (h : topPath n F S T = .ok (p, fl)) : TopSpec n F S T p fl := by
  unfold topPath at h
  split at h
  · cases h
  · next hg =>
    obtain ⟨hS, hT⟩ := guard_iff.1 hg
    split at h
    · cases h
    · next st hloop =>
      obtain ⟨hW, hopt⟩ := loop_spec (n := n) (F := F) (S := S) T _ _ st (initSt_invS hS) hloop
      split at h
      · cases h
      · next k t hb =>
        split at h
        · cases h
        · next rp hw =>
          simp only [Except.ok.injEq, Prod.mk.injEq] at h
          obtain ⟨rfl, rfl⟩ := h
          have htT : t ∈ T := best_mem st.lab T k t hb
          have htmax := (best_spec st.lab T k t hb).2
          obtain ⟨rank, r1, r2, r3⟩ := hW.rank
          obtain ⟨f0, f1, -, f3, f4, f5, x, f6, f7, f8⟩ :=
            walkRev_facts hW rank r3 _ t rp (hT t htT) hw
          refine { src_lt := hS, snk_lt := hT, all_lt := fun y hy => f1 y (List.mem_reverse.1 hy),
                   nodup := List.pairwise_reverse.2 (f3.imp Ne.symm), adj := f4,
                   last_mem := ⟨t, List.getLast?_reverse.trans f0, htT⟩, head_cases := ?_,
                   widest := fun q s t' hqh hs hql ht' hadj hlt =>
                     le_trans (hopt t' ht' q s hqh hs hql hadj hlt) (htmax t' ht') }
          by_cases hx : x ∈ S
          · refine Or.inl ⟨x, List.head?_reverse.trans f6, hx, ?_⟩
            rw [f8, hW.src_lab x hx, Ext.pinf_min]
          · rw [hW.none_lab x f7 hx] at f8
            have hlt : st.lab t = Ext.ninf := f8.trans (min_eq_left (Ext.ninf_le _))
            exact Or.inr ⟨hlt, List.length_reverse.trans (f5 hlt)⟩

theorem topPath_cases (n : Nat) (F : Nat → Nat → Nat) (S T : List Nat) :
    (topPath n F S T = .error .indexError ∧ ¬ ((∀ s ∈ S, s < n) ∧ (∀ t ∈ T, t < n))) ∨
    (topPath n F S T = .error .valueError ∧ (∀ s ∈ S, s < n) ∧ T = []) ∨
    (∃ p fl, topPath n F S T = .ok (p, fl) ∧ (∀ s ∈ S, s < n) ∧ (∀ t ∈ T, t < n) ∧ T ≠ []) := by
  unfold topPath
  split
  · next hg =>
    left
    refine ⟨rfl, ?_⟩
    rintro ⟨hS, hT⟩
    exact guard_iff.2 ⟨hS, hT⟩ hg
  · next hg =>
    right
    obtain ⟨hS, hT⟩ := guard_iff.1 hg
    obtain ⟨st, hst⟩ := loop_isSome (n := n) (F := F) (S := S) T _ _ (initSt_invS hS)
      measure_initSt
    rw [hst]
    obtain ⟨hW, -⟩ := loop_spec (n := n) (F := F) (S := S) T _ _ st (initSt_invS hS) hst
    simp only
    cases hb : best st.lab T with
    | none =>
      left
      exact ⟨rfl, hS, (best_eq_none _ _).1 hb⟩
    | some kt =>
      obtain ⟨k, t⟩ := kt
      right
      obtain ⟨rank, r1, r2, r3⟩ := hW.rank
      have hrt : rank t < n + 1 := by
        cases hv : st.visited t with
        | true => exact Nat.lt_succ_of_lt (Nat.lt_of_lt_of_le (r1 t hv) (nvis_le n st.visited))
        | false => exact r2 t hv ▸ Nat.lt_succ_of_le (nvis_le n st.visited)
      obtain ⟨l, hl⟩ := walkRev_isSome st.prev rank r3 (n + 1) t hrt
      simp only [hl]
      refine ⟨_, _, rfl, hS, hT, ?_⟩
      intro hnil
      rw [hnil] at hb
      cases hb

end Ens.Paths
