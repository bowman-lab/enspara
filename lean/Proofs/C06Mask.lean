import Proofs.C06History
/-!
`a[mask] = v`: `where(mask)` + `_convert_from_1d` + `_convert_from_2d` address exactly the `True`
cells of the mask, row-major, whenever the mask has the row structure of the array.
-/
namespace Ens.RaggedW
variable {α : Type}

theorem trueIdx_shift (bs : List Bool) (k : Nat) : trueIdx bs k = (trueIdx bs 0).map (k + ·) := by
  induction bs generalizing k with
  | nil => rfl
  | cons b bs ih =>
    simp only [trueIdx]
    rw [ih (k + 1), ih (0 + 1)]
    cases b
    · simp only [Bool.false_eq_true, if_false, List.map_map]
      apply List.map_congr_left
      intro x _
      simp only [Function.comp]; omega
    · simp only [if_true, List.map_cons, List.map_map, Nat.add_zero]
      congr 1
      apply List.map_congr_left
      intro x _
      simp only [Function.comp]; omega

theorem trueIdx_append (a b : List Bool) (k : Nat) :
    trueIdx (a ++ b) k = trueIdx a k ++ trueIdx b (k + a.length) := by
  induction a generalizing k with
  | nil => simp [trueIdx]
  | cons x xs ih =>
    simp only [List.cons_append, trueIdx, ih, List.length_cons]
    have : k + 1 + xs.length = k + (xs.length + 1) := by rw [Nat.add_assoc, Nat.add_comm 1]
    rw [this]
    cases x <;> simp

theorem trueIdx_lt (bs : List Bool) (k : Nat) : ∀ i ∈ trueIdx bs k, k ≤ i ∧ i < k + bs.length := by
  induction bs generalizing k with
  | nil => intro i hi; cases hi
  | cons b bs ih =>
    intro i hi
    have hrec : ∀ i ∈ trueIdx bs (k + 1), k ≤ i ∧ i < k + (b :: bs).length := fun i hi => by
      have := ih (k + 1) i hi
      rw [List.length_cons]
      omega
    cases b with
    | false => exact hrec i hi
    | true =>
      rcases List.mem_cons.mp hi with rfl | hi
      · rw [List.length_cons]; omega
      · exact hrec i hi

/-- flat positions of the `True` cells = flat offsets of the row-major `True` cells -/
theorem trueIdx_flatten (mask : List (List Bool)) :
    trueIdx mask.flatten 0 = (specMaskTargets mask).map (flatOf (mask.map List.length)) := by
  induction mask with
  | nil => rfl
  | cons row rest ih =>
    simp only [List.flatten_cons, trueIdx_append, Nat.zero_add, specMaskTargets, List.map_append,
      List.map_map, List.map_cons]
    congr 1
    · have : List.map (flatOf (row.length :: rest.map List.length) ∘ fun c => (0, c)) (trueIdx row 0)
          = List.map id (trueIdx row 0) := by
        apply List.map_congr_left
        intro c _
        simp [flatOf, Function.comp]
      rw [this, List.map_id]
    · rw [trueIdx_shift, ih, List.map_map]
      apply List.map_congr_left
      intro p _
      simp only [flatOf, Function.comp, startOf_cons_succ]
      omega

theorem specMaskTargets_valid (mask : List (List Bool)) (rows : Rows α)
    (h : mask.map List.length = rows.map List.length) : ValidTargets rows (specMaskTargets mask) := by
  induction mask generalizing rows with
  | nil => intro p hp; simp [specMaskTargets] at hp
  | cons mrow mrest ih =>
    cases rows with
    | nil => simp at h
    | cons row rest =>
      simp only [List.map_cons, List.cons.injEq] at h
      intro p hp
      simp only [specMaskTargets, List.mem_append, List.mem_map] at hp
      rcases hp with ⟨c, hc, rfl⟩ | ⟨q, hq, rfl⟩
      · refine ⟨row, rfl, ?_⟩
        have := (trueIdx_lt mrow 0 c hc).2
        omega
      · obtain ⟨r', h1, h2⟩ := ih rest h.2 q hq
        exact ⟨r', by simpa using h1, h2⟩

theorem findRowAux_none (ii : Nat) (sts : List Nat) (k best : Nat) (h : ∀ st ∈ sts, ii < st) :
    findRowAux ii sts k best = best := by
  induction sts generalizing k best with
  | nil => rfl
  | cons st rest ih =>
    simp only [findRowAux]
    have : ¬ st ≤ ii := Nat.not_le.mpr (h st List.mem_cons_self)
    simp only [this, if_false]
    exact ih (k + 1) best (fun x hx => h x (List.mem_cons_of_mem _ hx))

theorem startsFrom_ge (ls : List Nat) (acc : Nat) : ∀ st ∈ startsFrom acc ls, acc ≤ st := by
  induction ls generalizing acc with
  | nil => intro st hst; cases hst
  | cons l ls ih =>
    intro st hst
    simp only [startsFrom, List.mem_cons] at hst
    rcases hst with rfl | hst
    · exact Nat.le_refl _
    · exact Nat.le_trans (Nat.le_add_right acc l) (ih (acc + l) st hst)

/-- the row found for the flat position of cell `(r, c)` is `r` (also with empty rows around) -/
theorem findRowAux_startsFrom (ls : List Nat) : ∀ (acc k best r c : Nat) (hr : r < ls.length),
    c < ls[r] → findRowAux (acc + startOf ls r + c) (startsFrom acc ls) k best = k + r := by
  induction ls with
  | nil => intro _ _ _ r _ hr; exact absurd hr (Nat.not_lt_zero _)
  | cons l ls ih =>
    intro acc k best r c hr hc
    cases r with
    | zero =>
      simp only [List.getElem_cons_zero] at hc
      simp only [startOf_zero, Nat.add_zero, startsFrom, findRowAux]
      have : acc ≤ acc + c := Nat.le_add_right acc c
      simp only [this, if_true]
      rw [findRowAux_none]
      intro st hst
      have := startsFrom_ge ls (acc + l) st hst
      omega
    | succ r =>
      simp only [List.getElem_cons_succ] at hc
      simp only [startOf_cons_succ, startsFrom, findRowAux]
      have h1 : acc + (l + startOf ls r) + c = (acc + l) + startOf ls r + c := by omega
      rw [h1, ih (acc + l) (k + 1) _ r c (Nat.lt_of_succ_lt_succ hr) hc]
      omega

theorem convertOne_enc (rows : Rows α) (p : Nat × Nat) (row : List α) (h1 : rows[p.1]? = some row)
    (h2 : p.2 < row.length) :
    convertOne (rows.map List.length) ((p.1 : Int), (p.2 : Int)) = .ok (flatOf (rows.map List.length) p) := by
  have hr : p.1 < rows.length := (List.getElem?_eq_some_iff.mp h1).1
  refine (convertOne_row (num := (p.1 : Int)) (normIdx_ofNat hr) h1 _).trans ?_
  rw [show normIdx row.length ((p.2 : Nat) : Int) = .ok p.2 from normIdx_ofNat h2]
  rfl

/-- `np.where` on the flat mask followed by `_convert_from_1d` lists the `True` cells row-major -/
theorem whereMask_eq (mask : List (List Bool)) :
    whereMask mask = (specMaskTargets mask).map (fun p => ((p.1 : Int), (p.2 : Int))) := by
  unfold whereMask
  simp only []
  rw [trueIdx_flatten, List.map_map]
  apply List.map_congr_left
  intro p hp
  obtain ⟨row, h1, h2⟩ := specMaskTargets_valid mask mask rfl p hp
  obtain ⟨hr, hrow⟩ := List.getElem?_eq_some_iff.mp h1
  have hrl : p.1 < (mask.map List.length).length := by rw [List.length_map]; exact hr
  have hcl : p.2 < (mask.map List.length)[p.1] := by rw [List.getElem_map, hrow]; exact h2
  have hfind : findRow (starts (mask.map List.length)) (flatOf (mask.map List.length) p) = p.1 := by
    unfold findRow flatOf starts
    cases hm : mask.map List.length with
    | nil => rw [hm] at hrl; cases hrl
    | cons l ls =>
      simp only []
      have := findRowAux_startsFrom (l :: ls) 0 0 0 p.1 p.2 (by rw [← hm]; exact hrl)
        (by simp only [← hm]; exact hcl)
      simpa using this
  have hst : (starts (mask.map List.length)).getD p.1 0 = startOf (mask.map List.length) p.1 := by
    rw [List.getD_eq_getElem?_getD, starts_getElem? _ _ hrl]
    rfl
  simp only [Function.comp, hfind, hst]
  simp [flatOf]

/-- **the mask addresses its `True` cells** -/
theorem maskAgree_of_lengths (cfg : Cfg) {s : State α} (hc : Coherent s) (mask : List (List Bool))
    (hlen : mask.map List.length = s.lengths)
    (hne : cfg.readsFix = true ∨ (whereMask mask).isEmpty = false) : MaskAgree cfg s mask := by
  have hl := hc.lengths_eq
  have hvalid := specMaskTargets_valid mask s.array (hlen.trans hl)
  refine ⟨hlen, ?_, hvalid, hne⟩
  rw [whereMask_eq, hl]
  unfold convertFrom2d
  rw [mapE_map_arg]
  apply mapE_eq_ok_map
  intro p hp
  obtain ⟨row, h1, h2⟩ := hvalid p hp
  exact convertOne_enc s.array p row h1 h2

end Ens.RaggedW
