import Model.Msm
import Proofs.Basic
/-!
Estimator = pipeline, the mappings `fit` produces (identity, kept states) and their
well-formedness, dictionaries, the TrimMapping csv round trip.  Core Lean only.
-/
namespace Ens.Msm
open Ens Ens.Counts

theorem insertBy_perm {α : Type} (le : α → α → Bool) (a : α) (l : List α) :
    (insertBy le a l).Perm (a :: l) := by
  induction l with
  | nil => exact List.Perm.refl _
  | cons b l ih =>
    simp only [insertBy]
    split
    · exact List.Perm.refl _
    · exact (List.Perm.cons b ih).trans (List.Perm.swap a b l)

theorem stableSort_perm {α : Type} (le : α → α → Bool) (l : List α) : (stableSort le l).Perm l := by
  induction l with
  | nil => exact List.Perm.refl _
  | cons a l ih => exact (insertBy_perm le a _).trans (List.Perm.cons a ih)

theorem insertBy_pairwise {α : Type} (le : α → α → Bool)
    (trans : ∀ a b c, le a b = true → le b c = true → le a c = true)
    (total : ∀ a b, le a b = true ∨ le b a = true) (a : α) (l : List α)
    (h : l.Pairwise (fun x y => le x y = true)) :
    (insertBy le a l).Pairwise (fun x y => le x y = true) := by
  induction l with
  | nil => simp [insertBy]
  | cons b l ih =>
    simp only [insertBy]
    have hb := List.pairwise_cons.mp h
    split
    · rename_i hab
      refine List.pairwise_cons.mpr ⟨?_, h⟩
      intro x hx
      rcases List.mem_cons.mp hx with e | hm
      · rw [e]; exact hab
      · exact trans _ _ _ hab (hb.1 x hm)
    · rename_i hab
      have hba : le b a = true := (total a b).resolve_left hab
      refine List.pairwise_cons.mpr ⟨?_, ih hb.2⟩
      intro x hx
      rcases List.mem_cons.mp ((insertBy_perm le a l).mem_iff.mp hx) with e | hm
      · rw [e]; exact hba
      · exact hb.1 x hm

theorem stableSort_pairwise {α : Type} (le : α → α → Bool)
    (trans : ∀ a b c, le a b = true → le b c = true → le a c = true)
    (total : ∀ a b, le a b = true ∨ le b a = true) (l : List α) :
    (stableSort le l).Pairwise (fun x y => le x y = true) := by
  induction l with
  | nil => exact List.Pairwise.nil
  | cons a l ih => exact insertBy_pairwise le trans total a _ ih

theorem stableSort_of_pairwise {α : Type} (le : α → α → Bool) (l : List α)
    (h : l.Pairwise (fun x y => le x y = true)) : stableSort le l = l := by
  induction l with
  | nil => rfl
  | cons a l ih =>
    have ha := List.pairwise_cons.mp h
    simp only [stableSort, ih ha.2]
    cases l with
    | nil => rfl
    | cons b l' => simp only [insertBy, ha.1 b List.mem_cons_self, if_true]

theorem MSM.fit_eq_pipeline {C T P : Type} (m : MSM (Builder C T P)) (trimF : Trimmer)
    (rows : List (List Int)) :
    m.fit trimF rows =
      pipeline m.lagTime m.slidingWindow m.maxNStates m.trim trimF m.method rows := by
  simp only [MSM.fit, pipeline, bind, Except.bind, pure, Except.pure]
  cases liftC (assignsToCounts rows m.lagTime m.maxNStates m.slidingWindow) with
  | error e => rfl
  | ok c =>
    cases m.trim with
    | false =>
      simp only [Bool.false_eq_true, if_false]
      cases m.method c with
      | error e => rfl
      | ok r => rfl
    | true =>
      simp only [if_true]
      cases trimF c with
      | error e => rfl
      | ok mc =>
        dsimp only
        cases m.method mc.2 with
        | error e => rfl
        | ok r => rfl

/-- every constructor argument is stored unchanged -/
theorem mk_stores {F : Type} (builders : String → Option F) (lag : Int) (f : F)
    (trim sliding : Bool) (maxN : Option Nat) :
    mkMSM builders lag (.callable f) trim sliding maxN =
      .ok { lagTime := lag, trim := trim, maxNStates := maxN, method := f, slidingWindow := sliding } := rfl

theorem Dict.insert_fresh (d : Dict) (k v : Int) (h : k ∉ d.map (·.1)) :
    Dict.insert d k v = d ++ [(k, v)] := by
  induction d with
  | nil => rfl
  | cons p rest ih =>
    obtain ⟨k', v'⟩ := p
    simp only [List.map_cons, List.mem_cons, not_or] at h
    have hne : ¬ k' = k := fun e => h.1 e.symm
    simp only [Dict.insert, hne, if_false, List.cons_append, ih h.2]

theorem Dict.foldl_insert_nodup (ps acc : List (Int × Int))
    (h : ((acc ++ ps).map (·.1)).Nodup) :
    ps.foldl (fun d p => Dict.insert d p.1 p.2) acc = acc ++ ps := by
  induction ps generalizing acc with
  | nil => simp
  | cons p rest ih =>
    have hfresh : p.1 ∉ acc.map (·.1) := by
      simp only [List.map_append, List.map_cons] at h
      have := (List.nodup_append.mp h).2.2
      intro hm
      exact this _ hm _ (List.mem_cons_self) rfl
    simp only [List.foldl_cons, Dict.insert_fresh acc p.1 p.2 hfresh]
    have : acc ++ [(p.1, p.2)] ++ rest = acc ++ p :: rest := by simp
    rw [ih (acc ++ [(p.1, p.2)]) (by rw [this]; exact h), this]

theorem Dict.ofPairs_nodup (ps : List (Int × Int)) (h : (ps.map (·.1)).Nodup) :
    Dict.ofPairs ps = ps := by
  have := Dict.foldl_insert_nodup ps [] (by simpa using h)
  simpa [Dict.ofPairs] using this

theorem Dict.lookup_of_mem (d : Dict) (h : (d.map (·.1)).Nodup) (p : Int × Int) (hp : p ∈ d) :
    Dict.lookup d p.1 = some p.2 := by
  induction d with
  | nil => cases hp
  | cons q rest ih =>
    obtain ⟨k', v'⟩ := q
    simp only [List.map_cons, List.nodup_cons] at h
    rcases List.mem_cons.mp hp with e | hm
    · subst e; simp [Dict.lookup]
    · have hne : ¬ k' = p.1 := fun e => h.1 (e ▸ List.mem_map.mpr ⟨p, hm, rfl⟩)
      simp only [Dict.lookup, hne, if_false]
      exact ih h.2 hm

theorem Dict.beq_of_perm (a b : Dict) (hp : a.Perm b) (hb : (b.map (·.1)).Nodup) :
    Dict.beq a b = true := by
  simp only [Dict.beq, Bool.and_eq_true, beq_iff_eq, List.all_eq_true]
  refine ⟨hp.length_eq, ?_⟩
  intro p hpa
  exact Dict.lookup_of_mem b hb p (hp.mem_iff.mp hpa)

theorem map_swap_swap (l : List (Int × Int)) : (l.map swap).map swap = l := by
  rw [List.map_map]; exact List.map_id l

theorem map_fst_swap (l : List (Int × Int)) : (l.map swap).map (·.1) = l.map (·.2) := by
  rw [List.map_map]; rfl

theorem map_snd_swap (l : List (Int × Int)) : (l.map swap).map (·.2) = l.map (·.1) := by
  rw [List.map_map]; rfl

/-- keys distinct (a dict) and values distinct (the mapping is injective) -/
def TrimMapping.WellFormed (m : TrimMapping) : Prop :=
  (m.toOriginal.map (·.1)).Nodup ∧ (m.toOriginal.map (·.2)).Nodup

theorem nodup_cast {l : List Nat} (h : l.Nodup) : (l.map fun (i : Nat) => (i : Int)).Nodup := by
  rw [List.nodup_iff_pairwise_ne, List.pairwise_map]
  exact h.imp (by intro a b hab e; exact hab (by exact_mod_cast e))

theorem ofTransformations_wf (ts : List (Int × Int)) (h1 : (ts.map (·.1)).Nodup)
    (h2 : (ts.map (·.2)).Nodup) :
    (TrimMapping.ofTransformations ts).toOriginal = ts.map swap ∧
    (TrimMapping.ofTransformations ts).WellFormed := by
  have e : (TrimMapping.ofTransformations ts).toOriginal = ts.map swap :=
    Dict.ofPairs_nodup _ (by rw [map_fst_swap]; exact h2)
  refine ⟨e, ?_, ?_⟩
  · rw [e, map_fst_swap]; exact h2
  · rw [e, map_snd_swap]; exact h1

theorem identity_spec (n : Nat) :
    (TrimMapping.identity n).toOriginal = (List.range n).map (fun (i : Nat) => ((i : Int), (i : Int))) ∧
    (TrimMapping.identity n).WellFormed := by
  have hn : (((List.range n).map fun (i : Nat) => ((i : Int), (i : Int))).map (·.1)).Nodup := by
    rw [List.map_map]; exact nodup_cast List.nodup_range
  obtain ⟨e, wf⟩ := ofTransformations_wf _ hn (by rw [List.map_map]; exact nodup_cast List.nodup_range)
  exact ⟨e.trans (by rw [List.map_map]; rfl), wf⟩

theorem identity_wf (n : Nat) : (TrimMapping.identity n).WellFormed := (identity_spec n).2

theorem identity_lookup (n i : Nat) (h : i < n) :
    Dict.lookup (TrimMapping.identity n).toOriginal i = some (i : Int) :=
  Dict.lookup_of_mem _ (identity_wf n).1 ((i : Int), (i : Int)) (by
    rw [(identity_spec n).1]; exact List.mem_map.mpr ⟨i, List.mem_range.mpr h, rfl⟩)

theorem identity_length (n : Nat) : (TrimMapping.identity n).toOriginal.length = n := by
  rw [(identity_spec n).1, List.length_map, List.length_range]

/-- `TrimMapping(zip(keep_states, range(len(keep_states))))`, the mapping `trim_disconnected` builds
from the distinct kept states -/
theorem keep_mapping_wf (keep : List Nat) (h : keep.Nodup) :
    (TrimMapping.ofTransformations ((keep.zip (List.range keep.length)).map
        fun p => ((p.1 : Int), (p.2 : Int)))).WellFormed := by
  have hl : keep.length = (List.range keep.length).length := List.length_range.symm
  apply (ofTransformations_wf _ ?_ ?_).2
  · have e : ((keep.zip (List.range keep.length)).map fun p => ((p.1 : Int), (p.2 : Int))).map (·.1)
        = ((keep.zip (List.range keep.length)).map (·.1)).map fun (i : Nat) => (i : Int) := by
      rw [List.map_map, List.map_map]; rfl
    rw [e, List.map_fst_zip (Nat.le_of_eq hl)]; exact nodup_cast h
  · have e : ((keep.zip (List.range keep.length)).map fun p => ((p.1 : Int), (p.2 : Int))).map (·.2)
        = ((keep.zip (List.range keep.length)).map (·.2)).map fun (i : Nat) => (i : Int) := by
      rw [List.map_map, List.map_map]; rfl
    rw [e, List.map_snd_zip (Nat.le_of_eq hl.symm)]; exact nodup_cast List.nodup_range

theorem fit_untrimmed_mapping {C T P : Type} (m : MSM (Builder C T P)) (hm : m.trim = false)
    (trimF : Trimmer) (rows : List (List Int)) (r : Fit C T P) (h : m.fit trimF rows = .ok r) :
    ∃ c, liftC (assignsToCounts rows m.lagTime m.maxNStates m.slidingWindow) = .ok c ∧
      r.mapping = TrimMapping.identity c.n := by
  obtain ⟨c, hc, h⟩ := bind_eq_ok.1 h
  rw [hm] at h
  obtain ⟨_, hx, h⟩ := bind_eq_ok.1 h
  cases hx
  obtain ⟨_, _, h⟩ := bind_eq_ok.1 h
  cases h
  exact ⟨c, hc, rfl⟩

theorem toMapped_wf (m : TrimMapping) (wf : m.WellFormed) : m.toMapped = m.toOriginal.map swap := by
  apply Dict.ofPairs_nodup
  rw [map_fst_swap]; exact wf.2

def rowOf (print : Int → String) (p : Int × Int) : List String := [print p.1, print p.2]

theorem readRows_rows (print : Int → String) (parse : String → Option Int)
    (hpp : ∀ i, parse (print i) = some i) (l : List (Int × Int)) (a b : List Int) :
    readRows parse (l.map (rowOf print)) (a, b) = .ok (a ++ l.map (·.1), b ++ l.map (·.2)) := by
  induction l generalizing a b with
  | nil => simp [readRows, pure, Except.pure]
  | cons p rest ih =>
    simp only [List.map_cons, readRows, rowOf, readRow, hpp, bind, Except.bind, pure, Except.pure]
    have := ih (a ++ [p.1]) (b ++ [p.2])
    rw [this]
    simp

theorem zip_fst_snd (l : List (Int × Int)) : (l.map (·.1)).zip (l.map (·.2)) = l := by
  induction l with
  | nil => rfl
  | cons p rest ih => simp [ih]

theorem read_write (print : Int → String) (parse : String → Option Int)
    (hpp : ∀ i, parse (print i) = some i) (m : TrimMapping) (wf : m.WellFormed) :
    TrimMapping.read parse (m.write print) =
      .ok { toOriginal := (stableSort (fun a b => decide (a.1 ≤ b.1)) (m.toOriginal.map swap)).map swap } := by
  have hperm := stableSort_perm (fun a b => decide (a.1 ≤ b.1)) (m.toOriginal.map swap)
  generalize hs : stableSort (fun a b => decide (a.1 ≤ b.1)) (m.toOriginal.map swap) = sorted at hperm
  have hw : m.write print = csvHeader :: sorted.map (rowOf print) := by
    simp only [TrimMapping.write, toMapped_wf m wf, hs]; rfl
  rw [hw]
  simp only [TrimMapping.read, ne_eq, not_true_eq_false, if_false, bind, Except.bind]
  rw [readRows_rows print parse hpp sorted [] []]
  simp only [List.nil_append, pure, Except.pure, zip_fst_snd, TrimMapping.ofTransformations]
  congr 2
  apply Dict.ofPairs_nodup
  rw [map_fst_swap]
  have : (sorted.map (·.2)).Perm ((m.toOriginal.map swap).map (·.2)) := hperm.map _
  rw [this.nodup_iff, map_snd_swap]
  exact wf.1

theorem read_write_perm (m : TrimMapping) :
    ((stableSort (fun a b => decide (a.1 ≤ b.1)) (m.toOriginal.map swap)).map swap).Perm m.toOriginal := by
  have := (stableSort_perm (fun a b => decide (a.1 ≤ b.1)) (m.toOriginal.map swap)).map swap
  rwa [map_swap_swap] at this

end Ens.Msm
