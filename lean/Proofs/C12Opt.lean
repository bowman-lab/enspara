import Mathlib.Analysis.SpecialFunctions.Log.Basic
import Mathlib.Algebra.BigOperators.Fin
import Mathlib.Algebra.BigOperators.Field
import Mathlib.Algebra.Order.BigOperators.Ring.Finset
import Mathlib.Algebra.Order.Field.Basic
import Mathlib.Tactic.Ring
import Mathlib.Tactic.Linarith
import Mathlib.Tactic.LinearCombination

/-!
# C12 optimality, the mathematics (no model)

A symmetric non-negative matrix `X` with positive row sums `x` that satisfies the Prinz
self-consistency equations for the counts `C` (row sums `c > 0`)

  `(C_ij + C_ji) · x_i · x_j = X_ij · (c_i · x_j + c_j · x_i)`      (all `i j`, also `i = j`)

maximises the reversible log-likelihood `L(Z) = Σ_ij C_ij · log (Z_ij / z_i)`: for every
symmetric non-negative `Y` with positive row sums `y` that is positive wherever `C` is (that
is: every reversible model of finite likelihood), `L(Y) ≤ L(X)`.

Proof.  Put `ℓ_ij = log Y_ij − log X_ij` (symmetric) and `μ_i = log y_i − log x_i`.
* Jensen in the form `log t ≤ t − 1`: `Σ_j X_ij (ℓ_ij − μ_i) ≤ Σ_j (Y_ij x_i / y_i − X_ij) = 0`.
* With `D_ij = C_ij − (c_i / x_i) X_ij`: `Σ_j D_ij = 0` and, by the Prinz equations,
  `D_ij + D_ji = 0`; hence `Σ_ij D_ij (ℓ_ij − μ_i) = 0` (`ℓ` is symmetric).
* `L(Y) − L(X) = Σ_ij C_ij (ℓ_ij − μ_i) = Σ_i (c_i / x_i) Σ_j X_ij (ℓ_ij − μ_i) ≤ 0`.
-/

namespace Ens.C12Opt

open Finset

variable {n : Nat}

/-- an antisymmetric weight against a symmetric function sums to zero -/
theorem sum_antisymm_symm (D l : Fin n → Fin n → ℝ) (hD : ∀ i j, D i j + D j i = 0)
    (hl : ∀ i j, l i j = l j i) : ∑ i, ∑ j, D i j * l i j = 0 := by
  have h1 : ∑ i, ∑ j, D i j * l i j = ∑ i, ∑ j, D j i * l i j := by
    rw [Finset.sum_comm]
    refine Finset.sum_congr rfl (fun i _ => Finset.sum_congr rfl (fun j _ => ?_))
    rw [hl j i]
  have h2 : ∑ i, ∑ j, D i j * l i j + ∑ i, ∑ j, D j i * l i j = 0 := by
    rw [← Finset.sum_add_distrib]
    refine Finset.sum_eq_zero (fun i _ => ?_)
    rw [← Finset.sum_add_distrib]
    refine Finset.sum_eq_zero (fun j _ => ?_)
    rw [← add_mul, hD i j, zero_mul]
  linarith

/-- one row of Jensen's inequality for `log`, from `log t ≤ t − 1` -/
theorem row_jensen (X Y : Fin n → ℝ) (x y : ℝ)
    (hX0 : ∀ j, 0 ≤ X j) (hY0 : ∀ j, 0 ≤ Y j) (hXY : ∀ j, 0 < X j → 0 < Y j)
    (hx : x = ∑ j, X j) (hy : y = ∑ j, Y j) (hxpos : 0 < x) (hypos : 0 < y) :
    ∑ j, X j * ((Real.log (Y j) - Real.log (X j)) - (Real.log y - Real.log x)) ≤ 0 := by
  have hterm : ∀ j, X j * ((Real.log (Y j) - Real.log (X j)) - (Real.log y - Real.log x))
      ≤ Y j * x / y - X j := by
    intro j
    rcases eq_or_lt_of_le (hX0 j) with h0 | hpos
    · rw [← h0, zero_mul, sub_zero]
      exact div_nonneg (mul_nonneg (hY0 j) hxpos.le) hypos.le
    · have hYpos := hXY j hpos
      have ht : 0 < Y j * x / (X j * y) := div_pos (mul_pos hYpos hxpos) (mul_pos hpos hypos)
      have hlog : Real.log (Y j * x / (X j * y))
          = (Real.log (Y j) - Real.log (X j)) - (Real.log y - Real.log x) := by
        rw [Real.log_div (mul_pos hYpos hxpos).ne' (mul_pos hpos hypos).ne',
          Real.log_mul hYpos.ne' hxpos.ne',
          Real.log_mul hpos.ne' hypos.ne']
        ring
      rw [← hlog]
      have hle := Real.log_le_sub_one_of_pos ht
      calc X j * Real.log (Y j * x / (X j * y))
          ≤ X j * (Y j * x / (X j * y) - 1) := mul_le_mul_of_nonneg_left hle hpos.le
        _ = Y j * x / y - X j := by
          rw [mul_sub, mul_one, ← mul_div_assoc, mul_div_mul_left _ _ hpos.ne']
  calc ∑ j, X j * ((Real.log (Y j) - Real.log (X j)) - (Real.log y - Real.log x))
      ≤ ∑ j, (Y j * x / y - X j) := Finset.sum_le_sum (fun j _ => hterm j)
    _ = 0 := by
      rw [Finset.sum_sub_distrib, ← Finset.sum_div, ← Finset.sum_mul, ← hx, ← hy,
        mul_div_cancel_left₀ _ hypos.ne', sub_self]

/-- **The Prinz fixed point is the reversible maximum-likelihood estimate.** -/
theorem loglik_le (C X Y : Fin n → Fin n → ℝ) (c x y : Fin n → ℝ)
    (hC0 : ∀ i j, 0 ≤ C i j) (hc : ∀ i, c i = ∑ j, C i j) (hcpos : ∀ i, 0 < c i)
    (hXs : ∀ i j, X i j = X j i) (hX0 : ∀ i j, 0 ≤ X i j)
    (hx : ∀ i, x i = ∑ j, X i j) (hxpos : ∀ i, 0 < x i)
    (hYs : ∀ i j, Y i j = Y j i) (hY0 : ∀ i j, 0 ≤ Y i j)
    (hy : ∀ i, y i = ∑ j, Y i j) (hypos : ∀ i, 0 < y i)
    (hE : ∀ i j, (C i j + C j i) * x i * x j = X i j * (c i * x j + c j * x i))
    (hsupp : ∀ i j, 0 < C i j → 0 < Y i j) :
    ∑ i, ∑ j, C i j * Real.log (Y i j / y i) ≤ ∑ i, ∑ j, C i j * Real.log (X i j / x i) := by
  -- the logarithms split only at positive arguments: `X > 0 ⇒ Y > 0` (step A), `C > 0 ⇒ X > 0` (step C)
  have hXC : ∀ i j, 0 < X i j → 0 < C i j + C j i := by
    intro i j hpos
    have hr : 0 < X i j * (c i * x j + c j * x i) :=
      mul_pos hpos (add_pos (mul_pos (hcpos i) (hxpos j)) (mul_pos (hcpos j) (hxpos i)))
    rw [← hE i j] at hr
    have hxx : 0 < x i * x j := mul_pos (hxpos i) (hxpos j)
    by_contra hn
    have hz : C i j + C j i = 0 := le_antisymm (not_lt.1 hn) (add_nonneg (hC0 i j) (hC0 j i))
    rw [hz, zero_mul, zero_mul] at hr
    exact lt_irrefl _ hr
  have hXY : ∀ i j, 0 < X i j → 0 < Y i j := by
    intro i j hpos
    have h := hXC i j hpos
    by_cases h1 : 0 < C i j
    · exact hsupp i j h1
    · have h2 : 0 < C j i := by
        have : C i j = 0 := le_antisymm (not_lt.1 h1) (hC0 i j)
        linarith
      rw [hYs i j]; exact hsupp j i h2
  have hCX : ∀ i j, 0 < C i j → 0 < X i j := by
    intro i j hpos
    have hl : 0 < (C i j + C j i) * x i * x j :=
      mul_pos (mul_pos (add_pos_of_pos_of_nonneg hpos (hC0 j i)) (hxpos i)) (hxpos j)
    rw [hE i j] at hl
    rcases eq_or_lt_of_le (hX0 i j) with h0 | h
    · rw [← h0, zero_mul] at hl; exact absurd hl (lt_irrefl _)
    · exact h
  set l : Fin n → Fin n → ℝ := fun i j => Real.log (Y i j) - Real.log (X i j) with hl
  set m : Fin n → ℝ := fun i => Real.log (y i) - Real.log (x i) with hm
  have hls : ∀ i j, l i j = l j i := by
    intro i j; simp only [hl]; rw [hXs i j, hYs i j]
  -- step A: Jensen per row
  have hA : ∀ i, ∑ j, X i j * (l i j - m i) ≤ 0 := fun i =>
    row_jensen (X i) (Y i) (x i) (y i) (hX0 i) (hY0 i) (hXY i) (hx i) (hy i) (hxpos i) (hypos i)
  -- step B: the defect `D` is killed by the Prinz equations
  set D : Fin n → Fin n → ℝ := fun i j => C i j - c i / x i * X i j with hD
  have hDrow : ∀ i, ∑ j, D i j = 0 := by
    intro i
    simp only [hD]
    rw [Finset.sum_sub_distrib, ← Finset.mul_sum, ← hc i, ← hx i,
      div_mul_cancel₀ _ (hxpos i).ne', sub_self]
  have hDanti : ∀ i j, D i j + D j i = 0 := by
    intro i j
    simp only [hD]
    have h1 : c i / x i * x i = c i := div_mul_cancel₀ _ (hxpos i).ne'
    have h2 : c j / x j * x j = c j := div_mul_cancel₀ _ (hxpos j).ne'
    -- multiplied by `x i * x j` the sum is the Prinz equation
    have : (C i j - c i / x i * X i j + (C j i - c j / x j * X j i)) * (x i * x j) = 0 := by
      rw [hXs j i]
      linear_combination hE i j - X i j * x j * h1 - X i j * x i * h2
    exact (mul_eq_zero.1 this).resolve_right (mul_pos (hxpos i) (hxpos j)).ne'
  have hB1 : ∑ i, ∑ j, D i j * l i j = 0 := sum_antisymm_symm D l hDanti hls
  have hB2 : ∑ i, ∑ j, D i j * m i = 0 := by
    refine Finset.sum_eq_zero (fun i _ => ?_)
    rw [← Finset.sum_mul, hDrow i, zero_mul]
  have hB : ∑ i, ∑ j, C i j * (l i j - m i) = ∑ i, c i / x i * ∑ j, X i j * (l i j - m i) := by
    have hsplit : ∀ i j, C i j * (l i j - m i)
        = c i / x i * (X i j * (l i j - m i)) + (D i j * l i j - D i j * m i) := by
      intro i j; simp only [hD]; ring
    simp only [hsplit, Finset.sum_add_distrib, Finset.sum_sub_distrib, ← Finset.mul_sum]
    rw [hB1, hB2]; ring
  -- step C: the difference of the likelihoods
  have hCterm : ∀ i j, C i j * Real.log (Y i j / y i) - C i j * Real.log (X i j / x i)
      = C i j * (l i j - m i) := by
    intro i j
    rcases eq_or_lt_of_le (hC0 i j) with h0 | hpos
    · rw [← h0]; ring
    · have hXp := hCX i j hpos
      have hYp := hsupp i j hpos
      simp only [hl, hm]
      rw [Real.log_div hYp.ne' (hypos i).ne', Real.log_div hXp.ne' (hxpos i).ne']
      ring
  have hfinal : ∑ i, ∑ j, C i j * Real.log (Y i j / y i)
      - ∑ i, ∑ j, C i j * Real.log (X i j / x i) ≤ 0 := by
    rw [← Finset.sum_sub_distrib]
    simp only [← Finset.sum_sub_distrib, hCterm]
    rw [hB]
    refine Finset.sum_nonpos (fun i _ => ?_)
    exact mul_nonpos_of_nonneg_of_nonpos (div_nonneg (hcpos i).le (hxpos i).le) (hA i)
  linarith

end Ens.C12Opt
