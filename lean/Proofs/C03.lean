import Proofs.PySlice
import Model.Counts
/-! Helper lemmas for C03: the two lagged views of `_transitions_helper`. -/
namespace Ens.Counts
open Ens

/-- number of lagged pairs taken from a row of length `L` -/
def nPairs (L lag s : Nat) : Nat := (L - lag + s - 1) / s

/-- the property's own words: pairs `(a[t], a[t+lag])` for `t = 0, s, 2s, … < L - lag` -/
def lagPairs (a : List Int) (lag s : Nat) : List (Int × Int) :=
  (List.range (nPairs a.length lag s)).map fun k => (a.getD (k * s) default, a.getD (k * s + lag) default)

def stepOf (lag : Nat) (sliding : Bool) : Nat := if sliding then 1 else lag

theorem indices_front (L lag s : Nat) (hlag : 1 ≤ lag) (hs : 1 ≤ s) :
    (PySlice.mk none (some (-(lag : Int))) (some (s : Int))).indices L
      = some ((List.range (nPairs L lag s)).map fun k => k * s) := by
  rw [PySlice.indices_of_pos (lo := 0) (hi := L - lag) hs rfl rfl (by simp only [clipPos]; omega)]
  simp only [nPairs, Nat.sub_zero, Nat.zero_add]

theorem indices_back (L lag s : Nat) (hs : 1 ≤ s) :
    (PySlice.mk (some (lag : Int)) none (some (s : Int))).indices L
      = some ((List.range (nPairs L lag s)).map fun k => min lag L + k * s) := by
  rw [PySlice.indices_of_pos (lo := min lag L) (hi := L) hs rfl (by simp only [clipPos]; omega) rfl,
    show L - min lag L = L - lag by omega]
  rfl

theorem pos_lt_of_lt_nPairs (L lag s k : Nat) (hs : 1 ≤ s) (hk : k < nPairs L lag s) : k * s + lag < L := by
  unfold nPairs at hk
  have h1 : (k + 1) * s ≤ ((L - lag + s - 1) / s) * s := Nat.mul_le_mul_right s hk
  have h2 : ((L - lag + s - 1) / s) * s ≤ L - lag + s - 1 := Nat.div_mul_le_self _ _
  rw [Nat.succ_mul] at h1
  omega

theorem transitionsHelper_eq (a : List Int) (lag : Nat) (sliding : Bool) (hlag : 1 ≤ lag) :
    transitionsHelper a lag sliding = .ok (lagPairs a lag (stepOf lag sliding)) := by
  have hsr : ((if sliding then (1:Int) else (lag:Int))) = ((stepOf lag sliding : Nat) : Int) := by
    cases sliding <;> simp [stepOf]
  have hs : 1 ≤ stepOf lag sliding := by cases sliding <;> simp [stepOf, hlag]
  generalize stepOf lag sliding = s at hsr hs
  unfold transitionsHelper
  simp only [hsr, PySlice.apply, indices_front a.length lag s hlag hs, indices_back a.length lag s hs,
    Option.map_some, List.map_map, List.length_map, List.length_range, if_true]
  congr 1
  unfold lagPairs
  rw [List.zip_eq_zipWith, List.zipWith_map, List.zipWith_self]
  apply List.map_congr_left
  intro k hk
  have hb := pos_lt_of_lt_nPairs a.length lag s k hs (List.mem_range.mp hk)
  have hmin : min lag a.length = lag := by omega
  simp only [Function.comp, hmin]
  congr 2
  omega

end Ens.Counts
