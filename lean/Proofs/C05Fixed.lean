import Proofs.C05Where
import Proofs.C05Attrs
import Proofs.PySlice
/-! The repaired variant (`getItemF`): reads that build a new RaggedArray from (row, column) pairs, and
tuples without slices. -/
namespace Ens.Ragged
open Ens

/-- L661-664: gathering the pairs of a selection given row by row and wrapping them with the
per-row counts as lengths gives the ragged array of the per-row selections -/
theorem finishF_eq {α β} (ra : RA α) (h : WF ra) (X : List β) (rowOf : β → Int) (cols : β → List Int) :
    absE (finishF ra (.ok (X.flatMap (fun x => (cols x).map fun j => (rowOf x, j)),
                           X.map fun x => (cols x).length))) =
      bindE (mapE (fun x => mapE (fun j => cell (rows ra) (rowOf x, j)) (cols x)) X)
        fun out => .ok (SRes.rows out) := by
  simp only [finishF, absE, bindE_ok, gather_eq ra h, mapE_flatMap, mapE_map]
  cases hm : mapE (fun x => mapE (fun j => cell (rows ra) (rowOf x, j)) (cols x)) X with
  | error e => rfl
  | ok rs =>
    simp only [bindE_ok]
    have hl := mapE_inner_lengths hm
    have hlen : rs.flatten.length = (X.map fun x => (cols x).length).sum := by
      rw [List.length_flatten, hl]
    simp only [ofFlatF]
    rw [if_neg (by rw [hlen]; simp)]
    simp only [bindE_ok, Res.abs]
    rw [← hl]
    exact congrArg (fun r => Except.ok (SRes.rows r)) (rows_ofRows' rs)

/-- A row slice in front of any column form: `code i` is what `__getitem__` computes for the row index `i`, `g` the
column selection on a row of the list of rows.  The positions of `slice.indices` are in range, so the rows exist. -/
theorem rowSliceF_eq {α} (ra : RA α) (rs : PySlice) {code : Int → Except Err (List α)}
    {g : List α → Except Err (List α)} (hg : ∀ row e, g row = .error e → e = .indexError)
    (hcode : ∀ (k : Nat) row, npIndex (rows ra) (Int.ofNat k) = .ok row → code (Int.ofNat k) = g row) :
    (bindE (sliceToListF rs ra.lengths.length) fun first =>
        bindE (mapE code first) fun out => .ok (SRes.rows out)) =
      bindE (npSlice (rows ra) rs) fun sel => bindE (mapE g sel) fun out => .ok (SRes.rows out) := by
  rw [sliceToListF, npSlice, rows_length]
  cases hix : rs.indices ra.lengths.length with
  | none => rfl
  | some ix =>
    simp only [bindE_ok]
    rw [← bindE_assoc, mapE_comp_same (e0 := Err.indexError) (getNat_error (rows ra)) hg, mapE_map]
    congr 1
    apply mapE_congr
    intro k hk
    have hlt : k < (rows ra).length := by rw [rows_length]; exact PySlice.indices_lt hix k hk
    rw [hcode k _ ((npIndex_ofNat (rows ra) k).trans (getNat_of_lt hlt)), getNat_of_lt hlt, bindE_ok]

theorem slice_list_coreF {α} (ra : RA α) (h : WF ra) (rs : PySlice) (l : List Int) :
    absE (bindE (sliceToListF rs ra.lengths.length) fun first =>
        finishF ra (.ok (getIisFromListF first l))) =
      bindE (npSlice (rows ra) rs) fun sel =>
        bindE (mapE (fun row => npTake row l) sel) fun out => .ok (SRes.rows out) := by
  have hfin : ∀ first : List Int, absE (finishF ra (.ok (getIisFromListF first l))) =
      bindE (mapE (fun i => mapE (fun j => cell (rows ra) (i, j)) l) first) fun out => .ok (SRes.rows out) := by
    intro first
    rw [getIisFromListF, ← List.map_const']
    exact finishF_eq ra h first (fun x => x) (fun _ => l)
  rw [absE_bindE]
  simp only [hfin]
  exact rowSliceF_eq ra rs (fun row e he => npTake_error row l e he)
    (fun k row hr => by simp only [cell, hr, bindE_ok, npTake])

theorem npSlice_errorF {β} {cs : PySlice} (hs : cs.step ≠ some 0) (row : List β) (e : Err)
    (h : npSlice row cs = .error e) : e = .indexError := by
  obtain ⟨ix, hix⟩ := PySlice.indices_isSome hs row.length
  simp only [npSlice, hix] at h
  exact mapE_error_same (getNat_error row) h

theorem colRangeF_error {cs : PySlice} (hs : cs.step ≠ some 0) (lens : List Nat) (i : Int) (e : Err)
    (h : colRangeF cs lens i = .error e) : e = .indexError := by
  rcases bindE_eq_error h with h | ⟨len, _, h⟩
  · exact npIndex_error _ _ _ h
  · obtain ⟨ix, hix⟩ := PySlice.indices_isSome hs len
    rw [hix] at h; cases h

/-- the lengths are the lengths of the rows, so the row index fails on both sides or on neither -/
theorem colRangeF_gather {α} (ra : RA α) (h : WF ra) {cs : PySlice} (hs : cs.step ≠ some 0) (i : Int) :
    bindE (colRangeF cs ra.lengths i) (fun p => mapE (fun j => cell (rows ra) (p.1, j)) p.2) =
      bindE (npIndex (rows ra) i) fun row => npSlice row cs := by
  rw [lengths_eq ra h]
  simp only [colRangeF, npIndex_map, bindE_assoc]
  cases hr : npIndex (rows ra) i with
  | error e => rfl
  | ok row =>
    obtain ⟨ix, hix⟩ := PySlice.indices_isSome hs row.length
    simp only [bindE_ok, hix, npSlice, mapE_map, cell, hr]
    exact mapE_congr fun k _ => npIndex_ofNat row k

theorem slices_coreF {α} (ra : RA α) (h : WF ra) (first : List Int) (cs : PySlice) (hs : cs.step ≠ some 0) :
    absE (finishF ra (getIisFromSlicesF first cs ra.lengths)) =
      bindE (mapE (fun i => bindE (npIndex (rows ra) i) fun row => npSlice row cs) first)
        fun out => .ok (SRes.rows out) := by
  -- row by row both sides agree; every failure is an `IndexError`, so that one pass splits into the
  -- code's two passes: all column ranges first, then all cells
  rw [← mapE_congr (fun i _ => colRangeF_gather ra h hs i),
    ← mapE_comp_same (e0 := Err.indexError) (colRangeF_error hs ra.lengths)
      (g := fun p : Int × List Int => mapE (fun j => cell (rows ra) (p.1, j)) p.2)
      (fun p e he => mapE_error_same (fun j => cell_error (rows ra) (p.1, j)) he)]
  simp only [getIisFromSlicesF]
  cases mapE (colRangeF cs ra.lengths) first with
  | error e => rfl
  | ok splits => exact finishF_eq ra h splits (fun p => p.1) (fun p => p.2)

theorem slice_slice_coreF {α} (ra : RA α) (h : WF ra) (rs cs : PySlice) (hs : cs.step ≠ some 0) :
    absE (bindE (sliceToListF rs ra.lengths.length) fun first =>
        finishF ra (getIisFromSlicesF first cs ra.lengths)) =
      bindE (npSlice (rows ra) rs) fun sel =>
        bindE (mapE (fun row => npSlice row cs) sel) fun out => .ok (SRes.rows out) := by
  rw [absE_bindE]
  simp only [slices_coreF ra h _ cs hs]
  exact rowSliceF_eq ra rs (fun row e he => npSlice_errorF hs row e he) (fun k row hr => by rw [hr, bindE_ok])

theorem pairedCoreF_zip {α} (ra : RA α) (f s0 : List Int) (hlen : f.length = s0.length) :
    pairedCoreF ra f s0 = bindE (gather ra (f.zip s0)) fun d => .ok (Res.arr d) := by
  unfold pairedCoreF
  have hc : ¬ (f.length ≠ 1 ∧ s0.length = 1) := by omega
  simp only [hc, if_false]
  rw [if_pos hlen]

theorem zip_replicate_eq {β γ} (l : List β) (c : γ) : l.zip (List.replicate l.length c) = l.map (fun x => (x, c)) := by
  induction l with
  | nil => rfl
  | cons x xs ih => simp [List.replicate_succ, ih]

theorem pairedCoreF_col {α} (ra : RA α) (f : List Int) (j : Int) :
    pairedCoreF ra f [j] = bindE (gather ra (f.map fun i => (i, j))) fun d => .ok (Res.arr d) := by
  by_cases h1 : f.length = 1
  · rw [pairedCoreF_zip ra f [j] (by simpa using h1)]
    cases f with
    | nil => simp at h1
    | cons x xs =>
      cases xs with
      | nil => rfl
      | cons y ys => simp at h1
  · unfold pairedCoreF
    have hc : f.length ≠ 1 ∧ [j].length = 1 := ⟨h1, rfl⟩
    rw [if_pos hc]
    simp only [List.length_replicate, if_true, List.headD_cons, zip_replicate_eq]

theorem pairedCoreF_row {α} (ra : RA α) (i : Int) (s0 : List Int) :
    pairedCoreF ra [i] s0 =
      if s0 = [] then bindE (npIndex ra.lengths i) fun _ => .ok (Res.arr [])
      else bindE (gather ra (s0.map fun j => (i, j))) fun d => .ok (Res.arr d) := by
  cases s0 with
  | nil => rfl
  | cons j js =>
    cases js with
    | nil => rfl
    | cons j2 js2 =>
      unfold pairedCoreF
      simp

theorem get_elem_F_of_convert_error {α} (ra : RA α) (fast : Bool) (i j : Int) (e : Err)
    (h : convertOne ra.lengths (i, j) = .error e) :
    getItemF ra fast (.two (.int i) (.int j)) = .error e := by
  simp only [getItemF, pairedF, idxArr, pairedCoreF_col, gather, convertFrom2d, List.map_cons, List.map_nil,
    mapE_cons, h, bindE_error]

end Ens.Ragged
