import Model.Info
import Proofs.Basic
/-!
`channel_capacity_normalization`: the grid of logarithm arguments.  Core Lean only.
-/
namespace Ens.Info

/-- the state count the validator assigns to feature `i` (a scalar is broadcast) -/
def stateAt (n : Int ⊕ List Int) (i : Nat) : Option Int :=
  match n with
  | .inl k => some k
  | .inr l => l[i]?

theorem validateStates_ok (n : Int ⊕ List Int) (dim : Nat) (l : List Int)
    (h : validateStates n dim = .ok l) :
    l.length = dim ∧ (∀ i, i < dim → l[i]? = stateAt n i) ∧ ∀ v ∈ l, 2 ≤ v := by
  unfold validateStates at h
  obtain ⟨h1, h⟩ := ite_error_eq_ok.1 h
  obtain ⟨h2, h⟩ := ite_not_error_eq_ok.1 h
  cases h
  refine ⟨h2, fun i hi => ?_,
    fun v hv => Int.not_lt.1 fun hlt => h1 (List.any_eq_true.2 ⟨v, hv, decide_eq_true hlt⟩)⟩
  cases n with
  | inl k => simp [stateAt, hi]
  | inr l' => rfl

theorem ccnGrid_length (nx ny : List Int) : (ccnGrid nx ny).length = nx.length := by
  simp [ccnGrid, meshgridIJ]

theorem ccnGrid_get (nx ny : List Int) (i j : Nat) (a b : Int)
    (ha : nx[i]? = some a) (hb : ny[j]? = some b) :
    ((ccnGrid nx ny)[i]?).bind (·[j]?) = some (min a b) := by
  simp [ccnGrid, meshgridIJ, List.getElem?_zipWith, List.getElem?_map, ha, hb]

theorem ccnGrid_row_length (nx ny : List Int) (i : Nat) (row : List Int)
    (h : (ccnGrid nx ny)[i]? = some row) : row.length = ny.length := by
  simp only [ccnGrid, meshgridIJ, List.getElem?_zipWith, List.getElem?_map] at h
  cases hx : nx[i]? with
  | none => simp [hx] at h
  | some a =>
    simp [hx] at h
    rw [← h]; simp

/-- the grid the code used before the `indexing='ij'` fix (`np.meshgrid` default `'xy'`) -/
def ccnGridXY (nx ny : List Int) : List (List Int) :=
  let g := meshgridXY nx ny
  List.zipWith (fun r s => List.zipWith min r s) g.1 g.2

end Ens.Info
