import Proofs.C14PamRun
import Proofs.C14Kcenters
/-!
Bridge between the two serial k-centers models: `Ens.Mpi.serialKcenters` (Model/Mpi.lean, distances in
`Dist` = rationals + inf, used for the distributed refinement) and `Ens.Cluster.kcenters`
(Model/Cluster.lean, rational arrays with a `fresh` flag, used by C01/C09 and by the distributed PAM
refinement).  On a rational table they compute the same state, so the distributed k-centers result is
the striped view of the C01-consistent serial state.
-/
namespace Ens.Mpi
open Ens.Cluster Ens.MpiPam

def Dist.toRat : Dist → Rat
  | .fin q => q
  | .inf => 0

/-- a rational table as a `Dist`-valued table -/
def finD (D : Table) : Nat → Nat → Dist := fun f c => .fin (D f c)

theorem fin_lt_fin (x y : Rat) : (Dist.fin x < Dist.fin y) ↔ x < y := Iff.rfl
theorem fin_lt_inf (x : Rat) : Dist.fin x < Dist.inf := trivial
theorem not_inf_lt (a : Dist) : ¬ Dist.inf < a := by cases a <;> exact fun h => h

theorem argmaxTo_fin (n : Nat) (d : Nat → Rat) (f : Nat → Dist) (h : ∀ i, i < n → f i = .fin (d i)) :
    Ens.argmaxTo n f = Ens.argmaxTo n d := by
  induction n with
  | zero => rfl
  | succ k ih =>
    rw [Ens.argmaxTo, Ens.argmaxTo]
    by_cases hk : k = 0
    · rw [if_pos hk, if_pos hk]
    · rw [if_neg hk, if_neg hk]
      dsimp only
      have hb : Ens.argmaxTo k d < k := (argmaxTo_spec k (Nat.pos_of_ne_zero hk) d).1
      rw [ih (fun i hi => h i (Nat.lt_succ_of_lt hi)), h _ (Nat.lt_succ_of_lt hb), h k (Nat.lt_succ_self k)]
      by_cases hlt : d (Ens.argmaxTo k d) < d k
      · rw [if_pos ((fin_lt_fin _ _).mpr hlt), if_pos hlt]
      · rw [if_neg (fun hh => hlt ((fin_lt_fin _ _).mp hh)), if_neg hlt]

/-- the two serial states hold the same data -/
structure SEq (N : Nat) (ss : SState Dist) (st : St) : Prop where
  fresh : st.arr.fresh = true → ∀ g, g < N → ss.dist g = .inf
  notfresh : st.arr.fresh = false → ∀ g, g < N → ss.dist g = .fin (st.arr.dist g)
  assign : ∀ g, g < N → ss.assign g = st.arr.assign g
  inds : st.ctrInds = ss.ctrs
  frames : st.ctrFrames = ss.ctrs

theorem SEq.argmax {N : Nat} (hN : 0 < N) {ss : SState Dist} {st : St} (h : SEq N ss st) :
    Ens.argmaxTo N ss.dist = argmaxDist N st.arr := by
  unfold argmaxDist
  cases hf : st.arr.fresh with
  | true => simp only [if_true]; exact argmaxTo_const N hN ss.dist .inf (h.fresh hf)
  | false => simp only [Bool.false_eq_true, if_false]; exact argmaxTo_fin N _ _ (h.notfresh hf)

theorem SEq.lt_iff {N : Nat} (D : Table) {ss : SState Dist} {st : St} (h : SEq N ss st) {g : Nat} (hg : g < N)
    (c : Nat) : finD D g c < ss.dist g ↔ (st.arr.fresh || decide (D g c < st.arr.dist g)) = true := by
  cases hf : st.arr.fresh with
  | true => rw [h.fresh hf g hg]; exact ⟨fun _ => rfl, fun _ => fin_lt_inf _⟩
  | false => rw [h.notfresh hf g hg, Bool.false_or, decide_eq_true_eq]; exact fin_lt_fin _ _

theorem SEq.iter {N : Nat} (hN : 0 < N) (D : Table) {ss : SState Dist} {st : St} (h : SEq N ss st) :
    SEq N (serialIter N (finD D) ss) (kcentersIter D N st) := by
  have hc := h.argmax hN
  have hlen : ss.ctrs.length = st.ctrInds.length := by rw [h.inds]
  -- a frame that is not relaxed belongs to a state that is not fresh
  have hnf : ∀ {g : Nat}, ¬ (st.arr.fresh || decide (D g (argmaxDist N st.arr) < st.arr.dist g)) = true →
      st.arr.fresh = false := fun hb => by
    cases hf : st.arr.fresh
    · rfl
    · rw [hf] at hb; exact absurd rfl hb
  constructor
  · intro hf; simp [kcentersIter, Arr.relax] at hf
  · intro _ g hg
    simp only [serialIter, kcentersIter, hc]
    rw [relax_dist _ _ _ hg]
    by_cases hb : (st.arr.fresh || decide (D g (argmaxDist N st.arr) < st.arr.dist g)) = true
    · rw [if_pos hb, if_pos ((h.lt_iff D hg _).mpr hb)]; rfl
    · rw [if_neg hb, if_neg (mt (h.lt_iff D hg _).mp hb)]; exact h.notfresh (hnf hb) g hg
  · intro g hg
    simp only [serialIter, kcentersIter, hc]
    rw [relax_assign _ _ _ hg]
    by_cases hb : (st.arr.fresh || decide (D g (argmaxDist N st.arr) < st.arr.dist g)) = true
    · rw [if_pos hb, if_pos ((h.lt_iff D hg _).mpr hb), hlen]
    · rw [if_neg hb, if_neg (mt (h.lt_iff D hg _).mp hb)]; exact h.assign g hg
  · simp only [serialIter, kcentersIter, hc, h.inds]
  · simp only [serialIter, kcentersIter, hc, h.frames]

theorem SEq.goOn {N : Nat} (hN : 0 < N) {ss : SState Dist} {st : St} (h : SEq N ss st) (k : Option Nat) (cutoff : Rat) :
    (underK k ss.ctrs.length = true ∧ Dist.fin cutoff < serialMax N ss.dist) ↔
      kcentersGoOn N k cutoff st = true := by
  have ha := h.argmax hN
  have hlt : Ens.argmaxTo N ss.dist < N := (argmaxTo_spec N hN ss.dist).1
  unfold kcentersGoOn underK serialMax maxDist
  rw [← h.inds, Bool.and_eq_true]
  apply and_congr
  · cases k <;> simp [h.inds]
  · cases hf : st.arr.fresh with
    | true =>
      simp only [if_true]
      rw [h.fresh hf _ hlt]
      exact ⟨fun _ => trivial, fun _ => fin_lt_inf _⟩
    | false =>
      simp only [Bool.false_eq_true, if_false, decide_eq_true_eq]
      rw [h.notfresh hf _ hlt, fin_lt_fin]
      have : Ens.argmaxTo N ss.dist = Ens.argmaxTo N st.arr.dist := by
        rw [ha]; unfold argmaxDist; simp [hf]
      rw [this]

theorem SEq.loop {N : Nat} (hN : 0 < N) (D : Table) (k : Option Nat) (cutoff : Rat) (fuel : Nat)
    {ss ss' : SState Dist} {st : St} (h : SEq N ss st)
    (hl : serialLoop N (finD D) k (.fin cutoff) fuel ss = .ok ss') :
    ∃ st', kcentersLoop D N k cutoff fuel st = .ok st' ∧ SEq N ss' st' := by
  induction fuel generalizing ss st with
  | zero =>
    unfold serialLoop at hl
    unfold kcentersLoop
    simp only [h.goOn hN k cutoff] at hl
    by_cases hg : kcentersGoOn N k cutoff st = true
    · rw [if_pos hg] at hl
      cases hl
    · rw [if_neg hg] at hl ⊢
      cases hl
      exact ⟨st, rfl, h⟩
  | succ fuel ih =>
    unfold serialLoop at hl
    unfold kcentersLoop
    simp only [h.goOn hN k cutoff] at hl
    by_cases hg : kcentersGoOn N k cutoff st = true
    · rw [if_pos hg] at hl ⊢
      exact ih (h.iter hN D) hl
    · rw [if_neg hg] at hl ⊢
      cases hl
      exact ⟨st, rfl, h⟩

theorem serialKcenters_eq_cluster {N : Nat} (hN : 0 < N) (D : Table) (k : Option Nat) (cutoff : Rat) (fuel : Nat)
    {ss : SState Dist} (h : serialKcenters N (finD D) .inf k (.fin cutoff) fuel = .ok ss) :
    ∃ st, Ens.Cluster.kcenters D N k cutoff none fuel = .ok st ∧ SEq N ss st := by
  have hN0 : N ≠ 0 := by omega
  unfold serialKcenters at h
  simp only [hN0, if_false] at h
  have h0 : SEq N (serialInit Dist.inf) (St.cold N) := by
    constructor
    · intro _ g _; rfl
    · intro hf; simp [St.cold] at hf
    · intro g hg; simp only [serialInit, St.cold]; rw [tab_assign _ _ _ hg]
    · rfl
    · rfl
  obtain ⟨st, h1, h2⟩ := h0.loop hN D k cutoff fuel h
  refine ⟨st, ?_, h2⟩
  unfold Ens.Cluster.kcenters
  simp only [bind, Except.bind, pure, Except.pure, hN0, if_false]
  exact h1

/-- the distributed `Dist`-valued state as the per-rank rational arrays of `Model/MpiPam.lean` -/
def toPState (lay : Layout) (ms : MState Dist) : PState :=
  { arrs := tabulate lay.w fun r => Arr.tab (lay.m r) false (fun i => (ms.dist r i).toRat) (ms.assign r)
    ctrs := ms.ctrs
    coords := ms.ctrs.map fun p => lay.X p.1 p.2 }

theorem striped_of_rel {lay : Layout} {N : Nat} (hb : LayoutBij lay N) {ms : MState Dist} {ss : SState Dist} {st : St}
    (hr : Rel lay ms ss) (he : SEq N ss st) (hf : st.arr.fresh = false) :
    Striped lay (toPState lay ms) st := by
  refine Striped.of_tabulate hf (fun r hr' => ⟨rfl, Sized.tab _ _ _ _,
    fun i hi => ⟨?_, ?_⟩⟩) (by rw [hr.ctrs, he.inds]) hr.valid (by rw [hr.ctrs, he.frames])
  · rw [tab_dist _ _ _ hi, hr.dist r i hr' hi, he.notfresh hf _ (hb.lt r i hr' hi)]
    rfl
  · rw [tab_assign _ _ _ hi, hr.assign r i hr' hi, he.assign _ (hb.lt r i hr' hi)]

/-- a C01 table with pairwise distinct off-diagonal entries is tie-free in the sense of the
    k-centers refinement -/
theorem tieFree_of_tableOK {D : Table} {N : Nat} (T : TableOK D N)
    (hd : ∀ a b c d, a < N → b < N → c < N → d < N → a ≠ b → c ≠ d → D a b = D c d →
      (a = c ∧ b = d) ∨ (a = d ∧ b = c)) :
    TieFree N (finD D) (.fin 0) .inf := by
  constructor
  · intro g hg; show Dist.fin (D g g) = Dist.fin 0; rw [T.self g hg]
  · intro g c hg hc hne
    show (0 : Rat) < D g c
    rcases lt_or_eq_of_le (T.nonneg g c hg hc) with h | h
    · exact h
    · exact absurd (T.distinct g c hg hc h.symm) hne
  · intro g c _ _; exact fin_lt_inf _
  · intro a b c d ha hb hc hd' hab hcd he
    exact hd a b c d ha hb hc hd' hab hcd (by injection he)

end Ens.Mpi
