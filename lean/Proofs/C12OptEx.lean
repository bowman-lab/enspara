import Proofs.C12OptModel
import Mathlib.Tactic.NormNum

/-!
# C12 optimality: a concrete fixed point (non-vacuity)

Counts `C = [[1,1],[2,4]]` (not symmetric), `C_rs = (2,6)`.  The state `X = [[1,1],[1,2]]`,
`X_rs = (2,3)` is a fixed point of the sweep over ℝ with `Real.sqrt`: the diagonal updates write
`1·(2−1)/(2−1) = 1` and `4·(3−2)/(6−4) = 2`; for the pair `(0,1)`: `a = 5`, `b = 1`, `c = −6`,
`√(1 + 120) = 11`, `v = (−1 + 11)/10 = 1`.  The estimate is `T = [[1/2,1/2],[1/3,2/3]]`, which
differs from the transpose-symmetrised estimate `[[2/5,3/5],[3/11,8/11]]`.
-/

namespace Ens.C12P
open Ens Ens.Mle

def exCf (i j : Fin 2) : ℝ := if i = 0 then 1 else if j = 0 then 2 else 4
def exXf (i j : Fin 2) : ℝ := if i = 0 then 1 else if j = 0 then 1 else 2
def exC : Mat ℝ 2 := Vector.ofFn fun i => Vector.ofFn fun j => exCf i j
def exCrs : Vec ℝ 2 := Vector.ofFn fun i => if i = 0 then 2 else 6
def exSt : St ℝ 2 :=
  { X := Vector.ofFn fun i => Vector.ofFn fun j => exXf i j
    rs := Vector.ofFn fun i => if i = 0 then 2 else 3 }

theorem exC_get (i j : Fin 2) : mget exC i j = exCf i j := mget_ofFn _ i j
theorem exX_get (i j : Fin 2) : mget exSt.X i j = exXf i j := mget_ofFn _ i j
theorem exCrs_get (i : Fin 2) : vget exCrs i = if i = 0 then 2 else 6 := vget_ofFn _ i
theorem exrs_get (i : Fin 2) : vget exSt.rs i = if i = 0 then 2 else 3 := vget_ofFn _ i

theorem exC_pos (i j : Fin 2) : 0 < mget exC i j := by
  rw [exC_get]; unfold exCf; split_ifs <;> norm_num

theorem exData : Data exC exCrs := by
  constructor
  · exact fun i j => (exC_pos i j).le
  · intro i
    rw [exCrs_get, Fin.sum_univ_two, exC_get, exC_get]
    simp only [exCf, Fin.isValue, one_ne_zero, if_false, if_true]
    split_ifs <;> norm_num

theorem exConn : Conn exC :=
  Conn.of_offdiag_pos fin2_other fun i j _ => exC_pos i j

theorem exInv : Inv exSt := by
  constructor
  · intro i j; rw [exX_get, exX_get]; unfold exXf; split_ifs <;> rfl
  · intro i j; rw [exX_get]; unfold exXf; split_ifs <;> norm_num
  · intro i
    rw [exrs_get, Fin.sum_univ_two, exX_get, exX_get]
    simp only [exXf, Fin.isValue, one_ne_zero, if_false, if_true]
    split_ifs <;> norm_num

theorem exPos : Pos exC exSt := by
  constructor
  · intro i j _ _; rw [exX_get]; unfold exXf; split_ifs <;> norm_num
  · intro i _; rw [exX_get]; unfold exXf; split_ifs <;> norm_num

theorem ex_rs_pos (i : Fin 2) : 0 < vget exSt.rs i := by
  rw [exrs_get]; split_ifs <;> norm_num

theorem sqrt_121 : Real.sqrt 121 = 11 := by
  rw [show (121 : ℝ) = 11 ^ 2 by norm_num]
  exact Real.sqrt_sq (by norm_num)

theorem ex_diag (i : Fin 2) : diagStep exC exCrs exSt i = exSt := by
  rw [diagStep_eq_self_iff, diagV, if_pos (exConn.denom_pos exData i)]
  simp only [exC_get, exX_get, exCrs_get, exrs_get]
  unfold exCf exXf
  split_ifs <;> norm_num

theorem ex_coefA_val : coefA exC exCrs 0 1 = 5 := by
  simp only [coefA, exC_get, exCrs_get, exCf, Fin.isValue, one_ne_zero, if_false, if_true]
  norm_num

theorem ex_coefA (i j : Fin 2) (hij : i ≠ j) : coefA exC exCrs i j ≠ 0 := by
  have h5 : (5 : ℝ) ≠ 0 := by norm_num
  have : ∀ i j : Fin 2, i ≠ j → (i = 0 ∧ j = 1) ∨ (i = 1 ∧ j = 0) := by decide
  rcases this i j hij with ⟨rfl, rfl⟩ | ⟨rfl, rfl⟩
  · rwa [ex_coefA_val]
  · rwa [coefA_comm, ex_coefA_val]

/-- the one pair of the sweep: `a = 5`, `b = 1`, `c = -6`, `v = (-1 + √121) / 10 = 1` -/
theorem ex_newV : newV Real.sqrt exC exCrs exSt 0 1 = mget exSt.X 0 1 := by
  rw [newV_of_ne (ex_coefA 0 1 (by decide)), ex_coefA_val]
  simp only [coefB, coefC, exC_get, exX_get, exCrs_get, exrs_get, exCf, exXf, Fin.isValue,
    one_ne_zero, if_false, if_true]
  norm_num
  rw [sqrt_121]; norm_num

theorem fixed_example (log : ℝ → ℝ) :
    ∃ q, sweep Real.sqrt log exC exCrs exSt = .ok q ∧ q.1.X = exSt.X := by
  obtain ⟨l, hl⟩ := sweep_of_steps_fixed (sqrt := Real.sqrt) (log := log) ex_diag
    (fun i j hij => by
      obtain ⟨rfl, rfl⟩ : i = 0 ∧ j = 1 := by revert i j; decide
      exact pairStep_eq_self exData exInv hij.ne ex_newV)
  exact ⟨_, hl, rfl⟩

end Ens.C12P
