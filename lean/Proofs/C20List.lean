import Model.Rotamer
import Mathlib.Tactic.Linarith
import Mathlib.Algebra.Order.Field.Rat
/-!
List facts.  The first-frame loop and `np.digitize` both find the basin containing the
angle; Python indexing with a valid basin index reads the boundary.
-/
namespace Ens.Rotamer

theorem pyGet_nat {hb : List Rat} {i : Nat} {v : Rat} (h : hb[i]? = some v) :
    pyGet hb (i : Int) = .ok v := by
  unfold pyGet
  have h1 : ¬ ((i : Int) < 0) := by omega
  simp [h1, h]

theorem pyGet_nat_succ {hb : List Rat} {i : Nat} {v : Rat} (h : hb[i + 1]? = some v) :
    pyGet hb ((i : Int) + 1) = .ok v := by
  have := pyGet_nat (i := i + 1) h
  simpa using this

theorem findIdx?_isBasin {a x : Rat} {tl : List Rat} (hx : x ≤ a) (hu : ∃ u ∈ tl, a < u) :
    ∃ i : Nat, tl.findIdx? (fun u => decide (a < u)) = some i ∧ IsBasin (x :: tl) i a := by
  induction tl generalizing x with
  | nil =>
    obtain ⟨u, hu, _⟩ := hu
    exact (List.not_mem_nil hu).elim
  | cons y ys ih =>
    rw [List.findIdx?_cons]
    by_cases hy : a < y
    · exact ⟨0, by rw [if_pos (decide_eq_true hy)], x, y, rfl, rfl, hx, hy⟩
    · have hu' : ∃ u ∈ ys, a < u := by
        obtain ⟨u, hu, hau⟩ := hu
        rcases List.mem_cons.1 hu with rfl | h
        · exact absurd hau hy
        · exact ⟨u, h, hau⟩
      obtain ⟨i, e, hi⟩ := ih (not_lt.1 hy) hu'
      exact ⟨i + 1, by rw [if_neg (by rw [decide_eq_true_eq]; exact hy), e]; rfl, hi⟩

/-- the first-frame loop returns a basin that contains the angle (needs no sortedness) -/
theorem firstFrame_isBasin {hb : List Rat} {a : Rat} (hh : hb.head? = some 0)
    (hl : hb.getLast? = some 360) (ha0 : 0 ≤ a) (ha : a < 360) :
    ∃ i : Nat, firstFrame a hb = (i : Int) ∧ IsBasin hb i a := by
  match hb, hh with
  | h0 :: tl, hh =>
    cases Option.some.inj hh
    have hmem : (360 : Rat) ∈ tl := by
      cases tl with
      | nil => exact absurd (Option.some.inj hl) (by norm_num)
      | cons y ys => exact List.mem_of_getLast? (List.getLast?_cons_cons ▸ hl)
    obtain ⟨i, e, hi⟩ := findIdx?_isBasin ha0 ⟨360, hmem, ha⟩
    refine ⟨i, ?_, hi⟩
    unfold firstFrame
    rw [List.tail_cons, e]

theorem countP_of_isBasin {hb : List Rat} (hs : hb.Pairwise (· < ·)) {i : Nat} {a : Rat}
    (h : IsBasin hb i a) : hb.countP (fun v => decide (v ≤ a)) = i + 1 := by
  induction hb generalizing i with
  | nil =>
    obtain ⟨lo, hi, h1, _⟩ := h
    exact nomatch h1
  | cons x xs ih =>
    obtain ⟨hx, hxs⟩ := List.pairwise_cons.1 hs
    cases i with
    | zero =>
      obtain ⟨lo, hi, h1, h2, h3, h4⟩ := h
      cases Option.some.inj h1
      have hz : xs.countP (fun v => decide (v ≤ a)) = 0 := by
        rw [List.countP_eq_zero]
        intro v hv
        rw [decide_eq_true_eq, not_le]
        match xs, h2, hxs, hv with
        | y :: ys, h2, hxs, hv =>
          cases Option.some.inj h2
          rcases List.mem_cons.1 hv with rfl | hv'
          · exact h4
          · exact h4.trans ((List.pairwise_cons.1 hxs).1 v hv')
      rw [List.countP_cons, hz, if_pos (decide_eq_true h3)]
    | succ j =>
      have h' : IsBasin xs j a := h
      have ⟨lo, _, h1, _, h3, _⟩ := h'
      have hxa : x ≤ a := (hx lo (List.mem_of_getElem? h1)).le.trans h3
      rw [List.countP_cons, ih hxs h', if_pos (decide_eq_true hxa)]

theorem digitize_of_isBasin {hb : List Rat} (hs : hb.Pairwise (· < ·)) {i : Nat} {a : Rat}
    (h : IsBasin hb i a) : digitize a hb = .ok (i + 1) := by
  unfold digitize
  have hle : hb.Pairwise (· ≤ ·) := hs.imp (fun h => le_of_lt h)
  rw [if_pos hle, countP_of_isBasin hs h]

theorem isBasin_unique {hb : List Rat} (hs : hb.Pairwise (· < ·)) {i j : Nat} {a : Rat}
    (hi : IsBasin hb i a) (hj : IsBasin hb j a) : i = j := by
  have h1 := countP_of_isBasin hs hi
  have h2 := countP_of_isBasin hs hj
  omega

theorem isBasin_lt_length {hb : List Rat} {i : Nat} {a : Rat} (h : IsBasin hb i a) :
    i + 1 < hb.length := by
  obtain ⟨lo, hi, _, h2, _⟩ := h
  exact (List.getElem?_eq_some_iff.1 h2).1

end Ens.Rotamer
