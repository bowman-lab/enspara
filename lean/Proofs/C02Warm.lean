import Proofs.C02Tri
import Proofs.C02RMin
import Mathlib.Data.List.Nodup

/-! Warm start: when the supplied initial centers are distinct frames of the data set and distinct
frames are at positive distance, `assign_to_nearest_center` + `find_cluster_centers` give back
exactly these frames as `ctr_inds`, every frame labelled by a center at its recorded distance. -/
namespace Ens.KC

/-- the hypothesis under which "the supplied centers are kept" is meaningful for `ctr_inds` -/
structure GoodInit (D : Table) (n : Nat) (cs : List Nat) : Prop where
  ne : cs ≠ []
  nodup : cs.Nodup
  frames : ∀ c, c ∈ cs → c < n
  diag : ∀ i, i < n → D i i = 0
  pos : ∀ i j, i < n → j < n → i ≠ j → 0 < D i j

theorem assignToNearest_spec (D : Table) {n : Nat} {cs : List Nat} (hne : cs ≠ [])
    (hfr : ∀ c ∈ cs, c < n) :
    RMin D (assignToNearest D n cs).1 cs ∧
      ∀ f, Labelled D n cs (assignToNearest D n cs).1 (assignToNearest D n cs).2 f := by
  obtain ⟨hmin, hlab⟩ := nearestGo_inv (D := D) (n := n)
    (fun pre d a => RMin D d pre ∧ ∀ f, d f = none ∨ Labelled D n pre d a f) (· < n)
    (fun _ _ _ c hc h => ⟨RMin_step c h.1 (fun _ => rfl), fun f => Or.inr (Labelled.step hc (h.2 f))⟩)
    cs [] _ _ hfr ⟨RMin_nil D, fun _ => Or.inl rfl⟩
  refine ⟨hmin, fun f => (hlab f).resolve_left ?_⟩
  -- with at least one center no distance is left at `inf`
  rcases hmin.2 f with ⟨h, _⟩ | ⟨c, _, h⟩
  · exact absurd h hne
  · exact fun hnone => nomatch hnone.symm.trans h

theorem GoodInit_center {D : Table} {n : Nat} {cs : List Nat} (g : GoodInit D n cs)
    (k : Nat) (hk : k < cs.length) :
    (assignToNearest D n cs).2 cs[k] = (k : Int) ∧ (assignToNearest D n cs).1 cs[k] = some 0 := by
  obtain ⟨hmin, hlab⟩ := assignToNearest_spec D g.ne g.frames
  have hck := g.frames _ (List.getElem_mem hk)
  obtain ⟨k0, g0, h1, h2, h3, h4⟩ := hlab cs[k]
  -- the recorded distance is at most `D cs[k] cs[k] = 0`, so the labelling center is `cs[k]` itself
  have hle := hmin.1 cs[k] cs[k] (List.getElem_mem hk)
  rw [h4, g.diag _ hck] at hle
  have hg0 : cs[k] = g0 := by
    by_contra hne
    exact absurd (WithTop.coe_le_coe.mp hle) (not_le.mpr (g.pos _ _ hck h3 hne))
  obtain ⟨hk0, e⟩ := List.getElem?_eq_some_iff.mp h2
  have hk0k : k0 = k := (List.Nodup.getElem_inj_iff g.nodup).mp (e.trans hg0.symm)
  exact ⟨by rw [h1, hk0k], by rw [h4, ← hg0, g.diag _ hck]⟩

theorem filterMap_range_eq : ∀ (cs : List Nat) (F : Nat → Option Nat),
    (∀ (k : Nat) (hk : k < cs.length), F k = some cs[k]) → (List.range cs.length).filterMap F = cs
  | [], _, _ => rfl
  | c :: cs, F, h => by
    rw [List.length_cons, List.range_succ_eq_map, List.filterMap_cons, h 0 (Nat.succ_pos _),
      List.filterMap_map]
    exact congrArg (c :: ·)
      (filterMap_range_eq cs (F ∘ Nat.succ) (fun k hk => h (k+1) (Nat.succ_lt_succ hk)))

/-- `find_cluster_centers` gives back the supplied frames -/
theorem GoodInit_ctrInds {D : Table} {n : Nat} {cs : List Nat} (g : GoodInit D n cs) :
    (initState D n (some cs)).ctrInds = cs := by
  simp only [initState]
  rw [max_eq_left (List.length_pos_of_ne_nil g.ne)]
  unfold findClusterCenters
  apply filterMap_range_eq
  intro k hk
  obtain ⟨hka, hkd⟩ := GoodInit_center g k hk
  obtain ⟨_, hlab⟩ := assignToNearest_spec D g.ne g.frames
  have hck := g.frames _ (List.getElem_mem hk)
  obtain ⟨s1, s2⟩ := argminOn_spec (fun f => (assignToNearest D n cs).2 f == (k : Int))
    (assignToNearest D n cs).1 n
  cases hres : argminOn (fun f => (assignToNearest D n cs).2 f == (k : Int))
      (assignToNearest D n cs).1 n with
  | none => exact absurd (beq_iff_eq.mpr hka) (Bool.eq_false_iff.mp (s1 hres cs[k] hck))
  | some b =>
    -- `b` carries label `k`, so its recorded distance is `D b cs[k]`; it is at most that of `cs[k]`, 0
    obtain ⟨hb, hpb, hmin, _⟩ := s2 b hres
    obtain ⟨k0, g0, h1, h2, _, h4⟩ := hlab b
    have hk0 : k0 = k := Int.ofNat.inj (h1.symm.trans (beq_iff_eq.mp hpb))
    rw [hk0, List.getElem?_eq_getElem hk] at h2
    have hle := hmin cs[k] hck (beq_iff_eq.mpr hka)
    rw [hkd, h4, ← Option.some.inj h2] at hle
    by_contra hne
    exact absurd (WithTop.coe_le_coe.mp hle)
      (not_le.mpr (g.pos _ _ hb hck (fun he => hne (congrArg some he))))

theorem GoodInit_Lab {D : Table} {n : Nat} {cs : List Nat} (g : GoodInit D n cs) :
    Lab D n (initState D n (some cs)) := by
  intro f _
  rw [Labelled, GoodInit_ctrInds g]
  exact (assignToNearest_spec D g.ne g.frames).2 f

end Ens.KC
