import Proofs.C20Arc
/-!
The angle preparation of the wrappers.  `dihedral_angles` maps degrees in [-180, 180] into
[0, 360); the psi shift keeps angles in [0, 360) and commutes with the basin test: the shifted angle lies
in `[lo, hi)` iff the unshifted angle lies in `[lo + s, hi + s)` on the circle.
-/
namespace Ens.Rotamer

theorem normalizeAngle_eq_min (a : Rat) :
    normalizeAngle a = min (if a < 0 then a + 360 else a) 359.5 := by
  unfold normalizeAngle
  by_cases h : (if a < 0 then a + 360 else a) ≤ 359.5
  · rw [min_eq_left h]
    exact if_neg (not_lt.2 h)
  · rw [min_eq_right (le_of_not_ge h)]
    exact if_pos (not_le.1 h)

theorem normalizeAngle_range {a : Rat} (h0 : -360 ≤ a) :
    0 ≤ normalizeAngle a ∧ normalizeAngle a < 360 := by
  rw [normalizeAngle_eq_min]
  refine ⟨le_min ?_ (by norm_num), lt_of_le_of_lt (min_le_right _ _) (by norm_num)⟩
  split
  · exact neg_le_iff_add_nonneg.1 h0
  · next h => exact not_lt.1 h

/-- outside the clamped sliver (-0.5, 0) the angle itself (mod 360) is kept; inside it the code reports 359.5
(same basin for every generated boundary list, whose last interior boundary is far below 359.5) -/
theorem normalizeAngle_congr {a : Rat} (_h0 : -180 ≤ a) (h1 : a ≤ 180) (hc : a < 0 → a ≤ -1 / 2) :
    ∃ k : Int, normalizeAngle a = a + 360 * (k : Rat) := by
  rw [normalizeAngle_eq_min]
  by_cases h : a < 0
  · refine ⟨1, ?_⟩
    rw [if_pos h, Int.cast_one, mul_one]
    exact min_eq_left ((add_le_add_left (hc h) 360).trans_eq (by norm_num))
  · refine ⟨0, ?_⟩
    rw [if_neg h, Int.cast_zero, mul_zero, add_zero]
    exact min_eq_left (h1.trans (by norm_num))

theorem shiftAngle_range {s a : Rat} (ha0 : 0 ≤ a) (ha : a < 360) (hs0 : 0 ≤ s) (hs : s ≤ 360) :
    0 ≤ shiftAngle s a ∧ shiftAngle s a < 360 := by
  unfold shiftAngle
  by_cases h : a - s < 0
  · simp only [h, if_true]
    exact ⟨by linarith, add_lt_of_neg_left 360 h⟩
  · simp only [h, if_false]
    exact ⟨not_lt.1 h, (sub_le_self a hs0).trans_lt ha⟩

theorem shiftAngle_rep (s a : Rat) : ∃ j : Int, shiftAngle s a + s = a + 360 * (j : Rat) := by
  show ∃ j : Int, (if a - s < 0 then a - s + 360 else a - s) + s = a + 360 * (j : Rat)
  by_cases h : a - s < 0
  · exact ⟨1, by rw [if_pos h, Int.cast_one, mul_one, add_right_comm, sub_add_cancel]⟩
  · exact ⟨0, by rw [if_neg h, Int.cast_zero, mul_zero, add_zero, sub_add_cancel]⟩

theorem shiftAngle_basin {s a lo hi : Rat} (ha0 : 0 ≤ a) (ha : a < 360) (hs0 : 0 ≤ s) (hs : s ≤ 360)
    (hlo : 0 ≤ lo) (hhi : hi ≤ 360) :
    (lo ≤ shiftAngle s a ∧ shiftAngle s a < hi) ↔
      ∃ k : Int, lo + s ≤ a + 360 * (k : Rat) ∧ a + 360 * (k : Rat) < hi + s := by
  obtain ⟨hy0, hy⟩ := shiftAngle_range ha0 ha hs0 hs
  obtain ⟨j, hj⟩ := shiftAngle_rep s a
  constructor
  · rintro ⟨h1, h2⟩
    exact ⟨j, by rw [← hj]; exact add_le_add_left h1 s, by rw [← hj]; exact add_lt_add_left h2 s⟩
  · rintro ⟨k, h1, h2⟩
    -- a representative of `a` is one of the shifted angle `+ s`, and only the latter itself lies in `[lo, hi)`
    have e : a + 360 * (k : Rat) = shiftAngle s a + 360 * ((k - j : Int) : Rat) + s := by
      rw [Int.cast_sub, mul_sub, add_right_comm, hj, add_add_sub_cancel]
    rw [e] at h1 h2
    have h1' := le_of_add_le_add_right h1
    have h2' := lt_of_add_lt_add_right h2
    rcases rep_cases (shiftAngle s a) (k - j) with hk | hk | hk
    · exact absurd (h1'.trans hk) (not_le.2 ((sub_neg.2 hy).trans_le hlo))
    · rw [hk, Int.cast_zero, mul_zero, add_zero] at h1' h2'
      exact ⟨h1', h2'⟩
    · exact absurd ((le_add_of_nonneg_left hy0).trans hk) (not_le.2 (h2'.trans_le hhi))

end Ens.Rotamer
