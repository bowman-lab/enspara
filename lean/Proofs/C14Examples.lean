import Proofs.C14PamRun
import Proofs.C01Examples
/-!
The concrete instances behind the `example`s of `Props/C14.lean`: the six points of C01/C09 dealt
to two ranks (`ms6`) with the runs evaluated on them, and a tie-free table (`exD`).
-/
open Ens Ens.Mpi

namespace C14

section Pam
open Ens.Cluster Ens.MpiPam

/-- the six points of C01/C09 (`0 1 3 | 10 12 15`, centers = frames 0 and 5) dealt to 2 ranks as
    trajectories of lengths 1, 2, 3: rank 0 holds frames 0,3,4,5, rank 1 holds frames 1,2 -/
def ms6 : PState := scatter (stripeLayout 2 [1, 2, 3]) Ex.s6 [(0, 0), (0, 3)]

/-- stated together so that the run is evaluated once -/
theorem ms6_two_sweeps :
    (mpiKmedoidsIterations (stripeLayout 2 [1, 2, 3]) Ex.D6 2 ms6 (some [(1, 0), (0, 2)]) []).toOption.map
      (fun r => (r.final.ctrs, r.trace.map (fun st => (st.y, st.acc, st.newCost)))) =
      some ([(1, 0), (0, 2)], [(1, true, 13/2), (4, true, 3), (1, false, 3), (4, false, 3)]) ∧
    (mpiKmedoidsIterations (stripeLayout 2 [1, 2, 3]) Ex.D6 2 ms6 (some [(1, 0), (0, 2)]) []).toOption.map
      (fun r => ((r.final.arr 0).assignA, (r.final.arr 1).assignA)) = some (#[0, 1, 1, 1], #[0, 0]) ∧
    ((mpiKmedoidsIterations (stripeLayout 2 [1, 2, 3]) Ex.D6 2 ms6 (some [(1, 0), (0, 2)]) []).toOption.bind
      (fun r => (reassemble 2 [1, 2, 3] r.final).toOption)).map (fun s => (s.ctrInds, s.arr.assignA)) =
      some ([1, 4], #[0, 0, 0, 1, 1, 1]) ∧
    (mpiKmedoidsIterations (stripeLayout 2 [1, 2, 3]) Ex.D6 2 ms6 (some [(1, 0), (0, 2)]) []).toOption.map
      (fun r => (r.final.ctrs, r.trace.map (·.acc))) = some ([(1, 0), (0, 2)], [true, true, false, false]) := by
  decide +kernel

theorem ms6_random_sweep :
    (mpiPamUpdate (stripeLayout 2 [1, 2, 3]) Ex.D6 ms6 none [1, 0]).toOption.map
      (fun o => o.2.2.map (fun st => (st.p, st.y, st.acc))) =
      some [((1, 1), 2, false), ((0, 1), 3, true)] ∧
    (mpiKmedoidsIterations (stripeLayout 2 [1, 2, 3]) Ex.D6 1 ms6 none [1, 0]).toOption.map
      (fun r => (r.final.ctrs, r.trace.map (·.acc))) = some ([(0, 0), (0, 1)], [false, true]) := by
  decide +kernel

theorem mpiKmedoids_ms6 {centers : List (Nat × Nat) ⊕ List Nat}
    (hc : warmCenters 2 [1, 2, 3] centers = .ok [(0, 0), (0, 3)]) (nIters : Nat)
    (props : Option (List (Nat × Nat))) (orc : List Nat) :
    mpiKmedoids 2 [1, 2, 3] Ex.D6 nIters ms6.arrs centers props orc =
      mpiKmedoidsIterations (stripeLayout 2 [1, 2, 3]) Ex.D6 nIters ms6 props orc := by
  unfold mpiKmedoids
  rw [hc]
  simp only []
  rw [if_neg (by decide +kernel), if_neg (by decide +kernel)]
  exact mpiKmedoidsIterations_coords _ Ex.D6 nIters ms6 [] props orc

end Pam

/-- a concrete tie-free instance: 3 ranks, trajectories of lengths 2,1,1,2 (frames 0…5),
    `D a b = 2^max(a,b) + min(a,b)` off the diagonal (all values distinct), 3 centers -/
def exD (a b : Nat) : Nat := if a = b then 0 else 2 ^ (max a b) + min a b

theorem two_pow_add_lt {M m M' : Nat} (hm : m < M) (h : M < M') : 2 ^ M + m < 2 ^ M' := by
  have h1 : M < 2 ^ M := Nat.lt_two_pow_self
  have h2 : 2 ^ (M + 1) ≤ 2 ^ M' := Nat.pow_le_pow_right (by decide) h
  rw [Nat.pow_succ] at h2
  omega

/-- such numbers lie in `[2^M, 2^(M+1))` -/
theorem two_pow_add_inj {M m M' m' : Nat} (hm : m < M) (hm' : m' < M') (h : 2 ^ M + m = 2 ^ M' + m') :
    M = M' ∧ m = m' := by
  rcases Nat.lt_trichotomy M M' with hlt | rfl | hgt
  · have := two_pow_add_lt hm hlt; omega
  · omega
  · have := two_pow_add_lt hm' hgt; omega

theorem exD_comm (a b : Nat) : exD a b = exD b a := by
  simp only [exD, eq_comm, Nat.max_comm, Nat.min_comm]

theorem exD_of_lt {a b : Nat} (h : a < b) : exD a b = 2 ^ b + a := by
  simp only [exD, Nat.ne_of_lt h, if_false, Nat.max_eq_right (Nat.le_of_lt h), Nat.min_eq_left (Nat.le_of_lt h)]

theorem exD_inj {a b c d : Nat} (hab : a ≠ b) (hcd : c ≠ d) (h : exD a b = exD c d) :
    (a = c ∧ b = d) ∨ (a = d ∧ b = c) := by
  have key : ∀ {a b c d : Nat}, a < b → c < d → exD a b = exD c d → a = c ∧ b = d := by
    intro a b c d h1 h2 h
    rw [exD_of_lt h1, exD_of_lt h2] at h
    exact (two_pow_add_inj h1 h2 h).symm
  rcases Nat.lt_or_gt_of_ne hab with h1 | h1 <;> rcases Nat.lt_or_gt_of_ne hcd with h2 | h2
  · exact Or.inl (key h1 h2 h)
  · rw [exD_comm c d] at h; exact Or.inr (key h1 h2 h)
  · rw [exD_comm a b] at h; exact Or.inr (key h1 h2 h).symm
  · rw [exD_comm a b, exD_comm c d] at h; exact Or.inl (key h1 h2 h).symm

end C14
