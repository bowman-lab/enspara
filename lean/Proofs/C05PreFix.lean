import Proofs.C05Fixed
import Proofs.C05Slice
/-! The tree before the repair (`getItem`): on each region that a `…_partial` theorem names, it computes
what the repaired model (`getItemF`) computes, so the partial theorems follow from the full ones. -/
namespace Ens.Ragged
open Ens

/-- `_convert_from_2d` L317-319 repeated `second` only for `first.size > 1`; with both index arrays
non-empty that is the repaired rule `first.size != 1` -/
theorem paired_eq_pairedF {α} (ra : RA α) (r c : Part) (hf : (idxArr r).1 ≠ []) (hs : (idxArr c).1 ≠ []) :
    paired ra r c = pairedF ra r c := by
  unfold paired pairedF
  cases hr : idxArr r with
  | mk f fi =>
    cases hc : idxArr c with
    | mk s si =>
      rw [hr] at hf; rw [hc] at hs
      cases f with
      | nil => exact absurd rfl hf
      | cons a as =>
        cases s with
        | nil => exact absurd rfl hs
        | cons b bs =>
          cases as with
          | nil => cases bs with
            | nil => rfl
            | cons b2 bs => simp [pairedCoreF]
          | cons a2 as => cases bs with
            | nil =>
              have := zip_replicate_eq (a :: a2 :: as) b
              simp only [List.length_cons] at this
              simp [pairedCoreF, this]
            | cons b2 bs =>
              by_cases h : as.length = bs.length <;> simp [pairedCoreF, h]

theorem getItem_two_eq_F {α} (ra : RA α) (fast : Bool) (r c : Part) (hf : (idxArr r).1 ≠ [])
    (hs : (idxArr c).1 ≠ []) : getItem ra fast (.two r c) = getItemF ra fast (.two r c) := by
  cases r with
  | slice s => exact absurd rfl hf
  | int i =>
    cases c with
    | slice s => exact absurd rfl hs
    | int j => exact paired_eq_pairedF ra _ _ hf hs
    | list l b => exact paired_eq_pairedF ra _ _ hf hs
  | list l b =>
    cases c with
    | slice s => exact absurd rfl hs
    | int j => exact paired_eq_pairedF ra _ _ hf hs
    | list l2 b2 => exact paired_eq_pairedF ra _ _ hf hs

theorem getItem_mask_eq_F {α} (ra : RA α) (fast : Bool) (m : RA Bool) (hm : WF m)
    (hany : specWhere (rows m) ≠ []) : getItem ra fast (.mask m) = getItemF ra fast (.mask m) := by
  simp only [getItem, getItemF, where_spec' m hm, bindE_ok]
  exact paired_eq_pairedF ra _ _ (by simpa [idxArr] using hany) (by simpa [idxArr] using hany)

theorem gather_length {α} {ra : RA α} {ps : List (Int × Int)} {d : List α} (h : gather ra ps = .ok d) :
    d.length = ps.length := by
  obtain ⟨flat, hc, h⟩ := bindE_eq_ok h
  rw [mapE_length h, mapE_length hc]

/-- `ofFlat` refused an empty flat array; for a non-empty list of pairs that is the only difference -/
theorem finish_eq_F {α} (ra : RA α) {pl : List (Int × Int) × List Nat} (hne : pl.1 ≠ []) :
    finish ra (.ok pl) = finishF ra (.ok pl) := by
  simp only [finish, finishF, bindE_ok]
  cases hg : gather ra pl.1 with
  | error e => rfl
  | ok d =>
    have hd : d ≠ [] := by
      intro h0; apply hne
      rw [← List.length_eq_zero_iff, ← gather_length hg, h0]; rfl
    simp only [bindE_ok, ofFlat, ofFlatF, if_neg hd]

theorem rowslice_list_eq_F {α} (ra : RA α) {rs : PySlice} (hrs : RowSliceOK ra.lengths.length rs)
    (hsel : rs.indices ra.lengths.length ≠ some []) {l : List Int} (hl : l ≠ []) :
    (bindE (sliceToList rs ra.lengths.length) fun first => finish ra (getIisFromList first l)) =
      bindE (sliceToListF rs ra.lengths.length) fun first => finishF ra (.ok (getIisFromListF first l)) := by
  obtain ⟨ix, hix, hstl⟩ := sliceToList_eq_indices hrs
  simp only [hstl, sliceToListF, hix, bindE_ok, getIisFromList]
  cases ix with
  | nil => exact absurd hix hsel
  | cons k ks =>
    cases l with
    | nil => exact absurd rfl hl
    | cons j js =>
      rw [if_neg (by simp)]
      exact finish_eq_F ra (by simp)

theorem ColSliceOK.step_ne {cs : PySlice} (hcs : ColSliceOK cs) : cs.step ≠ some 0 :=
  fun h0 => Int.lt_irrefl 0 (hcs.1 0 h0)

theorem colRange_eq_F {cs : PySlice} (hcs : ColSliceOK cs) (lens : List Nat) (num : Int) :
    (bindE (npIndex (colStops cs lens) num) fun st =>
      if cs.step.getD 1 = 0 then Except.error Err.other
      else .ok (num, pyRange (cs.start.getD 0) st (cs.step.getD 1))) = colRangeF cs lens num := by
  have hpos := step_pos_of hcs.1
  rw [colStops_eq, npIndex_map, bindE_assoc, colRangeF]
  apply bindE_congr
  intro len _
  obtain ⟨ix, hix, hr⟩ := colRange_eq_indices hcs len
  simp only [bindE_ok, if_neg (Int.ne_of_gt hpos), hix, hr]

/-- the remaining differences, `np.concatenate([])` and the float64 cast of an empty row, need no row
and a row that keeps no column -/
theorem finish_slices_eq_F {α} (ra : RA α) {cs : PySlice} (hcs : ColSliceOK cs) {first : List Int}
    (hne : first ≠ [])
    (hrow : ∀ i ∈ first, ∀ len, npIndex ra.lengths i = .ok len → cs.indices len ≠ some []) :
    finish ra (getIisFromSlices first cs ra.lengths) = finishF ra (getIisFromSlicesF first cs ra.lengths) := by
  have e := mapE_congr (l := first) (fun i _ => colRange_eq_F hcs ra.lengths i)
  simp only [getIisFromSlices, getIisFromSlicesF, e]
  cases hm : mapE (colRangeF cs ra.lengths) first with
  | error e => rfl
  | ok splits =>
    have hcol : ∀ p ∈ splits, p.2 ≠ [] := by
      intro p hp
      obtain ⟨i, hi, hpi⟩ := mapE_ok_mem hm hp
      obtain ⟨len, hx, hpi⟩ := bindE_eq_ok hpi
      cases hc : cs.indices len with
      | none => rw [hc] at hpi; cases hpi
      | some cix =>
        rw [hc] at hpi; cases hpi
        intro h0
        exact hrow i hi len hx (by rw [hc, List.map_eq_nil_iff.mp h0])
    have hany : splits.any (fun p => p.2.isEmpty) = false := by
      rw [List.any_eq_false]; intro p hp; simpa using hcol p hp
    simp only [bindE_ok, if_neg hne, hany, Bool.false_eq_true, if_false]
    apply finish_eq_F
    cases splits with
    | nil => cases first with
      | nil => exact absurd rfl hne
      | cons i is => cases mapE_length hm
    | cons p ps =>
      cases hp : p.2 with
      | nil => exact absurd hp (hcol p List.mem_cons_self)
      | cons j js => simp [hp]

theorem rowslice_slice_eq_F {α} (ra : RA α) {rs cs : PySlice} (hrs : RowSliceOK ra.lengths.length rs)
    (hsel : rs.indices ra.lengths.length ≠ some []) (hcs : ColSliceOK cs)
    (hrow : ∀ ix, rs.indices ra.lengths.length = some ix → ∀ k ∈ ix, ∀ len,
      ra.lengths[k]? = some len → cs.indices len ≠ some []) :
    (bindE (sliceToList rs ra.lengths.length) fun first => finish ra (getIisFromSlices first cs ra.lengths)) =
      bindE (sliceToListF rs ra.lengths.length) fun first =>
        finishF ra (getIisFromSlicesF first cs ra.lengths) := by
  obtain ⟨ix, hix, hstl⟩ := sliceToList_eq_indices hrs
  simp only [hstl, sliceToListF, hix, bindE_ok]
  apply finish_slices_eq_F ra hcs
  · intro h0; exact hsel (by rw [hix, List.map_eq_nil_iff.mp h0])
  · intro i hi len hlen
    obtain ⟨k, hk, rfl⟩ := List.mem_map.mp hi
    exact hrow ix hix k hk len (getNat_eq_ok.mp ((npIndex_ofNat ra.lengths k).symm.trans hlen))

end Ens.Ragged
