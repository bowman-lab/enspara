import Proofs.C01Basic
/-!
C01/C09: the predicate `Consistent`; the PAM candidate keeps it when accepted; a proposal that duplicates
another center is never accepted; cost monotonicity.
-/
namespace Ens.Cluster

variable {D : Table} {n : Nat} {s : St}

/-- the property's predicate on a clustering state (C01):
(i) center coordinates are the frames at the center indices, indices are frames;
(ii) every frame's distance is the table distance to the center it is labelled with, and
(iv) that label is a position of the center list; (iii) no center is strictly closer;
(v) every center frame carries its own label at distance zero. -/
structure Consistent (D : Table) (n : Nat) (s : St) : Prop where
  notFresh : s.arr.fresh = false
  frames : s.ctrFrames = s.ctrInds
  inds_lt : ∀ c ∈ s.ctrInds, c < n
  lab : ∀ f, f < n → ∃ (k c : Nat), s.arr.assign f = (k : Nat) ∧ s.ctrInds[k]? = some c ∧ s.arr.dist f = D f c
  best : ∀ f, f < n → ∀ (k c : Nat), s.ctrInds[k]? = some c → ¬ D f c < s.arr.dist f
  own : ∀ (k c : Nat), s.ctrInds[k]? = some c → s.arr.assign c = (k : Nat) ∧ s.arr.dist c = 0

/-- centers own their label at distance 0: consequence of nearest-center labelling on distinct points -/
theorem own_of (T : TableOK D n) {cs : List Nat} {a : Arr} (hlt : ∀ c ∈ cs, c < n) (hinj : Inj cs)
    (lab : ∀ f, f < n → ∃ (k c : Nat), a.assign f = (k : Nat) ∧ cs[k]? = some c ∧ a.dist f = D f c)
    (best : ∀ f, f < n → ∀ (k c : Nat), cs[k]? = some c → ¬ D f c < a.dist f) :
    ∀ (k c : Nat), cs[k]? = some c → a.assign c = (k : Nat) ∧ a.dist c = 0 := by
  intro k c hk
  have hc : c < n := hlt c (List.mem_of_getElem? hk)
  obtain ⟨k', c', h1, h2, h3⟩ := lab c hc
  have hc' : c' < n := hlt c' (List.mem_of_getElem? h2)
  have hb := best c hc k c hk
  rw [T.self c hc] at hb
  have h0 : 0 ≤ a.dist c := by rw [h3]; exact T.nonneg c c' hc hc'
  have hz : a.dist c = 0 := le_antisymm (not_lt.mp hb) h0
  have : c = c' := T.distinct c c' hc hc' (by rw [← h3]; exact hz)
  subst this
  have := hinj k' k c h2 hk
  subst this
  exact ⟨h1, hz⟩

theorem Consistent.inj (h : Consistent D n s) : Inj s.ctrInds := by
  intro i j c hi hj
  have h1 := (h.own i c hi).1
  have h2 := (h.own j c hj).1
  rw [h1] at h2; exact_mod_cast h2

theorem Consistent.dist_nonneg (T : TableOK D n) (h : Consistent D n s)
    {f : Nat} (hf : f < n) : 0 ≤ s.arr.dist f := by
  obtain ⟨k, c, _, h2, h3⟩ := h.lab f hf
  rw [h3]; exact T.nonneg f c hf (h.inds_lt c (List.mem_of_getElem? h2))

theorem Consistent.of_frames_runMin (T : TableOK D n) (hfr : s.ctrFrames = s.ctrInds)
    (h : RunMin D n s.ctrInds s.arr) (hne : s.ctrInds ≠ []) (hinj : Inj s.ctrInds) (hlt : ∀ c ∈ s.ctrInds, c < n) :
    Consistent D n s where
  notFresh := by
    cases hx : s.arr.fresh
    · rfl
    · exact absurd (h.fresh_iff.mp hx) hne
  frames := hfr
  inds_lt := hlt
  lab := h.lab hne
  best := h.best
  own := own_of T hlt hinj (h.lab hne) h.best

theorem Consistent.of_runMin (T : TableOK D n) {cs : List Nat} {a : Arr}
    (h : RunMin D n cs a) (hne : cs ≠ []) (hinj : Inj cs) (hlt : ∀ c ∈ cs, c < n) :
    Consistent D n { arr := a, ctrInds := cs, ctrFrames := cs } :=
  Consistent.of_frames_runMin T rfl h hne hinj hlt

theorem cost_le_cost {d e : Nat → Rat} (H : ∀ f, f < n → 0 ≤ d f ∧ d f ≤ e f) :
    cost n d ≤ cost n e := by
  unfold cost
  exact div_le_div_of_nonneg_right
    (sumTo_le_sumTo (le_refl 0) add_le_add fun f hf => mul_self_le_mul_self (H f hf).1 (H f hf).2)
    (Nat.cast_nonneg n)

theorem cand_dist (D : Table) (s : St) (cid p : Nat) {f : Nat} (h : f < n) :
    (pamCandidate D n s cid p).arr.dist f =
      if D f p < s.arr.dist f then D f p
      else if s.arr.assign f ≠ (cid : Nat) then s.arr.dist f
      else (assignNearest D n (s.ctrFrames.set cid p)).dist f := by
  unfold pamCandidate; simp only []; rw [tab_dist _ _ _ h]

theorem cand_assign (D : Table) (s : St) (cid p : Nat) {f : Nat} (h : f < n) :
    (pamCandidate D n s cid p).arr.assign f =
      if D f p < s.arr.dist f then ((cid : Nat) : Int)
      else if s.arr.assign f ≠ (cid : Nat) then s.arr.assign f
      else (assignNearest D n (s.ctrFrames.set cid p)).assign f := by
  unfold pamCandidate; simp only []; rw [tab_assign _ _ _ h]

@[simp] theorem cand_inds (D : Table) (n : Nat) (s : St) (cid p : Nat) :
    (pamCandidate D n s cid p).ctrInds = s.ctrInds.set cid p := rfl
@[simp] theorem cand_frames (D : Table) (n : Nat) (s : St) (cid p : Nat) :
    (pamCandidate D n s cid p).ctrFrames = s.ctrFrames.set cid p := rfl
@[simp] theorem cand_fresh (D : Table) (n : Nat) (s : St) (cid p : Nat) :
    (pamCandidate D n s cid p).arr.fresh = false := rfl

theorem lt_of_mem_set {l : List Nat} {cid p : Nat} (hl : ∀ c ∈ l, c < n) (hp : p < n) :
    ∀ c ∈ l.set cid p, c < n := fun c hc =>
  (List.mem_or_eq_of_mem_set hc).elim (hl c) fun e => e ▸ hp

theorem set_getElem?_cases {l : List Nat} {cid p k c : Nat} (h : (l.set cid p)[k]? = some c) :
    (k = cid ∧ c = p) ∨ (k ≠ cid ∧ l[k]? = some c) := by
  rw [List.getElem?_set] at h
  by_cases hk : cid = k
  · subst hk
    simp only [if_true] at h
    split at h
    · left; exact ⟨rfl, by cases h; rfl⟩
    · cases h
  · right; simp only [hk, if_false] at h; exact ⟨fun e => hk e.symm, h⟩

theorem Consistent.minAt (hs : Consistent D n s) {f : Nat} (hf : f < n) :
    ∃ k : Nat, s.arr.assign f = (k : Nat) ∧ MinAt (D f) s.ctrInds k (s.arr.dist f) := by
  obtain ⟨k, c, h1, h2, h3⟩ := hs.lab f hf
  exact ⟨k, h1, ⟨c, h2, h3⟩, hs.best f hf⟩

theorem MinAt.set_lt {g : Nat → Rat} {l : List Nat} {k cid p : Nat} {v : Rat} (h : MinAt g l k v)
    (hcid : cid < l.length) (hlt : g p < v) : MinAt g (l.set cid p) cid (g p) := by
  refine ⟨⟨p, List.getElem?_set_self hcid, rfl⟩, fun j c hj => ?_⟩
  rcases set_getElem?_cases hj with ⟨_, rfl⟩ | ⟨_, hj'⟩
  · exact lt_irrefl _
  · exact fun h' => h.2 j c hj' (lt_trans h' hlt)

theorem MinAt.set_ge {g : Nat → Rat} {l : List Nat} {k cid p : Nat} {v : Rat} (h : MinAt g l k v)
    (hk : k ≠ cid) (hge : ¬ g p < v) : MinAt g (l.set cid p) k v := by
  obtain ⟨⟨c0, e1, e2⟩, hb⟩ := h
  refine ⟨⟨c0, by rw [List.getElem?_set_ne (Ne.symm hk)]; exact e1, e2⟩, fun j c hj => ?_⟩
  rcases set_getElem?_cases hj with ⟨_, rfl⟩ | ⟨_, hj'⟩
  · exact hge
  · exact hb j c hj'

theorem cand_ne_nil {cid p : Nat} (hcid : cid < s.ctrInds.length) : s.ctrInds.set cid p ≠ [] := by
  intro e
  have := List.length_set (as := s.ctrInds) (i := cid) (a := p)
  rw [e] at this
  exact absurd (this ▸ hcid) (Nat.not_lt_zero _)

/-- the candidate's arrays are a running minimum over the new center list, whatever the proposal -/
theorem cand_runMin (hs : Consistent D n s) {cid p : Nat} (hcid : cid < s.ctrInds.length) :
    RunMin D n (s.ctrInds.set cid p) (pamCandidate D n s cid p).arr := by
  have hne := cand_ne_nil (p := p) hcid
  refine RunMin.of_minAt ⟨nofun, fun e => absurd e hne⟩ fun _ f hf => ?_
  rw [cand_dist D s cid p hf, cand_assign D s cid p hf, hs.frames]
  obtain ⟨k, hk, hm⟩ := hs.minAt hf
  by_cases h1 : D f p < s.arr.dist f
  · rw [if_pos h1, if_pos h1]
    exact ⟨cid, rfl, hm.set_lt hcid h1⟩
  · rw [if_neg h1, if_neg h1]
    by_cases h2 : s.arr.assign f ≠ (cid : Nat)
    · rw [if_pos h2, if_pos h2]
      exact ⟨k, hk, hm.set_ge (fun e => h2 (e ▸ hk)) h1⟩
    · rw [if_neg h2, if_neg h2]
      exact (RunMin.assignNearest D n _).minAt hne hf

theorem cand_dup_cost (T : TableOK D n) (hs : Consistent D n s)
    {cid p a : Nat} (hcid : cid < s.ctrInds.length) (hap : s.ctrInds[a]? = some p) :
    cost n s.arr.dist ≤ cost n (pamCandidate D n s cid p).arr.dist := by
  apply cost_le_cost
  intro f hf
  refine ⟨hs.dist_nonneg T hf, ?_⟩
  obtain ⟨k, c, _, e2, e3⟩ := (cand_runMin (p := p) hs hcid).lab (cand_ne_nil hcid) f hf
  rw [e3]
  rcases set_getElem?_cases e2 with ⟨_, rfl⟩ | ⟨_, hk'⟩
  · exact not_lt.mp (hs.best f hf a c hap)
  · exact not_lt.mp (hs.best f hf k c hk')

theorem cand_consistent (T : TableOK D n) (hs : Consistent D n s)
    {cid p : Nat} (hcid : cid < s.ctrInds.length) (hp : p < n)
    (hacc : cost n (pamCandidate D n s cid p).arr.dist < cost n s.arr.dist) :
    Consistent D n (pamCandidate D n s cid p) := by
  have hlt := lt_of_mem_set (cid := cid) hs.inds_lt hp
  have hinj : Inj (s.ctrInds.set cid p) := by
    intro i j c hi hj
    rcases set_getElem?_cases hi with ⟨rfl, rfl⟩ | ⟨hi1, hi2⟩ <;>
      rcases set_getElem?_cases hj with ⟨hj0, hj1⟩ | ⟨hj1, hj2⟩
    · exact hj0.symm
    · exact absurd (cand_dup_cost T hs hcid hj2) (not_le.mpr hacc)
    · subst hj0; subst hj1
      exact absurd (cand_dup_cost T hs hcid hi2) (not_le.mpr hacc)
    · exact hs.inj i j c hi2 hj2
  exact Consistent.of_frames_runMin T (by simp [hs.frames]) (cand_runMin (p := p) hs hcid) (cand_ne_nil hcid) hinj hlt

end Ens.Cluster
