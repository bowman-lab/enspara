import Model.Msm
import Proofs.C16Fit
import Proofs.BasicSum
import Mathlib.Analysis.SpecialFunctions.Log.Basic
import Mathlib.Analysis.Complex.Basic
import Mathlib.Data.Matrix.Mul
import Mathlib.Algebra.BigOperators.Fin
import Mathlib.Algebra.BigOperators.Field
import Mathlib.Tactic.Ring
/-!
Spectrum post-processing, the eigenvalue bound for row-stochastic matrices, the implied
timescale formula and ensemble propagation.
-/
namespace Ens.Msm
open Ens

theorem filterMap_map_of_some {α β γ : Type} (f : β → Option γ) (a : α → β) (b : α → γ)
    (l : List α) (h : ∀ p ∈ l, f (a p) = some (b p)) : (l.map a).filterMap f = l.map b := by
  induction l with
  | nil => rfl
  | cons p rest ih =>
    simp only [List.map_cons, List.filterMap_cons, h p List.mem_cons_self,
      ih fun q hq => h q (List.mem_cons_of_mem _ hq)]

theorem getElem?_eq_some_getD {α : Type} (xs : List α) (d : α) {i : Nat} (h : i < xs.length) :
    xs[i]? = some (xs.getD i d) := by
  rw [List.getD_eq_getElem?_getD, List.getElem?_eq_getElem h, Option.getD_some]

theorem filterMap_getElem?_eq_map {α : Type} (xs : List α) (d : α) (l : List Nat)
    (h : ∀ i ∈ l, i < xs.length) : l.filterMap (xs[·]?) = l.map (xs.getD · d) := by
  have := filterMap_map_of_some (xs[·]?) id (xs.getD · d) l fun i hi => getElem?_eq_some_getD xs d (h i hi)
  rwa [List.map_id] at this

theorem zip_range_getElem? (vals : List Cx) (p : Nat × Cx)
    (hp : p ∈ (List.range vals.length).zip vals) : vals[p.1]? = some p.2 := by
  obtain ⟨k, hk, he⟩ := List.mem_iff_getElem.mp hp
  have hk' : k < vals.length := by
    simp only [List.length_zip, List.length_range, Nat.min_self] at hk; exact hk
  rw [List.getElem_zip] at he
  rw [← he]
  simp only [List.getElem_range]
  exact List.getElem?_eq_getElem hk'

/-- the pairs (index, value) sorted by the code's key -/
def sortedPairs (vals : List Cx) : List (Nat × Cx) :=
  stableSort (fun a b => decide (-a.2.re ≤ -b.2.re)) ((List.range vals.length).zip vals)

theorem sortedPairs_perm (vals : List Cx) :
    (sortedPairs vals).Perm ((List.range vals.length).zip vals) := stableSort_perm _ _

theorem sortedPairs_pairwise (vals : List Cx) :
    (sortedPairs vals).Pairwise (fun a b => b.2.re ≤ a.2.re) := by
  have := stableSort_pairwise (fun (a b : Nat × Cx) => decide (-a.2.re ≤ -b.2.re))
    (fun a b c h1 h2 => decide_eq_true (le_trans (of_decide_eq_true h1) (of_decide_eq_true h2)))
    (fun a b => (le_total (-a.2.re) (-b.2.re)).imp decide_eq_true decide_eq_true)
    ((List.range vals.length).zip vals)
  exact this.imp fun h => neg_le_neg_iff.mp (of_decide_eq_true h)

theorem reordered_vals (vals : List Cx) :
    (argsortDesc vals).filterMap (vals[·]?) = (sortedPairs vals).map (·.2) :=
  filterMap_map_of_some _ _ _ _ fun p hp =>
    zip_range_getElem? vals p ((sortedPairs_perm vals).mem_iff.mp hp)

theorem argsortDesc_perm (vals : List Cx) : (argsortDesc vals).Perm (List.range vals.length) := by
  have : (argsortDesc vals).Perm (((List.range vals.length).zip vals).map Prod.fst) :=
    (sortedPairs_perm vals).map Prod.fst
  rwa [List.map_fst_zip (by simp)] at this

theorem argsortDesc_lt (vals : List Cx) : ∀ i ∈ argsortDesc vals, i < vals.length := by
  intro i hi
  exact List.mem_range.mp ((argsortDesc_perm vals).mem_iff.mp hi)

theorem argsortDesc_length (vals : List Cx) : (argsortDesc vals).length = vals.length := by
  rw [(argsortDesc_perm vals).length_eq, List.length_range]

/-- all real parts, in the order the code puts them -/
def sortedReals (vals : List Cx) : List Rat := ((sortedPairs vals).map (·.2)).map (·.re)

theorem sortedReals_perm (vals : List Cx) : (sortedReals vals).Perm (vals.map (·.re)) := by
  have := ((sortedPairs_perm vals).map (·.2)).map (·.re)
  rwa [List.map_snd_zip (by rw [List.length_range])] at this

theorem sortedReals_desc (vals : List Cx) : (sortedReals vals).Pairwise (· ≥ ·) := by
  simp only [sortedReals, List.pairwise_map]
  exact sortedPairs_pairwise vals

theorem head?_of_desc_of_mem_upperBound {α : Type} [PartialOrder α] (l : List α) (m : α)
    (hdesc : l.Pairwise (· ≥ ·)) (hle : ∀ x ∈ l, x ≤ m) (hm : m ∈ l) : l.head? = some m := by
  cases l with
  | nil => cases hm
  | cons x rest =>
    rw [List.head?_cons, Option.some.injEq]
    apply le_antisymm (hle x List.mem_cons_self)
    rcases List.mem_cons.mp hm with e | h
    · rw [e]
    · exact (List.pairwise_cons.mp hdesc).1 m h

theorem eigPost_ok (k : Nat) (vals : List Cx) (cols : List (List Cx))
    (v : List Rat) (c : List (List Rat)) (h : eigPost k vals cols = .ok (v, c)) :
    ∃ c0 rest, (argsortDesc vals).filterMap (cols[·]?) = c0 :: rest ∧ cxSum c0 ≠ Cx.zero ∧
      v = (((argsortDesc vals).filterMap (vals[·]?)).take k).map (·.re) ∧
      c = (((c0.map fun z => z.div (cxSum c0)) :: rest).take k).map (fun col => col.map (·.re)) := by
  simp only [eigPost] at h
  split at h
  · cases h
  · rename_i c0 rest heq
    split at h
    · cases h
    · rename_i hs
      simp only [pure, Except.pure, Except.ok.injEq, Prod.mk.injEq] at h
      exact ⟨c0, rest, heq, hs, h.1.symm, h.2.symm⟩

theorem cxSum_cons (z : Cx) (l : List Cx) : cxSum (z :: l) = z.add (cxSum l) := rfl

theorem sum_div_re (s : Cx) (c0 : List Cx) :
    (c0.map fun z => (z.div s).re).sum =
      ((cxSum c0).re * s.re + (cxSum c0).im * s.im) / (s.re * s.re + s.im * s.im) := by
  induction c0 with
  | nil => simp [cxSum, Cx.zero]
  | cons z rest ih =>
    simp only [List.map_cons, List.sum_cons, cxSum_cons]
    rw [ih]
    simp only [Cx.add, Cx.div]
    ring

theorem normSq_ne_zero (s : Cx) (hs : s ≠ Cx.zero) : s.re * s.re + s.im * s.im ≠ 0 := by
  intro h
  obtain ⟨hr, hi⟩ := mul_self_add_mul_self_eq_zero.mp h
  apply hs
  cases s
  exact congrArg₂ Cx.mk hr hi

theorem first_sums_to_one (c0 : List Cx) (hs : cxSum c0 ≠ Cx.zero) :
    (c0.map fun z => (z.div (cxSum c0)).re).sum = 1 := by
  rw [sum_div_re]
  exact div_self (normSq_ne_zero _ hs)

theorem cxSum_real (c0 : List Cx) (hre : ∀ z ∈ c0, z.im = 0) :
    cxSum c0 = ⟨(c0.map (·.re)).sum, 0⟩ := by
  induction c0 with
  | nil => rfl
  | cons z rest ih =>
    rw [cxSum_cons, ih (fun w hw => hre w (List.mem_cons_of_mem _ hw))]
    simp [Cx.add, hre z List.mem_cons_self]

theorem div_real (z s : Cx) (hz : z.im = 0) (hs : s.im = 0) : (z.div s).re = z.re / s.re := by
  simp only [Cx.div, hz, hs, mul_zero, add_zero, zero_mul]
  rcases eq_or_ne s.re 0 with h | h
  · simp only [h, mul_zero, div_zero]
  · exact mul_div_mul_right _ _ h

/-- a purely real column (what LAPACK returns for a real eigenvalue) is divided by the
sum of its real parts -/
theorem first_real (c0 : List Cx) (hre : ∀ z ∈ c0, z.im = 0) :
    (c0.map fun z => (z.div (cxSum c0)).re) = c0.map fun z => z.re / (c0.map (·.re)).sum := by
  apply List.map_congr_left
  intro z hz
  rw [div_real z _ (hre z hz) (by rw [cxSum_real c0 hre])]
  rw [cxSum_real c0 hre]

/-- `Cx` is ℂ restricted to rational parts: the division the model performs is complex division -/
noncomputable def toC (z : Cx) : ℂ := ⟨(z.re : ℝ), (z.im : ℝ)⟩

theorem toC_div (a b : Cx) : toC (a.div b) = toC a / toC b := by
  apply Complex.ext
  · rw [Complex.div_re]
    simp only [toC, Cx.div, Complex.normSq_mk, Rat.cast_div, Rat.cast_add, Rat.cast_mul]
    exact add_div _ _ _
  · rw [Complex.div_im]
    simp only [toC, Cx.div, Complex.normSq_mk, Rat.cast_div, Rat.cast_add, Rat.cast_sub, Rat.cast_mul]
    exact sub_div _ _ _

theorem vecMul_div_scale {K : Type} [Field K] {n : Nat} (T : Matrix (Fin n) (Fin n) K)
    (v : Fin n → K) (lam s : K) (h : Matrix.vecMul v T = lam • v) :
    Matrix.vecMul (fun i => v i / s) T = lam • (fun i => v i / s) := by
  have e : (fun i => v i / s) = s⁻¹ • v := funext fun i => div_eq_inv_mul _ _
  rw [e, Matrix.smul_vecMul, h, smul_comm]

theorem sum_div_scale {K : Type} [Field K] {n : Nat} (v : Fin n → K) (hs : (∑ i, v i) ≠ 0) :
    ∑ i, v i / (∑ i, v i) = 1 := by
  rw [← Finset.sum_div]; exact div_self hs

/-- 1-norm argument for left eigenvectors -/
theorem norm_le_one_of_left {K : Type} [NormedField K] {n : Nat} (T : Matrix (Fin n) (Fin n) K)
    (hrow : ∀ i, ∑ j, ‖T i j‖ ≤ 1) (v : Fin n → K) (lam : K) (hv : v ≠ 0)
    (h : Matrix.vecMul v T = lam • v) : ‖lam‖ ≤ 1 := by
  obtain ⟨i, hi⟩ := Function.ne_iff.mp hv
  have hpos : 0 < ∑ i, ‖v i‖ := (norm_pos_iff.mpr hi).trans_le
    (Finset.single_le_sum (f := fun i => ‖v i‖) (fun i _ => norm_nonneg (v i)) (Finset.mem_univ i))
  have key : ‖lam‖ * ∑ j, ‖v j‖ ≤ ∑ i, ‖v i‖ :=
    calc ‖lam‖ * ∑ j, ‖v j‖ = ∑ j, ‖(lam • v) j‖ := by
            rw [Finset.mul_sum]; exact Finset.sum_congr rfl fun j _ => (norm_mul _ _).symm
      _ = ∑ j, ‖∑ i, v i * T i j‖ := by rw [← h]; rfl
      _ ≤ ∑ j, ∑ i, ‖v i‖ * ‖T i j‖ := Finset.sum_le_sum fun j _ =>
            (norm_sum_le _ _).trans_eq (Finset.sum_congr rfl fun i _ => norm_mul _ _)
      _ = ∑ i, ‖v i‖ * ∑ j, ‖T i j‖ := by
            rw [Finset.sum_comm]; exact Finset.sum_congr rfl fun i _ => (Finset.mul_sum _ _ _).symm
      _ ≤ ∑ i, ‖v i‖ := Finset.sum_le_sum fun i _ =>
            mul_le_of_le_one_right (norm_nonneg _) (hrow i)
  exact (mul_le_iff_le_one_left hpos).mp key

/-- max-norm argument for right eigenvectors -/
theorem norm_le_one_of_right {K : Type} [NormedField K] {n : Nat} (T : Matrix (Fin n) (Fin n) K)
    (hrow : ∀ i, ∑ j, ‖T i j‖ ≤ 1) (v : Fin n → K) (lam : K) (hv : v ≠ 0)
    (h : Matrix.mulVec T v = lam • v) : ‖lam‖ ≤ 1 := by
  obtain ⟨i0, hi0⟩ := Function.ne_iff.mp hv
  obtain ⟨m, _, hm⟩ := Finset.exists_max_image Finset.univ (fun i => ‖v i‖) ⟨i0, Finset.mem_univ _⟩
  have hpos : 0 < ‖v m‖ := lt_of_lt_of_le (norm_pos_iff.mpr hi0) (hm i0 (Finset.mem_univ _))
  have key : ‖lam‖ * ‖v m‖ ≤ ‖v m‖ :=
    calc ‖lam‖ * ‖v m‖ = ‖(lam • v) m‖ := (norm_mul _ _).symm
      _ = ‖∑ j, T m j * v j‖ := by rw [← h]; rfl
      _ ≤ ∑ j, ‖T m j‖ * ‖v j‖ :=
            (norm_sum_le _ _).trans_eq (Finset.sum_congr rfl fun j _ => norm_mul _ _)
      _ ≤ ∑ j, ‖T m j‖ * ‖v m‖ := Finset.sum_le_sum fun j _ =>
            mul_le_mul_of_nonneg_left (hm j (Finset.mem_univ _)) (norm_nonneg _)
      _ = (∑ j, ‖T m j‖) * ‖v m‖ := (Finset.sum_mul _ _ _).symm
      _ ≤ ‖v m‖ := mul_le_of_le_one_left (norm_nonneg _) (hrow m)
  exact (mul_le_iff_le_one_left hpos).mp key

theorem row_norms_le_one {K : Type} [NormedField K] {n : Nat} (M : Matrix (Fin n) (Fin n) K)
    (T : Matrix (Fin n) (Fin n) ℝ) (hrow : ∀ i, ∑ j, T i j = 1) (hM : ∀ i j, ‖M i j‖ = T i j) :
    ∀ i, ∑ j, ‖M i j‖ ≤ 1 := fun i =>
  ((Finset.sum_congr rfl fun j _ => hM i j).trans (hrow i)).le

theorem stochastic_row_norms {n : Nat} (T : Matrix (Fin n) (Fin n) ℝ) (hnn : ∀ i j, 0 ≤ T i j)
    (hrow : ∀ i, ∑ j, T i j = 1) : ∀ i, ∑ j, ‖T i j‖ ≤ 1 :=
  row_norms_le_one T T hrow fun i j => Real.norm_of_nonneg (hnn i j)

theorem stochastic_row_norms_complex {n : Nat} (T : Matrix (Fin n) (Fin n) ℝ) (hnn : ∀ i j, 0 ≤ T i j)
    (hrow : ∀ i, ∑ j, T i j = 1) : ∀ i, ∑ j, ‖(T.map (fun x => (x : ℂ))) i j‖ ≤ 1 :=
  row_norms_le_one _ T hrow fun i j => by
    rw [Matrix.map_apply, Complex.norm_real, Real.norm_of_nonneg (hnn i j)]

theorem ones_right_eigvec {n : Nat} (T : Matrix (Fin n) (Fin n) ℝ) (hrow : ∀ i, ∑ j, T i j = 1) :
    Matrix.mulVec T (fun _ => (1 : ℝ)) = (1 : ℝ) • (fun _ => (1 : ℝ)) := by
  funext i
  rw [one_smul, Matrix.mulVec, dotProduct]
  exact (Finset.sum_congr rfl fun j _ => mul_one _).trans (hrow i)

theorem imp_time_pos (lag l : ℝ) (hlag : 0 < lag) (h0 : 0 < l) (h1 : l < 1) :
    0 < -lag / Real.log l :=
  div_pos_of_neg_of_neg (neg_neg_of_pos hlag) (Real.log_neg h0 h1)

/-- the defining relation `λ = exp(−τ / t)` of the implied timescale `t` -/
theorem imp_time_defining (lag l : ℝ) (hlag : lag ≠ 0) (h0 : 0 < l) :
    Real.exp (-lag / (-lag / Real.log l)) = l := by
  rw [div_div_cancel₀ (neg_ne_zero.mpr hlag), Real.exp_log h0]

/-- a `Fin n`-indexed matrix / vector seen through natural-number indices -/
def extM {R : Type} [Zero R] {n : Nat} (T : Matrix (Fin n) (Fin n) R) : Nat → Nat → R :=
  fun i j => if h : i < n ∧ j < n then T ⟨i, h.1⟩ ⟨j, h.2⟩ else 0
def extV {R : Type} [Zero R] {n : Nat} (p : Fin n → R) : Nat → R :=
  fun i => if h : i < n then p ⟨i, h⟩ else 0
def restrict {R : Type} (n : Nat) (p : Nat → R) : Fin n → R := fun i => p i

theorem restrict_extV {R : Type} [Zero R] {n : Nat} (p : Fin n → R) : restrict n (extV p) = p := by
  funext i; simp [restrict, extV]

theorem restrict_rmatvec {R : Type} [Semiring R] {n : Nat} (T : Matrix (Fin n) (Fin n) R)
    (p : Nat → R) : restrict n (rmatvec n (extM T) p) = Matrix.vecMul (restrict n p) T := by
  funext j
  simp only [restrict, rmatvec, Matrix.vecMul, dotProduct]
  rw [sumTo_eq_sum, ← Fin.sum_univ_eq_sum_range (fun i => p i * extM T i j) n]
  apply Finset.sum_congr rfl
  intro i _
  simp [extM]

theorem ensembleLoop_eq {α : Type} [Add α] [Mul α] [OfNat α 0] (n : Nat) (T : Nat → Nat → α)
    (k : Nat) (p : Nat → α) :
    ensembleLoop n T k p =
      ((List.range k).map fun t => (rmatvec n T)^[t + 1] p, (rmatvec n T)^[k] p) := by
  induction k generalizing p with
  | zero => rfl
  | succ k ih =>
    rw [ensembleLoop, ih, List.range_succ_eq_map, List.map_cons, List.map_map]
    rfl

theorem syntheticEnsemble_eq {α : Type} [Add α] [Mul α] [OfNat α 0] (n : Nat) (T : Nat → Nat → α)
    (p0 : Nat → α) (s : Int) :
    syntheticEnsemble n T p0 s = ((rmatvec n T)^[(s - 1).toNat] p0,
      (List.range ((s - 1).toNat + 1)).map fun t => (rmatvec n T)^[t] p0) := by
  rw [syntheticEnsemble, ensembleLoop_eq, List.range_succ_eq_map, List.map_cons, List.map_map]
  rfl

theorem restrict_iterate {R : Type} [Semiring R] {n : Nat} (T : Matrix (Fin n) (Fin n) R)
    (t : Nat) (p : Nat → R) :
    restrict n ((rmatvec n (extM T))^[t] p) = Matrix.vecMul (restrict n p) (T ^ t) := by
  induction t generalizing p with
  | zero => rw [pow_zero, Matrix.vecMul_one]; rfl
  | succ t ih =>
    rw [Function.iterate_succ_apply, ih, restrict_rmatvec, Matrix.vecMul_vecMul, ← pow_succ']

end Ens.Msm
