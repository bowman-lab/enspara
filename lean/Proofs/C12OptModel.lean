import Proofs.C12Final
import Proofs.C12Opt
import Mathlib.Analysis.Real.Sqrt

/-!
# C12 optimality, tied to the model

* `prinz_all`: at a state where a sweep changes nothing, the Prinz equations hold for **all**
  pairs `i j` (including `i = j` and the pairs the code skips with its `a == 0` guard), provided
  a pair with `a = 0` — two states whose only counts go to each other — is the whole state space
  (true for strongly connected count matrices, proved in `Props/C12.lean`).
* `optimal_of_prinz`: a state satisfying the Prinz equations maximises the log-likelihood over
  all reversible row-stochastic matrices of finite likelihood (`Ens.C12Opt.loglik_le`).
* `optimal_of_fixed`: the two together, from `prinz_of_sweep_fixed`, over ℝ with `Real.sqrt`.
-/

set_option linter.unusedSectionVars false

namespace Ens.C12P
open Ens Ens.Mle

section field
variable {K : Type} [Field K] [LinearOrder K] [IsStrictOrderedRing K] {n : Nat}

variable {sqrt log : K → K} {C : Mat K n} {Crs : Vec K n} {st : St K n}

/-- `a = 0` for the pair `(i, j)`: all counts of `i` go to `j` and all counts of `j` go to `i` -/
theorem coefA_zero (hD : Data C Crs) {i j : Fin n} (ha : coefA C Crs i j = 0) :
    vget Crs i = mget C i j ∧ vget Crs j = mget C j i ∧
    (∀ k, k ≠ j → mget C i k = 0) ∧ (∀ k, k ≠ i → mget C j k = 0) := by
  obtain ⟨h1, h2⟩ := (add_eq_zero_iff_of_nonneg (sub_nonneg.2 (hD.le_crs i j))
    (sub_nonneg.2 (hD.le_crs j i))).1 ha
  have e1 := sub_eq_zero.1 h1
  have e2 := sub_eq_zero.1 h2
  exact ⟨e1, e2,
    fun k hk => eq_zero_of_sum_eq (fun l => mget C i l) (hD.nonneg i) ((hD.crs i).symm.trans e1) hk,
    fun k hk => eq_zero_of_sum_eq (fun l => mget C j l) (hD.nonneg j) ((hD.crs j).symm.trans e2) hk⟩

/-- The Prinz equations in their uniform shape, for every pair of states, from the two
families that `prinz_of_sweep_fixed` delivers. -/
theorem prinz_all (hD : Data C Crs) (hc : Conn C) (h : Inv st)
    (hA : ∀ i j : Fin n, i ≠ j → coefA C Crs i j = 0 → ∀ k, k = i ∨ k = j)
    (hdiag : ∀ i, 0 < vget Crs i - mget C i i →
      mget st.X i i * vget Crs i = mget C i i * vget st.rs i)
    (hpair : ∀ i j, i ≠ j → coefA C Crs i j ≠ 0 →
      (mget C i j + mget C j i) * vget st.rs i * vget st.rs j
        = mget st.X i j * (vget Crs i * vget st.rs j + vget Crs j * vget st.rs i))
    (i j : Fin n) :
    (mget C i j + mget C j i) * vget st.rs i * vget st.rs j
      = mget st.X i j * (vget Crs i * vget st.rs j + vget Crs j * vget st.rs i) := by
  by_cases hij : i = j
  · subst hij
    have := hdiag i (hc.denom_pos hD i)
    linear_combination (-2 * vget st.rs i) * this
  · by_cases ha : coefA C Crs i j = 0
    · -- a pair the code skips: the two states are the whole chain and have no self-counts,
      -- so both row sums of `X` are `X_ij`
      have hU := hA i j hij ha
      obtain ⟨e1, e2, z1, z2⟩ := coefA_zero hD ha
      have key : ∀ {i j : Fin n}, (∀ k, k = i ∨ k = j) → mget C i i = 0 →
          vget st.rs i = mget st.X i j := by
        intro i j hU hCii
        have hXii : mget st.X i i = 0 := by
          have := hdiag i (hc.denom_pos hD i)
          rw [hCii, zero_mul] at this
          exact (mul_eq_zero.1 this).resolve_right (hc.crs_pos hD i).ne'
        rw [h.rs i]
        exact Finset.sum_eq_single j
          (fun k _ hk => (hU k).elim (fun e => e ▸ hXii) (fun e => absurd e hk))
          (fun hn => absurd (Finset.mem_univ j) hn)
      rw [key hU (z1 i hij), key (fun k => (hU k).symm) (z2 j (Ne.symm hij)), h.symm j i, e1, e2]
      ring
    · exact hpair i j hij ha

theorem Data.crs_unique {C : Mat K n} {Crs Crs' : Vec K n} (h : Data C Crs) (h' : Data C Crs') :
    Crs = Crs' :=
  vec_ext (fun i => by rw [h.crs i, h'.crs i])

end field

section real
variable {n : Nat}

/-- A state satisfying the Prinz equations is a reversible maximum-likelihood estimate: its
`X / rowsum` has log-likelihood at least that of every row-stochastic `T'` in detailed balance
with a positive `π'` that is positive wherever `C` is. -/
theorem optimal_of_prinz {C : Mat ℝ n} {Crs : Vec ℝ n} (hD : Data C Crs)
    (hcpos : ∀ i, 0 < vget Crs i) {st : St ℝ n} (h : Inv st) (hpos : ∀ i, 0 < vget st.rs i)
    (hE : ∀ i j, (mget C i j + mget C j i) * vget st.rs i * vget st.rs j
      = mget st.X i j * (vget Crs i * vget st.rs j + vget Crs j * vget st.rs i))
    (T' : Mat ℝ n) (π' : Vec ℝ n)
    (hT0 : ∀ i j, 0 ≤ mget T' i j) (hT1 : ∀ i, ∑ j, mget T' i j = 1)
    (hπ : ∀ i, 0 < vget π' i)
    (hdb : ∀ i j, vget π' i * mget T' i j = vget π' j * mget T' j i)
    (hsupp : ∀ i j, 0 < mget C i j → 0 < mget T' i j) :
    ∑ i, ∑ j, mget C i j * Real.log (mget T' i j)
      ≤ ∑ i, ∑ j, mget C i j * Real.log (mget st.X i j / vget st.rs i) := by
  have key := Ens.C12Opt.loglik_le (fun i j => mget C i j) (fun i j => mget st.X i j)
    (fun i j => vget π' i * mget T' i j) (fun i => vget Crs i) (fun i => vget st.rs i)
    (fun i => vget π' i) hD.nonneg hD.crs hcpos h.symm h.nonneg h.rs hpos hdb
    (fun i j => mul_nonneg (hπ i).le (hT0 i j))
    (fun i => by rw [← Finset.mul_sum, hT1 i, mul_one]) hπ hE
    (fun i j hc => mul_pos (hπ i) (hsupp i j hc))
  have hrew : ∀ i j, vget π' i * mget T' i j / vget π' i = mget T' i j := fun i j =>
    mul_div_cancel_left₀ _ (hπ i).ne'
  simpa only [hrew] using key

theorem real_sqrt_spec : SqrtSpec Real.sqrt :=
  ⟨fun _ hx => Real.mul_self_sqrt hx, fun x _ => Real.sqrt_nonneg x⟩

theorem optimal_of_fixed {log : ℝ → ℝ} {C : Mat ℝ n} {Crs : Vec ℝ n}
    (hD : Data C Crs) (hc : Conn C) {st : St ℝ n} (h : Inv st) (hpos : ∀ i, 0 < vget st.rs i)
    (hA : ∀ i j : Fin n, i ≠ j → coefA C Crs i j = 0 → ∀ k, k = i ∨ k = j)
    {q : St ℝ n × ℝ} (hsw : sweep Real.sqrt log C Crs st = .ok q) (hX : q.1.X = st.X)
    (T' : Mat ℝ n) (π' : Vec ℝ n)
    (hT0 : ∀ i j, 0 ≤ mget T' i j) (hT1 : ∀ i, ∑ j, mget T' i j = 1)
    (hπ : ∀ i, 0 < vget π' i)
    (hdb : ∀ i j, vget π' i * mget T' i j = vget π' j * mget T' j i)
    (hsupp : ∀ i j, 0 < mget C i j → 0 < mget T' i j) :
    ∑ i, ∑ j, mget C i j * Real.log (mget T' i j)
      ≤ ∑ i, ∑ j, mget C i j * Real.log (mget st.X i j / vget st.rs i) :=
  have hp := prinz_of_sweep_fixed real_sqrt_spec hD h hsw hX
  optimal_of_prinz hD (hc.crs_pos hD) h hpos (prinz_all hD hc h hA hp.1 hp.2)
    T' π' hT0 hT1 hπ hdb hsupp

end real
end Ens.C12P
