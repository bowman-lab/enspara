import Proofs.C13Mem
import Proofs.C13Row
import Proofs.Basic
/-! The kernels on the flat `out` buffer under arbitrary interleavings; what a successful
`kernelRun` leaves in the buffer (`KernelSpec`); validation and dispatch. -/
namespace Ens.Dist
open Ens.Sched

theorem outPos_inj (offset stride : Int) (n : Nat)
    (hpos : ∀ i, i < n → 0 ≤ idx1 offset stride i) (hs : stride ≠ 0 ∨ n ≤ 1)
    (i j : Nat) (hi : i < n) (hj : j < n) (h : outPos offset stride i = outPos offset stride j) :
    i = j := by
  rcases hs with hs | hs
  · have h3 : idx1 offset stride i = idx1 offset stride j :=
      (Int.toNat_of_nonneg (hpos i hi)).symm.trans
        ((congrArg (Nat.cast : Nat → Int) h).trans (Int.toNat_of_nonneg (hpos j hj)))
    exact Int.ofNat_inj.mp (Int.eq_of_mul_eq_mul_right hs (Int.add_left_cancel h3))
  · omega

/-- After ANY interleaving of the row programs, the flat position of `out[i]` holds the
sequential result of row `i`, and every other position of the buffer is unchanged. -/
theorem runMem_spec (progs : List (List (Cell → Cell))) (e : Exec Cell)
    (h : IsInterleaving progs e) (offset stride : Int) (buf : Nat → Cell)
    (hpos : ∀ i, i < progs.length → 0 ≤ idx1 offset stride i)
    (hs : stride ≠ 0 ∨ progs.length ≤ 1) :
    (∀ i, i < progs.length → runMem offset stride e buf (outPos offset stride i)
        = runSteps (progOf progs i) (buf (outPos offset stride i))) ∧
    (∀ c, (∀ i, i < progs.length → outPos offset stride i ≠ c) →
        runMem offset stride e buf c = buf c) :=
  ⟨run_retag (outPos offset stride) progs e buf h (outPos_inj offset stride progs.length hpos hs),
    run_retag_other (outPos offset stride) progs e buf h⟩

theorem runMem_interleaving_independent (progs : List (List (Cell → Cell))) (e1 e2 : Exec Cell)
    (h1 : IsInterleaving progs e1) (h2 : IsInterleaving progs e2)
    (offset stride : Int) (buf : Nat → Cell)
    (hpos : ∀ i, i < progs.length → 0 ≤ idx1 offset stride i)
    (hs : stride ≠ 0 ∨ progs.length ≤ 1) :
    runMem offset stride e1 buf = runMem offset stride e2 buf := by
  funext c
  have s1 := runMem_spec progs e1 h1 offset stride buf hpos hs
  have s2 := runMem_spec progs e2 h2 offset stride buf hpos hs
  by_cases hc : ∃ i, i < progs.length ∧ outPos offset stride i = c
  · obtain ⟨i, hi, rfl⟩ := hc
    rw [s1.1 i hi, s2.1 i hi]
  · have hc' : ∀ i, i < progs.length → outPos offset stride i ≠ c :=
      fun i hi heq => hc ⟨i, hi, heq⟩
    rw [s1.2 c hc', s2.2 c hc']

theorem progsOf_length {ε} (k : Kernel) (term : ε → ε → Rat) (rows : List (List ε)) (ys : List ε) :
    (progsOf k term rows ys).length = rows.length := by simp [progsOf]

theorem progOf_progsOf {ε} (k : Kernel) (term : ε → ε → Rat) (rows : List (List ε)) (ys : List ε)
    (i : Nat) (xs : List ε) (h : rows[i]? = some xs) :
    progOf (progsOf k term rows ys) i = rowProg k ys.length (rowTerms term xs ys) := by
  simp [progOf, progsOf, List.getD, List.getElem?_map, h]

theorem runMem_progsOf_eq_seq {ε} (k : Kernel) (term : ε → ε → Rat) (rows : List (List ε)) (ys : List ε)
    (offset stride : Int) (buf : Nat → Cell)
    (hpos : ∀ i, i < rows.length → 0 ≤ idx1 offset stride i) (hs : stride ≠ 0 ∨ rows.length ≤ 1)
    (e : Exec Cell) (he : IsInterleaving (progsOf k term rows ys) e) :
    runMem offset stride e buf = runMem offset stride (seqExec (progsOf k term rows ys)) buf :=
  runMem_interleaving_independent _ e _ he (seqExec_isInterleaving _) offset stride buf
    ((progsOf_length k term rows ys).symm ▸ hpos) ((progsOf_length k term rows ys).symm ▸ hs)

/-- what a successful kernel run means (`n`, `w`, `so`, `rows`, `ys` are the sizes, the `out`
stride and the logical data the run read) -/
structure KernelSpec {ε} (k : Kernel) (term : ε → ε → Rat) (X y : Arr ε) (out : Arr Cell)
    (r : Result) (n w : Nat) (so : Int) (rows : List (List ε)) (ys : List ε) : Prop where
  hshape : out.shape = [n]
  hy : y.shape = [w]
  hstr : out.strides = [so]
  hrows : X.rows? n w = some rows
  hys : y.elems? w = some ys
  hrowsLen : rows.length = n
  hysLen : ys.length = w
  hn : r.n = n
  hoff : r.offset = out.offset
  hstride : r.stride = so
  hlen : r.buf.length = out.buf.size
  /-- every position of row `i` is inside the buffer and holds the row's result -/
  hrow : ∀ i xs, rows[i]? = some xs →
      ∃ init, out.buf[outPos out.offset so i]? = some init ∧
        r.buf[outPos out.offset so i]? = some (rowResult k w (rowTerms term xs ys) init)
  /-- all other positions keep their content -/
  hother : ∀ c, (∀ i, i < n → outPos out.offset so i ≠ c) → r.buf[c]? = out.buf[c]?

theorem storeOf_of_get (buf : Array Cell) (c : Nat) (v : Cell) (h : buf[c]? = some v) :
    storeOf buf c = v := by
  simp [storeOf, Array.getD_eq_getD_getElem?, h]

theorem kernelRun_spec {ε} (k : Kernel) (term : ε → ε → Rat) (X y : Arr ε) (out : Arr Cell)
    (choices : List Nat) (r : Result) (h : kernelRun k term X y out choices = .ok r) :
    ∃ n w so rows ys, KernelSpec k term X y out r n w so rows ys := by
  unfold kernelRun at h
  split at h
  case h_2 => cases h
  case h_1 n w so hsh hy hst =>
    obtain ⟨hext, h⟩ := ite_error_eq_ok.1 h
    obtain ⟨halias, h⟩ := ite_error_eq_ok.1 h
    split at h
    case h_2 => cases h
    case h_1 rows ys hrows hys =>
      cases h
      have hoe : out.extentOk = true := by
        simp only [Bool.not_eq_true', Bool.not_eq_false, Bool.and_eq_true] at hext
        exact hext.2
      have hrl : rows.length = n := by rw [allSome_length hrows, List.length_map, List.length_range]
      have hyl : ys.length = w := by rw [allSome_length hys, List.length_map, List.length_range]
      have hpl : (progsOf k term rows ys).length = n := by rw [progsOf_length, hrl]
      have hin : ∀ i, i < n → outPos out.offset so i < out.buf.size ∧ 0 ≤ idx1 out.offset so i := by
        intro i hi
        have := extent1_inBuf out n so hsh hst hoe i hi
        unfold Arr.InBuf at this
        unfold outPos
        omega
      have spec := runMem_spec (progsOf k term rows ys) (schedule (progsOf k term rows ys) choices)
        (schedule_isInterleaving _ _) out.offset so (storeOf out.buf)
        (fun i hi => (hin i (hpl ▸ hi)).2) (by omega)
      refine ⟨n, w, so, rows, ys, ?_⟩
      refine { hshape := hsh, hy := hy,
               hstr := hst, hrows := hrows, hys := hys, hrowsLen := hrl, hysLen := hyl,
               hn := rfl, hoff := rfl, hstride := rfl, hlen := by simp,
               hrow := ?_, hother := ?_ }
      · intro i xs hxs
        have hi : i < n := hrl ▸ (List.getElem?_eq_some_iff.mp hxs).1
        have hget := Array.getElem?_eq_getElem (hin i hi).1
        refine ⟨_, hget, ?_⟩
        rw [List.getElem?_map, List.getElem?_range (hin i hi).1, Option.map_some,
          spec.1 i (hpl ▸ hi), progOf_progsOf k term rows ys i xs hxs, hyl, storeOf_of_get _ _ _ hget]
        rfl
      · intro c hc
        by_cases hlt : c < out.buf.size
        · have hget := Array.getElem?_eq_getElem hlt
          rw [List.getElem?_map, List.getElem?_range hlt, Option.map_some,
            spec.2 c (fun i hi => hc i (hpl ▸ hi)), storeOf_of_get _ _ _ hget, hget]
        · rw [List.getElem?_eq_none (by simp; omega), Array.getElem?_eq_none (by omega)]

theorem kernelRun_init_independent {ε} (k : Kernel) (term : ε → ε → Rat) (X y : Arr ε)
    (out1 out2 : Arr Cell) (choices1 choices2 : List Nat) (r1 r2 : Result)
    (hoff : out1.offset = out2.offset) (hsh : out1.shape = out2.shape) (hst : out1.strides = out2.strides)
    (h1 : kernelRun k term X y out1 choices1 = .ok r1)
    (h2 : kernelRun k term X y out2 choices2 = .ok r2) :
    ∃ n so, out1.shape = [n] ∧ out1.strides = [so] ∧
      ∀ i, i < n → r1.buf[outPos out1.offset so i]? = r2.buf[outPos out1.offset so i]?
                   ∧ (r1.buf[outPos out1.offset so i]?).isSome := by
  obtain ⟨n, w, so, rows, ys, s1⟩ := kernelRun_spec k term X y out1 choices1 r1 h1
  obtain ⟨n', w', so', rows', ys', s2⟩ := kernelRun_spec k term X y out2 choices2 r2 h2
  obtain rfl : n = n' := (List.cons.inj (s1.hshape.symm.trans (hsh.trans s2.hshape))).1
  obtain rfl : so = so' := (List.cons.inj (s1.hstr.symm.trans (hst.trans s2.hstr))).1
  obtain rfl : w = w' := (List.cons.inj (s1.hy.symm.trans s2.hy)).1
  obtain rfl : rows = rows' := Option.some.inj (s1.hrows.symm.trans s2.hrows)
  obtain rfl : ys = ys' := Option.some.inj (s1.hys.symm.trans s2.hys)
  refine ⟨n, so, s1.hshape, s1.hstr, fun i hi => ?_⟩
  have hlt : i < rows.length := by rw [s1.hrowsLen]; exact hi
  obtain ⟨i1, _, hr1⟩ := s1.hrow i rows[i] (List.getElem?_eq_getElem hlt)
  obtain ⟨i2, _, hr2⟩ := s2.hrow i rows[i] (List.getElem?_eq_getElem hlt)
  rw [← hoff] at hr2
  rw [hr1, hr2, rowResult_init k w _ i1 i2]
  exact ⟨rfl, rfl⟩

theorem prepare_error_of_bad_rank (Xm ym : Meta) (om : Option Meta)
    (h : Xm.shape.length ≠ 2 ∨ ym.shape.length ≠ 1) : prepare Xm ym om = .error .dataInvalid := by
  unfold prepare
  split
  case h_1 n wx wy hX hy => rw [hX, hy] at h; simp at h
  case h_2 => rfl

theorem prepare_error_of_width (Xm ym : Meta) (om : Option Meta) (n wx wy : Nat)
    (hX : Xm.shape = [n, wx]) (hy : ym.shape = [wy]) (h : wx ≠ wy) :
    prepare Xm ym om = .error .dataInvalid := by
  unfold prepare; rw [hX, hy]; simp [h]

theorem dispatch_ok (k : Kernel) (Xm ym : Meta) (wr : Bool) (t : DType)
    (h : dispatch k Xm ym wr = .ok t) :
    DType.ofName Xm.dtype = some t ∧ t ∈ k.dtypes ∧ ym.dtype = Xm.dtype ∧ wr = true := by
  unfold dispatch at h
  cases hn : DType.ofName Xm.dtype with
  | none => rw [hn] at h; cases h
  | some t' =>
    rw [hn] at h
    simp only at h
    obtain ⟨h1, h⟩ := ite_error_eq_ok.1 h
    obtain ⟨h2, h⟩ := ite_error_eq_ok.1 h
    obtain ⟨h3, h⟩ := ite_error_eq_ok.1 h
    cases h
    exact ⟨rfl, not_not.mp h1, not_not.mp h2, by simpa using h3⟩

end Ens.Dist
