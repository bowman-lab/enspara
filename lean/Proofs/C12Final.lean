import Proofs.C12Pos
import Proofs.C12Fixed

/-! The output stage (`finish`) and the whole estimator (`run`) in exact arithmetic. -/

set_option linter.unusedSectionVars false

namespace Ens.C12P
open Ens Ens.Mle

variable {K : Type} [Field K] [LinearOrder K] [IsStrictOrderedRing K] {n : Nat}

/-- the tolerances of the final assertions are non-negative (they are `1e-8`, `1e-5`,
`1e-16`, `1e-14` in the code) -/
def ParamsOK (P : Params K) : Prop :=
  0 ≤ P.rowAtol ∧ 0 ≤ P.rowRtol ∧
  (match P.piCheck with
   | .isclose a r => 0 ≤ a ∧ 0 ≤ r
   | .upper e => 0 < e)

variable {P : Params K} {C : Mat K n} {Crs : Vec K n} {st st0 : St K n}

theorem absV_zero : absV (0 : K) = 0 := if_neg (lt_irrefl 0)

theorem absV_one : absV (1 : K) = 1 := if_neg (not_lt.2 zero_le_one)

theorem isclose1_one {a r : K} (ha : 0 ≤ a) (hr : 0 ≤ r) : isclose1 a r (1 : K) = true := by
  unfold isclose1
  rw [sub_self, absV_zero, absV_one, mul_one]
  exact decide_eq_true (add_nonneg ha hr)

theorem piOk_one (hP : ParamsOK P) : piOk P.piCheck (1 : K) = true := by
  obtain ⟨_, _, h3⟩ := hP
  cases hpc : P.piCheck with
  | isclose a r =>
    rw [hpc] at h3
    exact isclose1_one h3.1 h3.2
  | upper e =>
    rw [hpc] at h3
    simp only [piOk, sub_self]
    exact decide_eq_true h3

structure Valid (st : St K n) (k : Nat) (P : Params K) (r : Result K n) : Prop where
  X : r.X = st.X
  rs : r.rs = st.rs
  T : ∀ i j, mget r.T i j = mget st.X i j / vget st.rs i
  pi : ∀ i, vget r.pi i = vget st.rs i / ∑ l, vget st.rs l
  nIter : r.nIter = k
  warned : r.warned = decide (k + 1 = P.maxIter)

/-- `final_asserts_exact`: on a state satisfying the invariant with positive row sums the two
final assertions hold exactly; the only non-model outcome is the swapped `warnings.warn`. -/
theorem finish_spec (hP : ParamsOK P) (hn : 0 < n) (h : Inv st)
    (hpos : ∀ i, 0 < vget st.rs i) (k : Nat) :
    (k + 1 = P.maxIter ∧ P.warnSwapped = true ∧ finish P st k = .error .typeError) ∨
    (¬ (k + 1 = P.maxIter ∧ P.warnSwapped = true) ∧
      ∃ r, finish P st k = .ok r ∧ Valid st k P r) := by
  have hiff : ((decide (k + 1 = P.maxIter) && P.warnSwapped) = true)
      ↔ (k + 1 = P.maxIter ∧ P.warnSwapped = true) := by
    rw [Bool.and_eq_true, decide_eq_true_eq]
  by_cases hb : (decide (k + 1 = P.maxIter) && P.warnSwapped) = true
  · refine Or.inl ⟨(hiff.1 hb).1, (hiff.1 hb).2, ?_⟩
    unfold finish
    simp only [hb, if_true]
  · refine Or.inr ⟨fun hc => hb (hiff.2 hc), ?_⟩
    have hrow : ∀ i : Fin n, rowSumF st.X i = vget st.rs i := fun i => by
      rw [rowSumF_eq, h.rs i]
    have htot : 0 < ∑ l, vget st.rs l :=
      Finset.sum_pos (fun i _ => hpos i) ⟨⟨0, hn⟩, Finset.mem_univ _⟩
    unfold finish
    simp only [hb, Bool.false_eq_true, if_false]
    rw [if_pos]
    · refine ⟨_, rfl, rfl, rfl, fun i j => ?_, fun i => ?_, rfl, rfl⟩
      · rw [mget_ofFn, hrow]
      · rw [vget_ofFn, sumFin_eq_sum]
    -- both assertions see exactly `1`
    · rw [Bool.and_eq_true, List.all_eq_true]
      refine ⟨fun i _ => ?_, ?_⟩
      · rw [rowSumF_eq, Finset.sum_congr rfl (fun j _ => mget_ofFn _ i j), ← Finset.sum_div,
          ← rowSumF_eq, div_self (by rw [hrow]; exact (hpos i).ne')]
        exact isclose1_one hP.1 hP.2.1
      · rw [sumFin_eq_sum, Finset.sum_congr rfl (fun i _ => vget_ofFn _ i), ← Finset.sum_div,
          sumFin_eq_sum, div_self htot.ne']
        exact piOk_one hP

theorem valid_props (hn : 0 < n) (h : Inv st)
    (hpos : ∀ i, 0 < vget st.rs i) {k : Nat} {r : Result K n} (hv : Valid st k P r) :
    (∀ i, ∑ j, mget r.T i j = 1) ∧ (∀ i j, 0 ≤ mget r.T i j) ∧
    (∑ i, vget r.pi i = 1) ∧ (∀ i, 0 < vget r.pi i) ∧
    (∀ i j, vget r.pi i * mget r.T i j = vget r.pi j * mget r.T j i) ∧
    (∀ j, ∑ i, vget r.pi i * mget r.T i j = vget r.pi j) := by
  have htot : 0 < ∑ l, vget st.rs l :=
    Finset.sum_pos (fun i _ => hpos i) ⟨⟨0, hn⟩, Finset.mem_univ _⟩
  have hdb : ∀ i j, vget r.pi i * mget r.T i j = mget st.X i j / ∑ l, vget st.rs l := fun i j => by
    rw [hv.pi, hv.T, div_mul_div_cancel₀' (hpos i).ne']
  refine ⟨fun i => ?_, fun i j => ?_, ?_, fun i => ?_, fun i j => ?_, fun j => ?_⟩
  · rw [Finset.sum_congr rfl (fun j _ => hv.T i j), ← Finset.sum_div, ← h.rs i]
    exact div_self (hpos i).ne'
  · rw [hv.T]
    exact div_nonneg (h.nonneg i j) (hpos i).le
  · rw [Finset.sum_congr rfl (fun i _ => hv.pi i), ← Finset.sum_div]
    exact div_self htot.ne'
  · rw [hv.pi]
    exact div_pos (hpos i) htot
  · rw [hdb, hdb, h.symm i j]
  · rw [Finset.sum_congr rfl (fun i _ => (hdb i j).trans (congrArg (· / _) (h.symm i j))),
      ← Finset.sum_div, hv.pi, h.rs j]

theorem Conn.sym_rowsum_pos (hC : ∀ i j, 0 ≤ mget C i j) (hc : Conn C)
    (i : Fin n) : 0 < ∑ j, (mget C i j + mget C j i) := by
  obtain ⟨k, _, hk⟩ := hc.out i
  exact lt_of_lt_of_le (add_pos_of_pos_of_nonneg hk (hC k i))
    (le_sum (fun j => mget C i j + mget C j i) (fun j => add_nonneg (hC i j) (hC j i)) k)

theorem conn_init (hC : ∀ i j, 0 ≤ mget C i j) (hc : Conn C) :
    ∃ Crs st0, init C = .ok (Crs, st0) := by
  refine init_ok (hc.sym_rowsum_pos hC) fun i => ?_
  obtain ⟨k, _, hk⟩ := hc.out i
  exact lt_of_lt_of_le hk (le_sum (fun j => mget C i j) (hC i) k)

theorem run_gen (I : St K n → Prop) (hmax : 0 < P.maxIter) (hinit : init C = .ok (Crs, st0))
    (hsweep : ∀ st, I st → ∃ q, sweep P.sqrt P.log C Crs st = .ok q ∧ I q.1) (h0 : I st0) :
    ∃ st k, I st ∧ k + 1 ≤ P.maxIter ∧ run P C = finish P st k := by
  obtain ⟨st, k, hloop, hI, hk⟩ := loop_gen I hsweep P.tol P.maxIter 0 st0 0 h0
  refine ⟨st, k, hI, by omega, ?_⟩
  unfold run
  simp only [hinit, Nat.ne_of_gt hmax, if_false, hloop]

/-- The whole estimator in exact arithmetic: on a non-negative count matrix in which every
state has outgoing and incoming off-diagonal counts, `run` never ends in an assertion error:
it returns a valid model, or — only when the last permitted sweep was used and the source has
the swapped `warnings.warn` call — the `TypeError`. -/
theorem run_spec (hs : SqrtSpec P.sqrt) (hP : ParamsOK P) (hn : 0 < n) (hmax : 0 < P.maxIter)
    (hC : ∀ i j, 0 ≤ mget C i j) (hc : Conn C) :
    ∃ Crs st k, Data C Crs ∧ Inv st ∧ Pos C st ∧ k + 1 ≤ P.maxIter ∧
      ((k + 1 = P.maxIter ∧ P.warnSwapped = true ∧ run P C = .error .typeError) ∨
       (¬ (k + 1 = P.maxIter ∧ P.warnSwapped = true) ∧
         ∃ r, run P C = .ok r ∧ Valid st k P r)) := by
  obtain ⟨Crs, st0, hinit⟩ := conn_init hC hc
  obtain ⟨hD, hinv0, _⟩ := init_inv hC hinit
  obtain ⟨st, k, hgood, hk, hrun⟩ :=
    run_gen (Good C) hmax hinit (good_sweep hs hD hc) ⟨hinv0, init_pos hinit⟩
  rw [hrun]
  exact ⟨Crs, st, k, hD, hgood.1, hgood.2, hk,
    finish_spec hP hn hgood.1 (fun i => hgood.2.rs_pos hD hc hgood.1 i) k⟩

theorem run_ok_spec (hs : SqrtSpec P.sqrt) (hP : ParamsOK P) (hn : 0 < n) (hmax : 0 < P.maxIter)
    (hC : ∀ i j, 0 ≤ mget C i j) (hc : Conn C) {r : Result K n} (hr : run P C = .ok r) :
    ∃ Crs st k, Data C Crs ∧ Inv st ∧ Pos C st ∧ Valid st k P r := by
  obtain ⟨Crs, st, k, hD, hinv, hpos, _, hcase⟩ := run_spec hs hP hn hmax hC hc
  rcases hcase with ⟨_, _, herr⟩ | ⟨_, r', hr', hv⟩
  · rw [herr] at hr; cases hr
  · rw [hr'] at hr
    injection hr with hr
    exact ⟨Crs, st, k, hD, hinv, hpos, hr ▸ hv⟩

end Ens.C12P
