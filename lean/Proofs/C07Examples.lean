import Proofs.C07
/-!
Concrete 3- and 4-state chains with their solver outputs: the data of the non-vacuity `example`s of
`Props/C07.lean` and `Props/C08.lean` and of the two counterexample theorems of `Props/C08.lean`.
-/
open Ens Ens.Tpt Ens.LinSolveT

namespace Ens.Tpt.Ex

/-- reversible 3-state chain -/
def T3 : Mat := fun i j =>
  match i, j with
  | 0, 0 => 1/2 | 0, 1 => 1/2
  | 1, 0 => 1/4 | 1, 1 => 1/2 | 1, 2 => 1/4
  | 2, 1 => 1/2 | 2, 2 => 1/2
  | _, _ => 0
def π3 : Vec := fun i => match i with | 0 => 1/4 | 1 => 1/2 | 2 => 1/4 | _ => 0
/-- non-reversible 4-state chain -/
def T4 : Mat := fun i j =>
  match i, j with
  | 0, 0 => 1/2 | 0, 1 => 1/4 | 0, 2 => 1/4
  | 1, 0 => 1/4 | 1, 1 => 1/4 | 1, 2 => 1/4 | 1, 3 => 1/4
  | 2, 1 => 1/4 | 2, 2 => 1/2 | 2, 3 => 1/4
  | 3, 0 => 1/4 | 3, 2 => 1/4 | 3, 3 => 1/2
  | _, _ => 0
/-- solver output for `T4`, sources `[0]`, sinks `[2, 3]` (two sink columns) -/
def B4 : Mat := fun i _ => match i with | 1 => 1/3 | 2 => 1 | 3 => 1 | _ => 0
/-- solver output for `T3`, sink `[2]` -/
def t3 : Vec := fun i => match i with | 0 => 8 | 1 => 6 | _ => 0
/-- `(I − T3 + W)⁻¹` -/
def Z3 : Mat := fun i j =>
  match i, j with
  | 0, 0 => 3/2 | 0, 2 => -1/2
  | 1, 1 => 1
  | 2, 0 => -1/2 | 2, 2 => 3/2
  | _, _ => 0

/-- committors of `T3` for sources `[0]`, sinks `[2]` -/
def q3 : Vec := fun i => match i with | 1 => 1/2 | 2 => 1 | _ => 0

/-- observe one entry of an executable-reference result (functions are not comparable as a whole) -/
def okVal (e : Except Err Vec) (i : Nat) : Option Rat :=
  match e with | .ok q => some (q i) | .error _ => none
def okEntry (e : Except Err Mat) (i j : Nat) : Option Rat :=
  match e with | .ok m => some (m i j) | .error _ => none

theorem reach_T4 : ∀ i, i < 4 → Reach 4 T4 ([0] ++ [2, 3]) i := by
  intro i hi
  match i, hi with
  | 0, _ => exact .base (by decide +kernel)
  | 1, _ => exact .step (j := 0) (by decide +kernel) (by decide +kernel) (.base (by decide +kernel))
  | 2, _ => exact .base (by decide +kernel)
  | 3, _ => exact .base (by decide +kernel)

theorem reach_T3 : ∀ i, i < 3 → Reach 3 T3 [2] i := by
  intro i hi
  match i, hi with
  | 0, _ => exact .step (j := 1) (by decide +kernel) (by decide +kernel)
              (.step (j := 2) (by decide +kernel) (by decide +kernel) (.base (by decide +kernel)))
  | 1, _ => exact .step (j := 2) (by decide +kernel) (by decide +kernel) (.base (by decide +kernel))
  | 2, _ => exact .base (by decide +kernel)

end Ens.Tpt.Ex
