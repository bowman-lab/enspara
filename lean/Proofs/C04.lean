import Model.Builders
import Proofs.BasicSum
import Mathlib.Algebra.BigOperators.Field
import Mathlib.Algebra.Order.BigOperators.Ring.Finset
import Mathlib.Algebra.Order.Field.Basic
import Mathlib.Tactic.Ring

/-! Helper lemmas for C04: `rowSum` and `total` as `Finset.range` sums and the algebra of
row normalisation / symmetric matrices over an arbitrary linear ordered field; then the case
analysis of the container decision table (`priorContainer`, `transposePair`, `builderContainers`). -/

set_option linter.unusedSectionVars false

namespace Ens.C04P
open Ens Ens.Builders

section
variable {K : Type} [Field K]

theorem rowSum_eq (n : Nat) (C : Mat K) (i : Nat) :
    rowSum n C i = ∑ j ∈ Finset.range n, C i j := sumTo_eq_sum n _

theorem total_eq (n : Nat) (C : Mat K) :
    total n C = ∑ i ∈ Finset.range n, ∑ j ∈ Finset.range n, C i j := by
  unfold total
  rw [sumTo_eq_sum]
  exact Finset.sum_congr rfl (fun i _ => rowSum_eq n C i)

theorem sumTo_div (n : Nat) (f : Nat → K) (t : K) :
    sumTo n (fun i => f i / t) = sumTo n f / t := by
  rw [sumTo_eq_sum, sumTo_eq_sum, Finset.sum_div]

theorem sumTo_div_self {n : Nat} {v : Nat → K} (h : sumTo n v ≠ 0) :
    sumTo n (fun i => v i / sumTo n v) = 1 := by
  rw [sumTo_div, div_self h]

/-- stationarity of `π = rowsum / t` under `T = S / rowsum`, with `π_i T_ij` written as `S_ij / t` -/
theorem sumTo_col_div {n : Nat} {S : Mat K}
    (hsym : ∀ i j, i < n → j < n → S i j = S j i) (t : K) {j : Nat} (hj : j < n) :
    sumTo n (fun i => S i j / t) = rowSum n S j / t := by
  rw [sumTo_div, sumTo_congr (fun i hi => hsym i j hi hj)]
  rfl

end

section
variable {K : Type} [Field K] [LinearOrder K] [IsStrictOrderedRing K]

/-- a positive vector divided by its sum is a probability vector -/
theorem div_sum_prob {n : Nat} (hn : 0 < n) {v : Nat → K} (hpos : ∀ i, i < n → 0 < v i) :
    sumTo n (fun i => v i / sumTo n v) = 1 ∧ ∀ i, i < n → 0 < v i / sumTo n v := by
  have htot : 0 < sumTo n v := by
    rw [sumTo_eq_sum]
    exact Finset.sum_pos (fun i hi => hpos i (Finset.mem_range.mp hi)) ⟨0, Finset.mem_range.mpr hn⟩
  exact ⟨sumTo_div_self htot.ne', fun i hi => div_pos (hpos i hi) htot⟩

theorem invWeight_pos {w : K} (h : 0 < w) : invWeight w = 1 / w := by
  simp [invWeight, h]

theorem invWeight_nonpos {w : K} (h : ¬ 0 < w) : invWeight w = 0 := by
  simp [invWeight, h]

theorem invWeight_nonneg (w : K) : 0 ≤ invWeight w := by
  by_cases h : 0 < w
  · rw [invWeight_pos h]; exact (one_div_pos.2 h).le
  · rw [invWeight_nonpos h]

theorem rowNormalize_entry {n : Nat} {C : Mat K} {i : Nat} (h : 0 < rowSum n C i) (j : Nat) :
    rowNormalize n C i j = C i j / rowSum n C i := by
  unfold rowNormalize
  rw [invWeight_pos h]
  ring

theorem rowNormalize_row_sum {n : Nat} {C : Mat K} {i : Nat} (h : 0 < rowSum n C i) :
    sumTo n (fun j => rowNormalize n C i j) = 1 := by
  rw [sumTo_congr (fun j _ => rowNormalize_entry h j)]
  exact sumTo_div_self (v := fun j => C i j) h.ne'

theorem pi_mul_T {n : Nat} {S : Mat K} {i : Nat} (h : 0 < rowSum n S i) (tot : K) (j : Nat) :
    rowSum n S i / tot * rowNormalize n S i j = S i j / tot := by
  rw [rowNormalize_entry h, div_mul_div_cancel₀' h.ne']

/-- the populations that `transpose` returns -/
theorem transposeBuilder_eq {n : Nat} {C : Mat K} {prior : Prior K} {π : Nat → K}
    (hπ : (transposeBuilder n C prior true).eq = some π) :
    π = fun i => rowSum n (symmetrize (applyPrior C prior)) i / total n (symmetrize (applyPrior C prior)) :=
  (Option.some.inj hπ).symm

end

/-- a container that is sparse after the prior is the input's, and there was no prior (or a
scalar one on a `dok_matrix`) -/
theorem priorContainer_sparse {toArr : Bool} {c : Container} {p : PriorKind} {f : Fmt}
    (h : priorContainer toArr c p = .spmatrix f) :
    c = .spmatrix f ∧ (p = .none ∨ (p = .scalar ∧ f = .dok)) := by
  cases p with
  | none => exact ⟨h, Or.inl rfl⟩
  | scalar =>
    cases c with
    | spmatrix g =>
      cases g with
      | dok => cases h; exact ⟨rfl, Or.inr ⟨rfl, rfl⟩⟩
      | _ => cases h
    | _ => cases h
  | dense =>
    cases c with
    | spmatrix g => cases toArr <;> cases h
    | _ => cases h

/-- `numpy.matrix` counts arise only from a sparse input with a dense prior that the source does
not convert back -/
theorem priorContainer_npmatrix {toArr : Bool} {c : Container} {p : PriorKind}
    (hc : c.inScope = true) (h : priorContainer toArr c p = .npmatrix) :
    c.isSparse = true ∧ p = .dense ∧ toArr = false := by
  cases c with
  | npmatrix => cases hc
  | ndarray => cases p <;> cases h
  | spmatrix f =>
    cases p with
    | none => cases h
    | scalar => cases f <;> cases h
    | dense =>
      cases toArr
      · exact ⟨rfl, rfl, rfl⟩
      · cases h

theorem transposePair_eq (c' : Container) : transposePair c' = (c', c') := by
  cases c' with
  | spmatrix f => cases f <;> rfl
  | _ => rfl

/-- each returned container is the one `C + prior` has, or an `ndarray` when that one is dense -/
theorem builderContainers_out {site : Site} {ci : CallInfo} {b : BuilderId} {c : Container}
    {p : PriorKind} {cC cT : Container} (h : builderContainers site ci b c p = .ok (cC, cT)) :
    ∀ x, x = cC ∨ x = cT → x = priorContainer site.priorMatrixToArray c p ∨
      ((priorContainer site.priorMatrixToArray c p).isSparse = false ∧ x = .ndarray) := by
  unfold builderContainers at h
  generalize priorContainer site.priorMatrixToArray c p = d at h ⊢
  have key : ∀ {u v : Container}, (u = d ∨ (d.isSparse = false ∧ u = .ndarray)) →
      (v = d ∨ (d.isSparse = false ∧ v = .ndarray)) → Except.ok (u, v) = Except.ok (ε := CErr) (cC, cT) →
      ∀ x, x = cC ∨ x = cT → x = d ∨ (d.isSparse = false ∧ x = .ndarray) := by
    intro u v hu hv e x hx
    injection e with e
    injection e with e1 e2
    rcases hx with rfl | rfl
    · exact e1 ▸ hu
    · exact e2 ▸ hv
  cases b with
  | normalize =>
    refine key (Or.inl rfl) ?_ h
    cases d with
    | spmatrix f => exact Or.inl rfl
    | ndarray => exact Or.inl rfl
    | npmatrix => exact Or.inr ⟨rfl, rfl⟩
  | transpose =>
    simp only [transposePair_eq] at h
    split at h
    · cases h
    · exact key (Or.inl rfl) (Or.inl rfl) h
  | mle =>
    cases d with
    | spmatrix f => exact key (Or.inl rfl) (Or.inl rfl) h
    | ndarray => exact key (Or.inl rfl) (Or.inl rfl) h
    | npmatrix =>
      dsimp only at h
      split at h
      · cases h
      · exact key (Or.inr ⟨rfl, rfl⟩) (Or.inr ⟨rfl, rfl⟩) h

end Ens.C04P
