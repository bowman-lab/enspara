import Proofs.C18Jc
/-!
`matrix_bincount2d` under pooling of trajectories, frame permutations and state relabelling: for
each operation, what it does to the guard and to the frame counts.  Core Lean only.
-/
namespace Ens.Info
open Ens.Sched

theorem entries_ne_nil_iff (a : Arr) : a.entries ≠ [] ↔ 0 < a.T ∧ 0 < a.F := by
  constructor
  · intro h
    obtain ⟨v, hv⟩ := List.exists_mem_of_ne_nil _ h
    obtain ⟨t, ht, f, hf, _⟩ := (mem_entries a v).1 hv
    omega
  · intro ⟨hT, hF⟩ he
    have : a.get 0 0 ∈ a.entries := (mem_entries a _).2 ⟨0, hT, 0, hF, rfl⟩
    rw [he] at this; cases this

theorem mem_entries_append (a a' : Arr) (hF : a'.F = a.F) (v : Int) :
    v ∈ (a.append a').entries ↔ v ∈ a.entries ∨ v ∈ a'.entries := by
  simp only [mem_entries, Arr.append]
  constructor
  · rintro ⟨t, ht, f, hf, rfl⟩
    by_cases h : t < a.T
    · exact Or.inl ⟨t, h, f, hf, (if_pos h).symm⟩
    · exact Or.inr ⟨t - a.T, by omega, f, by omega, (if_neg h).symm⟩
  · rintro (⟨t, ht, f, hf, rfl⟩ | ⟨t, ht, f, hf, rfl⟩)
    · exact ⟨t, by omega, f, hf, if_pos ht⟩
    · refine ⟨a.T + t, by omega, f, by omega, ?_⟩
      rw [if_neg (by omega), Nat.add_sub_cancel_left]

theorem guard_append (a a' b b' : Arr) (nA nB : Int) (hFa : a'.F = a.F) (hFb : b'.F = b.F)
    (h : guard a b nA nB = .ok ()) (h' : guard a' b' nA nB = .ok ()) :
    guard (a.append a') (b.append b') nA nB = .ok () := by
  obtain ⟨g1, g2, g3, g4, g5, g6⟩ := (guard_ok_iff a b nA nB).1 h
  obtain ⟨_, g2', _, _, g5', g6'⟩ := (guard_ok_iff a' b' nA nB).1 h'
  have ne : ∀ c c' : Arr, c'.F = c.F → c.entries ≠ [] → (c.append c').entries ≠ [] := fun c c' hF hc => by
    obtain ⟨v, hv⟩ := List.exists_mem_of_ne_nil _ hc
    exact List.ne_nil_of_mem ((mem_entries_append c c' hF v).2 (Or.inl hv))
  refine (guard_ok_iff _ _ nA nB).2 ⟨g1, ?_, ne a a' hFa g3, ne b b' hFb g4, fun v hv => ?_, fun v hv => ?_⟩
  · show a.T + a'.T = b.T + b'.T; omega
  · exact ((mem_entries_append a a' hFa v).1 hv).elim (g5 v) (g5' v)
  · exact ((mem_entries_append b b' hFb v).1 hv).elim (g6 v) (g6' v)

theorem frameCount_append (a a' b b' : Arr) (hT : a.T = b.T) (x y : Nat) (i j : Int) :
    frameCount (a.append a') (b.append b') x y i j
      = frameCount a b x y i j + frameCount a' b' x y i j := by
  unfold frameCount
  have e : (a.append a').T = a.T + a'.T := rfl
  rw [e, List.range_add, List.countP_append, List.countP_map]
  congr 1
  · apply List.countP_congr
    intro t ht
    have ht' : t < a.T := List.mem_range.1 ht
    have ht'' : t < b.T := hT ▸ ht'
    simp [Arr.append, ht', ht'']
  · apply List.countP_congr
    intro t _
    have h1 : ¬ a.T + t < a.T := by omega
    have h2 : ¬ a.T + t < b.T := by omega
    simp [Arr.append, h1, ← hT]

theorem countTable_append (a a' b b' : Arr) (nA nB : Int) (hT : a.T = b.T) (hFa : a'.F = a.F)
    (hFb : b'.F = b.F) (x y : Nat) (i j : Int) :
    (countTable (a.append a') (b.append b') nA nB).cnt x y i j
      = (countTable a b nA nB).cnt x y i j + (countTable a' b' nA nB).cnt x y i j := by
  show (if x < a.F ∧ y < b.F then frameCount (a.append a') (b.append b') x y i j else 0)
    = (if x < a.F ∧ y < b.F then _ else 0) + (if x < a'.F ∧ y < b'.F then _ else 0)
  rw [hFa, hFb, frameCount_append a a' b b' hT]
  split <;> rfl

theorem perm_range_iff (σ : Nat → Nat) (T : Nat) (h : ((List.range T).map σ).Perm (List.range T))
    (s : Nat) : (∃ t, t < T ∧ σ t = s) ↔ s < T := by
  simpa only [List.mem_map, List.mem_range] using h.mem_iff (a := s)

theorem mem_entries_permFrames (a : Arr) (σ : Nat → Nat)
    (h : ((List.range a.T).map σ).Perm (List.range a.T)) (v : Int) :
    v ∈ (a.permFrames σ).entries ↔ v ∈ a.entries := by
  simp only [mem_entries, Arr.permFrames]
  constructor
  · rintro ⟨t, ht, f, hf, rfl⟩
    exact ⟨σ t, (perm_range_iff σ a.T h _).1 ⟨t, ht, rfl⟩, f, hf, rfl⟩
  · rintro ⟨s, hs, f, hf, rfl⟩
    obtain ⟨t, ht, rfl⟩ := (perm_range_iff σ a.T h s).2 hs
    exact ⟨t, ht, f, hf, rfl⟩

theorem frameCount_permFrames (a b : Arr) (σ : Nat → Nat)
    (h : ((List.range a.T).map σ).Perm (List.range a.T)) (x y : Nat) (i j : Int) :
    frameCount (a.permFrames σ) (b.permFrames σ) x y i j = frameCount a b x y i j :=
  (List.countP_map (p := fun t => decide (a.get t x = i ∧ b.get t y = j)) (f := σ)
    (l := List.range a.T)).symm.trans (h.countP_eq _)

theorem guard_permFrames (a b : Arr) (nA nB : Int) (σ : Nat → Nat)
    (hσ : ((List.range a.T).map σ).Perm (List.range a.T)) (hT : a.T = b.T) :
    guard (a.permFrames σ) (b.permFrames σ) nA nB = .ok () ↔ guard a b nA nB = .ok () := by
  rw [guard_ok_iff, guard_ok_iff, entries_ne_nil_iff, entries_ne_nil_iff, entries_ne_nil_iff,
    entries_ne_nil_iff]
  simp only [mem_entries_permFrames a σ hσ, mem_entries_permFrames b σ (hT ▸ hσ)]
  rfl

theorem countTable_permFrames (a b : Arr) (nA nB : Int) (σ : Nat → Nat)
    (hσ : ((List.range a.T).map σ).Perm (List.range a.T)) :
    countTable (a.permFrames σ) (b.permFrames σ) nA nB = countTable a b nA nB := by
  unfold countTable
  congr 1
  funext x y i j
  rw [frameCount_permFrames a b σ hσ]
  rfl

/-- `π` maps `[0, n)` into itself injectively -/
def RelabelOn (π : Int → Int) (n : Int) : Prop :=
  (∀ v, 0 ≤ v → v < n → 0 ≤ π v ∧ π v < n) ∧
  (∀ v w, 0 ≤ v → v < n → 0 ≤ w → w < n → π v = π w → v = w)

theorem guard_relabel (a b : Arr) (nA nB : Int) (πa πb : Nat → Int → Int)
    (ha : ∀ f, f < a.F → RelabelOn (πa f) nA) (hb : ∀ f, f < b.F → RelabelOn (πb f) nB)
    (h : guard a b nA nB = .ok ()) : guard (a.relabel πa) (b.relabel πb) nA nB = .ok () := by
  obtain ⟨g1, g2, g3, g4, g5, g6⟩ := (guard_ok_iff a b nA nB).1 h
  refine (guard_ok_iff _ _ nA nB).2 ⟨g1, g2, ?_, ?_, fun v hv => ?_, fun v hv => ?_⟩
  · rw [entries_ne_nil_iff] at g3 ⊢; exact g3
  · rw [entries_ne_nil_iff] at g4 ⊢; exact g4
  · obtain ⟨t, ht, f, hf, rfl⟩ := (mem_entries (a.relabel πa) v).1 hv
    have := g5 _ ((mem_entries a _).2 ⟨t, ht, f, hf, rfl⟩)
    exact (ha f hf).1 _ this.1 this.2
  · obtain ⟨t, ht, f, hf, rfl⟩ := (mem_entries (b.relabel πb) v).1 hv
    have := g6 _ ((mem_entries b _).2 ⟨t, ht, f, hf, rfl⟩)
    exact (hb f hf).1 _ this.1 this.2

theorem frameCount_relabel (a b : Arr) (nA nB : Int) (πa πb : Nat → Int → Int) (x y : Nat)
    (ha : RelabelOn (πa x) nA) (hb : RelabelOn (πb y) nB) (h : guard a b nA nB = .ok ())
    (hx : x < a.F) (hy : y < b.F) (i j : Int) (hi0 : 0 ≤ i) (hi : i < nA) (hj0 : 0 ≤ j) (hj : j < nB) :
    frameCount (a.relabel πa) (b.relabel πb) x y (πa x i) (πb y j) = frameCount a b x y i j := by
  obtain ⟨_, hA, hB⟩ := guard_range a b nA nB h
  apply List.countP_congr
  intro t ht
  have va := hA t x (List.mem_range.1 ht) hx
  have vb := hB t y (List.mem_range.1 ht) hy
  have ia : πa x (a.get t x) = πa x i ↔ a.get t x = i :=
    ⟨ha.2 _ _ va.1 va.2 hi0 hi, fun e => by rw [e]⟩
  have ib : πb y (b.get t y) = πb y j ↔ b.get t y = j :=
    ⟨hb.2 _ _ vb.1 vb.2 hj0 hj, fun e => by rw [e]⟩
  simp [Arr.relabel, ia, ib]

end Ens.Info
