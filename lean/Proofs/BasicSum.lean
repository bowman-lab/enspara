import Proofs.Basic
import Mathlib.Algebra.BigOperators.Group.Finset.Basic
/-! `sumTo` as a `Finset.sum` over `Finset.range`. -/
namespace Ens

theorem sumTo_eq_sum {α : Type*} [AddCommMonoid α] (n : Nat) (f : Nat → α) :
    sumTo n f = ∑ i ∈ Finset.range n, f i := by
  induction n with
  | zero => rfl
  | succ k ih => rw [Finset.sum_range_succ, ← ih]; rfl

end Ens
