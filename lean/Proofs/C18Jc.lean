import Proofs.C18Counts
import Proofs.Basic
/-!
`matrix_bincount2d`: what the guard accepts (`guard_ok_iff`, `guard_range`), the table of a
successful call in closed form (`countTable`, `matrixBincount2d_ok_iff`), interleaving independence.
Core Lean only.
-/
namespace Ens.Info
open Ens.Sched

theorem mem_entries (a : Arr) (v : Int) :
    v ∈ a.entries ↔ ∃ t, t < a.T ∧ ∃ f, f < a.F ∧ a.get t f = v := by
  simp [Arr.entries, List.mem_flatMap, List.mem_map]

/-- `assert l.max() < n` (`.max()` of an empty array raises) as a statement about the members -/
theorem max?_guard (l : List Int) (n : Int) :
    (∃ m, l.max? = some m ∧ m < n) ↔ l ≠ [] ∧ ∀ v ∈ l, v < n := by
  constructor
  · rintro ⟨m, hm, hlt⟩
    refine ⟨fun e => (by rw [e] at hm; cases hm), fun v hv => ?_⟩
    exact Int.lt_of_le_of_lt ((List.max?_le_iff hm).1 (Int.le_refl m) v hv) hlt
  · rintro ⟨hne, hall⟩
    cases hm : l.max? with
    | none => exact absurd (List.max?_eq_none_iff.1 hm) hne
    | some m => exact ⟨m, rfl, hall m (List.max?_mem hm)⟩

theorem min?_guard (l : List Int) (n : Int) :
    (∃ m, l.min? = some m ∧ n ≤ m) ↔ l ≠ [] ∧ ∀ v ∈ l, n ≤ v := by
  constructor
  · rintro ⟨m, hm, hle⟩
    refine ⟨fun e => (by rw [e] at hm; cases hm), fun v hv => ?_⟩
    exact Int.le_trans hle ((List.le_min?_iff hm).1 (Int.le_refl m) v hv)
  · rintro ⟨hne, hall⟩
    cases hm : l.min? with
    | none => exact absurd (List.min?_eq_none_iff.1 hm) hne
    | some m => exact ⟨m, rfl, hall m (List.min?_mem hm)⟩

/-- The two cases of a step `match o with | none => throw e | some m => …`, after `cases o` (a lemma stated with
`match` would not unify with the matcher of the definition it is used on). -/
theorem some_and {β : Type} (a : β) (c : β → Prop) : (∃ m, some a = some m ∧ c m) ↔ c a :=
  ⟨fun ⟨_, h, hc⟩ => Option.some.inj h ▸ hc, fun h => ⟨a, rfl, h⟩⟩

theorem none_and {ε α β : Type} (c : β → Prop) (e : ε) (r : α) (R : Prop) :
    (Except.error e : Except ε α) = .ok r ↔ (∃ m, (none : Option β) = some m ∧ c m) ∧ R :=
  ⟨fun h => (nomatch h), fun ⟨⟨_, h, _⟩, _⟩ => (nomatch h)⟩

theorem guard_ok_iff (a b : Arr) (nA nB : Int) :
    guard a b nA nB = .ok () ↔
      a.F < 2 ^ 32 ∧ a.T = b.T ∧ a.entries ≠ [] ∧ b.entries ≠ [] ∧
      (∀ v ∈ a.entries, 0 ≤ v ∧ v < nA) ∧ (∀ v ∈ b.entries, 0 ≤ v ∧ v < nB) := by
  -- the six asserts in source order, one step each
  have steps : guard a b nA nB = .ok () ↔ a.F < 2 ^ 32 ∧ a.T = b.T ∧
      (∃ m, a.entries.max? = some m ∧ m < nA) ∧ (∃ m, b.entries.max? = some m ∧ m < nB) ∧
      (∃ m, a.entries.min? = some m ∧ 0 ≤ m) ∧ (∃ m, b.entries.min? = some m ∧ 0 ≤ m) := by
    unfold guard Arr.max? Arr.min?
    refine ite_not_error_eq_ok.trans (and_congr_right' ?_)
    refine ite_not_error_eq_ok.trans (and_congr_right' ?_)
    cases a.entries.max? with
    | none => exact none_and ..
    | some ma =>
      refine ite_not_error_eq_ok.trans (and_congr (some_and ma (· < nA)).symm ?_)
      cases b.entries.max? with
      | none => exact none_and ..
      | some mb =>
        refine ite_not_error_eq_ok.trans (and_congr (some_and mb (· < nB)).symm ?_)
        cases a.entries.min? with
        | none => exact none_and ..
        | some la =>
          refine ite_not_error_eq_ok.trans (and_congr (some_and la (0 ≤ ·)).symm ?_)
          cases b.entries.min? with
          | none => exact ⟨fun h => (nomatch h), fun ⟨_, h, _⟩ => (nomatch h)⟩
          | some lb => exact (ite_not_error_eq_ok (x := pure ()) (a := ())).trans ((and_iff_left rfl).trans (some_and lb (0 ≤ ·)).symm)
  rw [steps, max?_guard, max?_guard, min?_guard, min?_guard]
  constructor
  · rintro ⟨h1, h2, ⟨h3, h4⟩, ⟨h5, h6⟩, ⟨_, h7⟩, ⟨_, h8⟩⟩
    exact ⟨h1, h2, h3, h5, fun v hv => ⟨h7 v hv, h4 v hv⟩, fun v hv => ⟨h8 v hv, h6 v hv⟩⟩
  · rintro ⟨h1, h2, h3, h4, h5, h6⟩
    exact ⟨h1, h2, ⟨h3, fun v hv => (h5 v hv).2⟩, ⟨h4, fun v hv => (h6 v hv).2⟩,
      ⟨h3, fun v hv => (h5 v hv).1⟩, ⟨h4, fun v hv => (h6 v hv).1⟩⟩

theorem guard_range (a b : Arr) (nA nB : Int) (h : guard a b nA nB = .ok ()) :
    a.T = b.T ∧ (∀ t x, t < a.T → x < a.F → 0 ≤ a.get t x ∧ a.get t x < nA) ∧
    (∀ t y, t < a.T → y < b.F → 0 ≤ b.get t y ∧ b.get t y < nB) := by
  obtain ⟨_, hT, _, _, hA, hB⟩ := (guard_ok_iff a b nA nB).1 h
  exact ⟨hT, fun t x ht hx => hA _ ((mem_entries a _).2 ⟨t, ht, x, hx, rfl⟩),
    fun t y ht hy => hB _ ((mem_entries b _).2 ⟨t, hT ▸ ht, y, hy, rfl⟩)⟩

/-- the table of a successful call: cell `[x, y, i, j]` holds the number of frames `t` with
`a[t,x] = i` and `b[t,y] = j` -/
def countTable (a b : Arr) (nA nB : Int) : JC :=
  { Fa := a.F, Fb := b.F, nA := nA, nB := nB,
    cnt := fun x y i j => if x < a.F ∧ y < b.F then frameCount a b x y i j else 0 }

theorem matrixBincount2d_ok_iff (a b : Arr) (nA nB : Int) (r : JC) :
    matrixBincount2d a b nA nB = .ok r ↔ guard a b nA nB = .ok () ∧ r = countTable a b nA nB := by
  have hc : run (seqExec a b) (fun _ => zeroSlab) = (countTable a b nA nB).cnt := by
    funext x y i j
    exact run_interleaving_count a b _ (seqExec_isInterleaving (progs a b)) x y i j
  unfold matrixBincount2d
  rw [hc]
  cases guard a b nA nB with
  | error e => exact ⟨fun h => (nomatch h), fun h => (nomatch h.1)⟩
  | ok u => exact ⟨fun h => ⟨rfl, (Except.ok.inj h).symm⟩, fun h => by rw [h.2]; rfl⟩

theorem ok_of_guard (a b : Arr) (nA nB : Int) (h : guard a b nA nB = .ok ()) :
    matrixBincount2d a b nA nB = .ok (countTable a b nA nB) :=
  (matrixBincount2d_ok_iff a b nA nB _).2 ⟨h, rfl⟩

theorem jc_interleaving_core (a b : Arr) (e : Exec Slab) (h : IsInterleaving (progs a b) e) :
    run e (fun _ => zeroSlab) = run (seqExec a b) (fun _ => zeroSlab) :=
  run_eq_seq (progs a b) e _ h

theorem frameCount_pos_iff (a b : Arr) (x y : Nat) (i j : Int) :
    0 < frameCount a b x y i j ↔ ∃ t, t < a.T ∧ a.get t x = i ∧ b.get t y = j := by
  simp [frameCount, List.countP_pos_iff]

/-- the table has no mass outside `[0, nA) × [0, nB)` -/
theorem jc_support_core (a b : Arr) (nA nB : Int) (r : JC) (h : matrixBincount2d a b nA nB = .ok r)
    (x y : Nat) (i j : Int) (hpos : 0 < r.cnt x y i j) :
    x < a.F ∧ y < b.F ∧ 0 ≤ i ∧ i < nA ∧ 0 ≤ j ∧ j < nB := by
  obtain ⟨hg, rfl⟩ := (matrixBincount2d_ok_iff a b nA nB r).1 h
  obtain ⟨_, hA, hB⟩ := guard_range a b nA nB hg
  have hpos : 0 < if x < a.F ∧ y < b.F then frameCount a b x y i j else 0 := hpos
  by_cases hxy : x < a.F ∧ y < b.F
  · rw [if_pos hxy] at hpos
    obtain ⟨t, ht, rfl, rfl⟩ := (frameCount_pos_iff a b x y i j).1 hpos
    exact ⟨hxy.1, hxy.2, (hA t x ht hxy.1).1, (hA t x ht hxy.1).2, (hB t y ht hxy.2).1, (hB t y ht hxy.2).2⟩
  · rw [if_neg hxy] at hpos; omega

end Ens.Info
