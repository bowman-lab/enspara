import Model.Assign
/-! Lemmas for C10: `partition_list`, `partition_indices`, `ClusterResult.partition`. -/
namespace Ens.Assign

deriving instance DecidableEq for Except

/-- the slicing loop written with `take`/`drop` on the remaining list -/
def splitBy {α} : List α → List Nat → List (List α)
  | _, [] => []
  | l, n :: ns => l.take n :: splitBy (l.drop n) ns

theorem partitionGo_eq_splitBy {α} (l : List α) (lens : List Nat) (start : Nat) :
    partitionGo l start lens = splitBy (l.drop start) lens := by
  induction lens generalizing start with
  | nil => rfl
  | cons n ns ih =>
    rw [partitionGo, splitBy, ih, pySlice, List.drop_take, Nat.add_sub_cancel_left, List.drop_drop]

theorem splitBy_flatten {α} (l : List α) (lens : List Nat) :
    (splitBy l lens).flatten = l.take lens.sum := by
  induction lens generalizing l with
  | nil => rfl
  | cons n ns ih => rw [splitBy, List.flatten_cons, ih, List.sum_cons, List.take_add]

theorem splitBy_lengths {α} (l : List α) (lens : List Nat) (h : lens.sum ≤ l.length) :
    (splitBy l lens).map List.length = lens := by
  induction lens generalizing l with
  | nil => rfl
  | cons n ns ih =>
    rw [List.sum_cons] at h
    rw [splitBy, List.map_cons, List.length_take_of_le (Nat.le_trans (Nat.le_add_right n _) h),
      ih (l.drop n) (by rw [List.length_drop]; omega)]

theorem splitBy_length {α} (l : List α) (lens : List Nat) : (splitBy l lens).length = lens.length := by
  induction lens generalizing l with
  | nil => rfl
  | cons n ns ih => simp [splitBy, ih]

theorem splitBy_flatten_self {α} (ps : List (List α)) :
    splitBy ps.flatten (ps.map List.length) = ps := by
  induction ps with
  | nil => rfl
  | cons p ps ih => simp [splitBy, ih]

theorem partitionList_ok {α} (l : List α) (lens : List Nat) (h : lens.sum = l.length) :
    partitionList l lens = .ok (splitBy l lens) := by
  simp [partitionList, h, partitionGo_eq_splitBy]

theorem partitionList_err {α} (l : List α) (lens : List Nat) (h : lens.sum ≠ l.length) :
    partitionList l lens = .error .dataInvalid := by
  simp [partitionList, h]

theorem partitionList_flatten_self {α} (ps : List (List α)) :
    partitionList ps.flatten (ps.map List.length) = .ok ps := by
  rw [partitionList_ok _ _ (by simp [List.length_flatten]), splitBy_flatten_self]

theorem startOf_zero (lens : List Nat) : startOf lens 0 = 0 := rfl

theorem startOf_cons_succ (a : Nat) (as : List Nat) (t : Nat) :
    startOf (a :: as) (t+1) = a + startOf as t := rfl

theorem startOf_succ (lens : List Nat) (t : Nat) (L : Nat) (h : lens[t]? = some L) :
    startOf lens (t+1) = startOf lens t + L := by
  rw [startOf, startOf, List.take_add_one, h, List.sum_append]
  rfl

theorem splitBy_getElem? {α} (l : List α) (lens : List Nat) (t : Nat) :
    (splitBy l lens)[t]? = lens[t]?.map fun L => (l.drop (startOf lens t)).take L := by
  induction lens generalizing l t with
  | nil => rfl
  | cons a as ih =>
    cases t with
    | zero => rfl
    | succ t =>
      rw [splitBy, List.getElem?_cons_succ, List.getElem?_cons_succ, ih, startOf_cons_succ]
      simp only [List.drop_drop]

/-! ### `partition_indices` -/

theorem locate_lt (a : Nat) (as : List Nat) {i : Int} (trj : Nat) (h : i < a) :
    locate (a :: as) i trj = some (trj, i) := if_pos h

theorem locate_ge (a : Nat) (as : List Nat) {i : Int} (trj : Nat) (h : (a : Int) ≤ i) :
    locate (a :: as) i trj = locate as (i - a) (trj + 1) := if_neg (Int.not_lt.mpr h)

theorem locate_some {lens : List Nat} {i : Int} {trj : Nat} {p : Nat × Int} (h : locate lens i trj = some p) :
    ∃ t L, p.1 = trj + t ∧ lens[t]? = some L ∧ p.2 < L ∧ (startOf lens t : Int) + p.2 = i ∧ (0 ≤ i → 0 ≤ p.2) := by
  induction lens generalizing i trj with
  | nil => exact nomatch h
  | cons a as ih =>
    by_cases hi : i < a
    · rw [locate_lt a as trj hi] at h
      cases h
      exact ⟨0, a, rfl, rfl, hi, Int.zero_add _, id⟩
    · have hi := Int.not_lt.mp hi
      rw [locate_ge a as trj hi] at h
      obtain ⟨t, L, h1, h2, h3, h4, h5⟩ := ih h
      refine ⟨t + 1, L, by rw [h1, Nat.add_assoc, Nat.add_comm 1 t], h2, h3, ?_,
        fun _ => h5 (Int.sub_nonneg.mpr hi)⟩
      rw [startOf_cons_succ, Int.natCast_add, Int.add_assoc, h4]
      omega

theorem locate_none_iff (lens : List Nat) (i : Int) (trj : Nat) :
    locate lens i trj = none ↔ (lens = [] ∨ (lens.sum : Int) ≤ i) := by
  induction lens generalizing i trj with
  | nil => exact ⟨fun _ => .inl rfl, fun _ => rfl⟩
  | cons a as ih =>
    rw [List.sum_cons]
    by_cases hi : i < a
    · rw [locate_lt a as trj hi]
      constructor
      · intro h; cases h
      · rintro (h | h)
        · cases h
        · omega
    · have hi := Int.not_lt.mp hi
      rw [locate_ge a as trj hi, ih]
      constructor
      · rintro (h | h)
        · rw [h]; exact .inr (by simpa using hi)
        · exact .inr (by omega)
      · rintro (h | h)
        · cases h
        · exact .inr (by omega)

/-- flat index at or beyond the total: the inner loop ends without `break`, nothing is appended -/
theorem locate_beyond (lens : List Nat) (i : Int) (trj : Nat) (h : (lens.sum : Int) ≤ i) :
    locate lens i trj = none :=
  (locate_none_iff lens i trj).mpr (.inr h)

/-- negative index: the first trajectory "contains" it (the code returns `(0, index)`) -/
theorem locate_negative (a : Nat) (as : List Nat) (i : Int) (trj : Nat) (h : i < 0) :
    locate (a :: as) i trj = some (trj, i) :=
  locate_lt a as trj (Int.lt_of_lt_of_le h (Int.natCast_nonneg a))

/-- the flat position a (trajectory, frame) pair addresses -/
def flatOf (lens : List Nat) (p : Nat × Int) : Int := (startOf lens p.1 : Int) + p.2

theorem flatOf_locate (lens : List Nat) (i : Int) (p : Nat × Int) (h : locate lens i 0 = some p) :
    flatOf lens p = i := by
  obtain ⟨t, L, h1, _, _, h4, _⟩ := locate_some h
  rw [flatOf, h1, Nat.zero_add]
  exact h4

/-- in-range flat index: found, in trajectory `t` at frame `f`, with `starts t + f = i` -/
theorem locate_inrange (lens : List Nat) (i : Nat) (h : i < lens.sum) :
    ∃ (t f L : Nat), locate lens i 0 = some (t, (f : Int)) ∧ lens[t]? = some L ∧ f < L ∧
      startOf lens t + f = i := by
  cases hl : locate lens i 0 with
  | none => rcases (locate_none_iff lens i 0).mp hl with h' | h'
            · rw [h'] at h; exact nomatch h
            · exact absurd h (Nat.not_lt.mpr (Int.ofNat_le.mp h'))
  | some p =>
    obtain ⟨t, L, h1, h2, h3, h4, h5⟩ := locate_some hl
    obtain ⟨f, hf⟩ := Int.eq_ofNat_of_zero_le (h5 (Int.natCast_nonneg i))
    rw [hf] at h3 h4
    refine ⟨t, f, L, ?_, h2, Int.ofNat_lt.mp h3, Int.ofNat_inj.mp ((Int.natCast_add _ _).trans h4)⟩
    rw [← hf, ← Nat.zero_add t, ← h1]

theorem locate_map_flatOf {lens : List Nat} (hne : lens ≠ []) (i : Int) :
    (locate lens i 0).map (flatOf lens) = Option.guard (fun i => decide (i < (lens.sum : Int))) i := by
  cases h : locate lens i 0 with
  | none =>
    have := ((locate_none_iff lens i 0).mp h).resolve_left hne
    rw [Option.map_none, Option.guard, if_neg (by simpa using this)]
  | some p =>
    have : i < (lens.sum : Int) := Int.not_le.mp fun hle => by
      rw [(locate_none_iff lens i 0).mpr (.inr hle)] at h; cases h
    rw [Option.map_some, flatOf_locate lens i p h, Option.guard, if_pos (decide_eq_true this)]

/-- exactly the indices `< total` survive (in order), each addressing itself -/
theorem partitionIndices_map_flat_general (inds : List Int) (lens : List Nat) (hne : lens ≠ []) :
    (partitionIndices inds lens).map (flatOf lens) = inds.filter (fun i => decide (i < (lens.sum : Int))) := by
  rw [partitionIndices, List.map_filterMap, funext (locate_map_flatOf hne), List.filterMap_eq_filter]

/-- order and multiplicity: with all indices in range nothing is dropped, reordered or repeated -/
theorem partitionIndices_map_flat (inds : List Int) (lens : List Nat)
    (h : ∀ i ∈ inds, 0 ≤ i ∧ i < lens.sum) :
    (partitionIndices inds lens).map (flatOf lens) = inds := by
  by_cases hne : lens = []
  · cases inds with
    | nil => rfl
    | cons i _ => have := h i List.mem_cons_self; rw [hne] at this; exact absurd this.2 (Int.not_lt.mpr this.1)
  · rw [partitionIndices_map_flat_general inds lens hne]
    exact List.filter_eq_self.mpr fun i hi => decide_eq_true (h i hi).2

/-! ### `ClusterResult.partition` -/

theorem allEqual_iff (lens : List Nat) : allEqual lens = true ↔ ∀ x ∈ lens, ∀ y ∈ lens, x = y := by
  cases lens with
  | nil => simp [allEqual]
  | cons a as =>
    simp only [allEqual, List.all_eq_true, beq_iff_eq]
    constructor
    · intro h x hx y hy
      rw [← h x hx, ← h y hy]
    · intro h x hx
      exact h a (by simp) x hx

theorem sum_pos_of_not_allEqual (lens : List Nat) (h : allEqual lens = false) : 0 < lens.sum :=
  Nat.pos_of_ne_zero fun hz => by
    have hall := List.sum_eq_zero_iff_forall_eq_nat.mp hz
    rw [(allEqual_iff lens).2 fun x hx y hy => (hall x hx).trans (hall y hy).symm] at h
    cases h

/-- `partition` for a non-empty `lengths`: both flat arrays are cut, the first failure is raised,
and the container is chosen by `allEqual` -/
theorem partition_cons {α β : Type} (a : List α) (d : List β) (ci : List Int) {lens : List Nat}
    (hne : lens ≠ []) :
    partition a d ci lens = match partitionList a lens, partitionList d lens with
      | .ok ra, .ok rd => .ok (if allEqual lens then ⟨.square ra, .square rd, partitionIndices ci lens⟩
          else ⟨.ragged a lens ra, .ragged d lens rd, partitionIndices ci lens⟩)
      | .error e, _ => .error e
      | .ok _, .error e => .error e := by
  cases lens with
  | nil => exact absurd rfl hne
  | cons l0 ls =>
    rw [partition]
    unfold raggedArray
    generalize l0 :: ls = lens
    cases allEqual lens <;> cases partitionList a lens <;> cases partitionList d lens <;> rfl

/-- closed form of `partition` on consistent input -/
theorem partition_eq {α β : Type} (a : List α) (d : List β) (ci : List Int) (lens : List Nat)
    (hne : lens ≠ []) (ha : lens.sum = a.length) (hd : lens.sum = d.length) :
    partition a d ci lens = .ok (
      if allEqual lens then
        ⟨.square (splitBy a lens), .square (splitBy d lens), partitionIndices ci lens⟩
      else
        ⟨.ragged a lens (splitBy a lens), .ragged d lens (splitBy d lens),
         partitionIndices ci lens⟩) := by
  rw [partition_cons a d ci hne, partitionList_ok a lens ha, partitionList_ok d lens hd]

/-- `partition` fails on inconsistent input: IndexError for empty `lengths`, DataInvalid when the
lengths do not sum to the length of both flat arrays -/
theorem partition_err {α β : Type} (a : List α) (d : List β) (ci : List Int) (lens : List Nat)
    (h : lens = [] ∨ lens.sum ≠ a.length ∨ lens.sum ≠ d.length) :
    partition a d ci lens = .error (if lens = [] then .indexError else .dataInvalid) := by
  by_cases hne : lens = []
  · rw [hne]; rfl
  · rw [partition_cons a d ci hne, if_neg hne]
    by_cases ha : lens.sum = a.length
    · rw [partitionList_ok a lens ha, partitionList_err d lens ((h.resolve_left hne).resolve_left fun h => h ha)]
    · rw [partitionList_err a lens ha]
end Ens.Assign
