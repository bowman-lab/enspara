import Proofs.C05Get
/-! `starts`, `size` and `shape` of a well-formed array, read off its list of rows. -/
namespace Ens.Ragged
open Ens

theorem starts_rows {α} (ra : RA α) (h : WF ra) (i : Nat) (hi : i < (rows ra).length) :
    (starts ra.lengths)[i]? = some (((rows ra).map List.length).take i).sum := by
  rw [rows_length] at hi
  rw [← lengths_eq ra h]
  exact starts_getElem? ra.lengths i hi

theorem size_eq {α} (ra : RA α) (h : WF ra) : size ra = ((rows ra).map List.length).sum := by
  rw [← lengths_eq ra h]
  simp only [size]
  exact h.symm

/-- `shape`: number of rows and the common row length, `none` when the rows differ in length -/
def specShape {α} (rs : List (List α)) : Except Err (Nat × Option Nat) :=
  match rs with
  | [] => .error .indexError
  | r :: rest => .ok (rs.length, if rest.all (fun x => x.length == r.length) then some r.length else none)

theorem shape_eq {α} (ra : RA α) (h : WF ra) : shape ra = specShape (rows ra) := by
  have hl := lengths_eq ra h
  simp only [shape]
  cases hr : rows ra with
  | nil =>
    rw [hr] at hl
    simp only [List.map_nil] at hl
    rw [hl]; rfl
  | cons r rest =>
    rw [hr] at hl
    simp only [List.map_cons] at hl
    rw [hl]
    simp [specShape, List.all_map]

end Ens.Ragged
