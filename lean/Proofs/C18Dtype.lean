import Proofs.C18Jc2
/-!
`joint_counts`: the dtype harmonisation is lossless on arrays whose entries fit their own dtype
(which every numpy array does), hence `joint_counts` is exact for every pair of integer dtypes.
Core Lean only.
-/
namespace Ens.Info
open Ens.Sched

/-- the eight integer element types of `libinfo.pyx` -/
def DType.std (d : DType) : Prop := d.bits = 8 ∨ d.bits = 16 ∨ d.bits = 32 ∨ d.bits = 64

/-- `v` is representable in the dtype -/
def DType.holds (d : DType) (v : Int) : Prop :=
  if d.signed then -(2 ^ (d.bits - 1) : Int) ≤ v ∧ v < 2 ^ (d.bits - 1) else 0 ≤ v ∧ v < 2 ^ d.bits

instance (d : DType) (v : Int) : Decidable (d.holds v) := by
  unfold DType.holds; infer_instance

/-- every entry of the array is representable in its dtype -/
def TArr.valid (x : TArr) : Prop := x.dt.std ∧ ∀ v ∈ x.arr.entries, x.dt.holds v

/-- the rule of `harmonise`: which of the two dtypes is kept -/
def winsOver (d e : DType) : Prop := d.itemsize > e.itemsize ∨ (d.itemsize = e.itemsize ∧ d.signed = false)

theorem DType.std_bits (d : DType) (h : d.std) : d.bits = 8 * d.itemsize ∧ 0 < d.bits := by
  unfold DType.itemsize
  rcases h with h | h | h | h <;> rw [h] <;> decide

theorem two_pow_le (m n : Nat) (h : m ≤ n) : (2 : Int) ^ m ≤ 2 ^ n := by
  rcases Nat.eq_or_lt_of_le h with rfl | h
  · exact Int.le_refl _
  · exact Int.le_of_lt (Int.pow_lt_pow_of_lt (by decide) h)

theorem emod_of_neg (v M : Int) (h1 : -M ≤ v) (h2 : v < 0) : v % M = v + M := by
  rw [← Int.add_emod_right, Int.emod_eq_of_lt (by omega) (by omega)]

theorem DType.cast_eq_self (d : DType) (hb : 0 < d.bits) (v : Int) (h : d.holds v) : d.cast v = v := by
  have hp : (2 : Int) ^ d.bits = 2 * 2 ^ (d.bits - 1) := by
    rw [← Int.pow_succ']; congr 1; omega
  have hH : (0 : Int) < 2 ^ (d.bits - 1) := Int.pow_pos (by decide)
  unfold DType.holds at h
  unfold DType.cast
  rw [hp] at h ⊢
  generalize (2 : Int) ^ (d.bits - 1) = H at h hH ⊢
  cases hs : d.signed
  · simp only [hs, Bool.false_eq_true, if_false, false_and] at h ⊢
    exact Int.emod_eq_of_lt h.1 h.2
  · simp only [hs, if_true, true_and] at h ⊢
    rcases Int.lt_or_le v 0 with hneg | hpos
    · rw [emod_of_neg v (2 * H) (by omega) hneg, if_pos (by omega)]; omega
    · rw [Int.emod_eq_of_lt hpos (by omega), if_neg (by omega)]

theorem DType.holds_mono (d e : DType) (v : Int) (hv : e.holds v) (h0 : 0 ≤ v)
    (hw : e.bits < d.bits ∨ (e.bits = d.bits ∧ (d.signed = false ∨ e.signed = true))) : d.holds v := by
  have pe := two_pow_le (e.bits - 1) e.bits (by omega)
  have pd := two_pow_le (d.bits - 1) d.bits (by omega)
  unfold DType.holds at hv ⊢
  rcases hw with hlt | ⟨heq, hs⟩
  · have := two_pow_le e.bits (d.bits - 1) (by omega)
    split at hv <;> split <;> omega
  · rw [← heq]
    rcases hs with hs | hs <;> simp only [hs, Bool.false_eq_true, if_false, if_true] at hv ⊢
    · split at hv <;> omega
    · split <;> omega

/-- the two cases in which `harmonise` casts an `e`-array to `d` -/
theorem cast_of_nonneg (d e : DType) (hd : d.std) (he : e.std) (v : Int) (hv : e.holds v) (h0 : 0 ≤ v)
    (hw : winsOver d e ∨ ¬ winsOver e d) : d.cast v = v := by
  obtain ⟨bd, hb⟩ := d.std_bits hd
  obtain ⟨be, _⟩ := e.std_bits he
  apply d.cast_eq_self hb v (d.holds_mono e v hv h0 _)
  unfold winsOver at hw
  rcases hw with (h | ⟨h, hs⟩) | hn
  · exact Or.inl (by omega)
  · exact Or.inr ⟨by omega, Or.inl hs⟩
  · rcases Nat.lt_trichotomy e.itemsize d.itemsize with hlt | heq | hgt
    · exact Or.inl (by omega)
    · refine Or.inr ⟨by omega, Or.inr ?_⟩
      cases hs : e.signed
      · exact absurd (Or.inr ⟨heq, hs⟩) hn
      · rfl
    · exact absurd (Or.inl hgt) hn

/-- the two arrays agree on their common shape -/
def Arr.agree (a a' : Arr) : Prop :=
  a'.T = a.T ∧ a'.F = a.F ∧ ∀ t, t < a.T → ∀ f, f < a.F → a'.get t f = a.get t f

theorem astype_agree (x : TArr) (d : DType) (h : ∀ v ∈ x.arr.entries, d.cast v = v) :
    x.arr.agree (x.astype d).arr :=
  ⟨rfl, rfl, fun t ht f hf => h _ ((mem_entries x.arr _).2 ⟨t, ht, f, hf, rfl⟩)⟩

theorem agree_refl (a : Arr) : a.agree a := ⟨rfl, rfl, fun _ _ _ _ => rfl⟩

theorem harmonise_lossless (X Y : TArr) (hX : X.valid) (hY : Y.valid) (X' Y' : TArr)
    (h : harmonise X Y = .ok (X', Y')) :
    X.arr.agree X'.arr ∧ Y.arr.agree Y'.arr ∧ X'.dt = Y'.dt := by
  unfold harmonise at h
  by_cases hdt : X.dt = Y.dt
  · rw [if_pos hdt] at h
    cases h
    exact ⟨agree_refl _, agree_refl _, hdt⟩
  rw [if_neg hdt] at h
  -- an error branch cannot return `ok`: what is left is the two casts, with both minima non-negative
  rcases hmx : X.arr.min? with _ | mx
  · rw [hmx] at h
    cases h
  rw [hmx] at h
  simp only at h
  by_cases hnx : mx < 0
  · rw [if_pos hnx] at h
    cases h
  rw [if_neg hnx] at h
  rcases hmy : Y.arr.min? with _ | my
  · rw [hmy] at h
    cases h
  rw [hmy] at h
  simp only at h
  by_cases hny : my < 0
  · rw [if_pos hny] at h
    cases h
  rw [if_neg hny] at h
  have hx0 := ((min?_guard X.arr.entries 0).1 ⟨mx, hmx, Int.not_lt.1 hnx⟩).2
  have hy0 := ((min?_guard Y.arr.entries 0).1 ⟨my, hmy, Int.not_lt.1 hny⟩).2
  -- the condition of `harmonise` is `winsOver X.dt Y.dt`, written out
  by_cases hw : X.dt.itemsize > Y.dt.itemsize ∨ (X.dt.itemsize = Y.dt.itemsize ∧ X.dt.signed = false)
  · rw [if_pos hw] at h
    cases h
    exact ⟨agree_refl _, astype_agree Y X.dt fun v hv =>
      cast_of_nonneg X.dt Y.dt hX.1 hY.1 v (hY.2 v hv) (hy0 v hv) (Or.inl hw), rfl⟩
  · rw [if_neg hw] at h
    cases h
    exact ⟨astype_agree X Y.dt fun v hv =>
      cast_of_nonneg Y.dt X.dt hY.1 hX.1 v (hX.2 v hv) (hx0 v hv) (Or.inr hw), agree_refl _, rfl⟩

theorem frameCount_agree (a a' b b' : Arr) (ha : a.agree a') (hb : b.agree b') (hT : a.T = b.T)
    (x y : Nat) (hx : x < a.F) (hy : y < b.F) (i j : Int) :
    frameCount a' b' x y i j = frameCount a b x y i j := by
  unfold frameCount
  rw [ha.1]
  apply List.countP_congr
  intro t ht
  have ht' : t < a.T := List.mem_range.1 ht
  rw [ha.2.2 t ht' x hx, hb.2.2 t (hT ▸ ht') y hy]

theorem countTable_agree (a a' b b' : Arr) (nA nB : Int) (ha : a.agree a') (hb : b.agree b')
    (hT : a.T = b.T) : countTable a' b' nA nB = countTable a b nA nB := by
  unfold countTable
  rw [ha.2.1, hb.2.1]
  congr 1
  funext x y i j
  by_cases hxy : x < a.F ∧ y < b.F
  · rw [if_pos hxy, if_pos hxy, frameCount_agree a a' b b' ha hb hT x y hxy.1 hxy.2]
  · rw [if_neg hxy, if_neg hxy]

theorem mem_entries_agree (a a' : Arr) (h : a.agree a') (v : Int) : v ∈ a'.entries ↔ v ∈ a.entries := by
  simp only [mem_entries]
  constructor
  · rintro ⟨t, ht, f, hf, rfl⟩
    exact ⟨t, h.1 ▸ ht, f, h.2.1 ▸ hf, (h.2.2 t (h.1 ▸ ht) f (h.2.1 ▸ hf)).symm⟩
  · rintro ⟨t, ht, f, hf, rfl⟩
    exact ⟨t, h.1.symm ▸ ht, f, h.2.1.symm ▸ hf, h.2.2 t ht f hf⟩

theorem toCInt_ok (n m : Int) (h : toCInt n = .ok m) : m = n := by
  unfold toCInt at h
  split at h
  · cases h; rfl
  · cases h

theorem typed_ok (a b : TArr) (nA nB : Int) (r : JC) (h : matrixBincount2dTyped a b nA nB = .ok r) :
    matrixBincount2d a.arr b.arr nA nB = .ok r := by
  unfold matrixBincount2dTyped at h
  obtain ⟨_, h⟩ := ite_error_eq_ok.1 h
  obtain ⟨m, h1, h⟩ := bind_eq_ok.1 h
  obtain ⟨m', h2, h⟩ := bind_eq_ok.1 h
  rwa [toCInt_ok _ _ h1, toCInt_ok _ _ h2] at h

theorem jointCounts_eq (X Y : TArr) (hX : X.valid) (hY : Y.valid) (nx ny : Int) (r : JC)
    (h : jointCounts X (some Y) (some nx) (some ny) = .ok r) : r = countTable X.arr Y.arr nx ny := by
  have h : (harmonise X Y >>= fun XY => matrixBincount2dTyped XY.1 XY.2 nx ny) = .ok r := h
  obtain ⟨⟨X', Y'⟩, hh, h⟩ := bind_eq_ok.1 h
  obtain ⟨ax, ay, _⟩ := harmonise_lossless X Y hX hY X' Y' hh
  obtain ⟨hg, rfl⟩ := (matrixBincount2d_ok_iff _ _ nx ny r).1 (typed_ok X' Y' nx ny r h)
  have hT : X.arr.T = Y.arr.T := by rw [← ax.1, ← ay.1]; exact (guard_range _ _ nx ny hg).1
  exact countTable_agree _ _ _ _ nx ny ax ay hT

end Ens.Info
