import Proofs.C07
/-!
C08 core lemmas in `Finset.sum` form: flux definition, positive-part algebra of the net flux,
total flux out of and into a state, global balance, reactive populations.
-/
open Finset

namespace Ens.Tpt

theorem flux_offdiag (π q : Vec) (T : Mat) {i j : Nat} (h : i ≠ j) :
    reactiveFlux π q T i j = π i * (1 - q i) * T i j * q j := by
  rw [reactiveFlux, if_neg h, reverseCommittors, mul_comm (T i j)]

theorem flux_diag (π q : Vec) (T : Mat) (i : Nat) : reactiveFlux π q T i i = 0 := if_pos rfl

theorem flux_nonneg {π q : Vec} {T : Mat} {i j : Nat} (hπ : 0 ≤ π i) (hT : 0 ≤ T i j)
    (hqi : q i ≤ 1) (hqj : 0 ≤ q j) : 0 ≤ reactiveFlux π q T i j := by
  by_cases h : i = j
  · subst h
    exact (flux_diag π q T i).ge
  · rw [flux_offdiag π q T h]
    exact mul_nonneg (mul_nonneg (mul_nonneg hπ (sub_nonneg.2 hqi)) hT) hqj

theorem net_eq_max (f : Mat) (i j : Nat) : netFlux f i j = max (f i j - f j i) 0 := by
  simp only [netFlux]
  split
  · exact (max_eq_right (le_of_lt ‹_›)).symm
  · exact (max_eq_left (not_lt.1 ‹_›)).symm

theorem net_zero_of_le {f : Mat} {i j : Nat} (h : f i j ≤ f j i) : netFlux f i j = 0 :=
  (net_eq_max f i j).trans (max_eq_right (sub_nonpos.2 h))

theorem net_sub (f : Mat) (i j : Nat) : netFlux f i j - netFlux f j i = f i j - f j i := by
  rw [net_eq_max, net_eq_max, ← neg_sub (f i j) (f j i)]
  rcases le_total (f i j - f j i) 0 with h | h
  · rw [max_eq_right h, max_eq_left (neg_nonneg.2 h), zero_sub, neg_neg]
  · rw [max_eq_left h, max_eq_right (neg_nonpos.2 h), sub_zero]

section conservation
variable {n : Nat} {T : Mat} {π q : Vec}

theorem flux_out_sum {i : Nat} (hi : i < n) (hq : q i = ∑ j ∈ range n, T i j * q j) :
    ∑ j ∈ range n, reactiveFlux π q T i j = π i * (1 - q i) * q i * (1 - T i i) := by
  simp only [reactiveFlux, reverseCommittors]
  rw [sum_range_ite_ne hi, sum_congr rfl fun j _ => mul_right_comm (T i j) _ (q j), ← sum_mul, ← hq]
  ring

theorem flux_in_sum (hdb : ∀ i, i < n → ∀ j, j < n → π i * T i j = π j * T j i)
    (hrow : ∀ i, i < n → ∑ j ∈ range n, T i j = 1)
    {i : Nat} (hi : i < n) (hq : q i = ∑ j ∈ range n, T i j * q j) :
    ∑ j ∈ range n, reactiveFlux π q T j i = π i * (1 - q i) * q i * (1 - T i i) := by
  -- detailed balance: `f j i − f i j = π_i T_ij (q_i − q_j)` for every `j`; this sums to 0 where `q` is harmonic
  have e : ∀ j ∈ range n, reactiveFlux π q T j i - reactiveFlux π q T i j
      = π i * (T i j * q i) - π i * (T i j * q j) := by
    intro j hj
    by_cases h : i = j
    · subst h; rw [sub_self, sub_self]
    · rw [flux_offdiag π q T (Ne.symm h), flux_offdiag π q T h]
      linear_combination (-(1 - q j) * q i) * hdb i hi j (mem_range.1 hj)
  rw [← flux_out_sum hi hq, ← sub_eq_zero, ← sum_sub_distrib, sum_congr rfl e, sum_sub_distrib,
    ← mul_sum, ← mul_sum, ← sum_mul, hrow i hi, one_mul, ← hq, sub_self]

theorem total_balance {g : Mat} {A B : List Nat} (hdisj : ∀ s ∈ A, s ∉ B)
    (hin : ∀ i, i < n → i ∈ A → ∑ j ∈ range n, g j i = 0)
    (hout : ∀ i, i < n → i ∈ B → ∑ j ∈ range n, g i j = 0)
    (hcons : ∀ i, i < n → i ∉ A → i ∉ B → ∑ j ∈ range n, g j i = ∑ j ∈ range n, g i j) :
    ∑ i ∈ range n, (if i ∈ A then ∑ j ∈ range n, g i j else 0)
      = ∑ i ∈ range n, (if i ∈ B then ∑ j ∈ range n, g j i else 0) := by
  have h : ∑ i ∈ range n, ∑ j ∈ range n, (g i j - g j i) = 0 := by
    simp only [sum_sub_distrib]
    rw [sum_comm (f := fun i j => g j i), sub_self]
  -- `Σ_i (out_i − in_i) = 0`; a state of `A` keeps `out_i` (nothing flows in), one of `B` keeps `−in_i`, the rest cancel
  rw [← sub_eq_zero, ← sum_sub_distrib]
  refine (sum_congr rfl fun i hi => ?_).trans h
  have hi := mem_range.1 hi
  rw [sum_sub_distrib]
  by_cases h1 : i ∈ A
  · rw [if_pos h1, if_neg (hdisj i h1), hin i hi h1]
  · by_cases h2 : i ∈ B
    · rw [if_neg h1, if_pos h2, hout i hi h2]
    · rw [if_neg h1, if_neg h2, hcons i hi h1 h2, sub_self, sub_self]

end conservation

theorem sum_reactivePop {n : Nat} {π q : Vec} (h : sumTo n (density π q) ≠ 0) :
    sumTo n (reactivePop n π q) = 1 := by
  rw [sumTo_eq_sum]
  simp only [reactivePop, div_eq_mul_inv]
  rw [← sum_mul, ← sumTo_eq_sum]
  exact mul_inv_cancel₀ h

end Ens.Tpt
