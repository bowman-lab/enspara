import Proofs.C16Spec
import Mathlib.Logic.Relation
import Mathlib.Algebra.Order.BigOperators.Group.Finset
/-!
Uniqueness of the stationary vector of an *irreducible* row-stochastic matrix
(the Perron–Frobenius uniqueness step, proved elementarily).

Route: for a left fixed vector `u` of a non-negative matrix with unit row sums,
`|u|` is again a left fixed vector (triangle inequality, equality of the totals forces
equality in every coordinate), hence so is `|u| + u`, which is non-negative.
A non-negative left fixed vector of an irreducible matrix is zero or strictly positive in
every coordinate (`p = p Tᵏ`, and some `Tᵏ` joins any two states).  So `u` is either
everywhere positive, everywhere negative (apply this to `-u`), or zero; with `Σ u = 0` only
zero is left.
-/
namespace Ens.Msm
open Ens

theorem pow_entries_nonneg {n : Nat} (T : Matrix (Fin n) (Fin n) ℝ) (hnn : ∀ i j, 0 ≤ T i j)
    (k : Nat) : ∀ i j, 0 ≤ (T ^ k) i j := by
  induction k with
  | zero =>
    intro i j
    rw [pow_zero, Matrix.one_apply]
    split <;> norm_num
  | succ k ih =>
    intro i j
    rw [pow_succ, Matrix.mul_apply]
    exact Finset.sum_nonneg fun l _ => mul_nonneg (ih i l) (hnn l j)

theorem vecMul_pow_fixed {n : Nat} (T : Matrix (Fin n) (Fin n) ℝ) (p : Fin n → ℝ)
    (hp : Matrix.vecMul p T = p) (k : Nat) : Matrix.vecMul p (T ^ k) = p := by
  induction k with
  | zero => rw [pow_zero, Matrix.vecMul_one]
  | succ k ih => rw [pow_succ, ← Matrix.vecMul_vecMul, ih, hp]

theorem fixed_nonneg_pos {n : Nat} (T : Matrix (Fin n) (Fin n) ℝ) (hnn : ∀ i j, 0 ≤ T i j)
    (hirr : ∀ i j, ∃ k : Nat, 0 < (T ^ k) i j) (p : Fin n → ℝ) (hp0 : ∀ i, 0 ≤ p i)
    (hp : Matrix.vecMul p T = p) (i0 : Fin n) (hi0 : 0 < p i0) : ∀ j, 0 < p j := by
  intro j
  obtain ⟨k, hk⟩ := hirr i0 j
  have e : p j = ∑ i, p i * (T ^ k) i j := by
    have := congrFun (vecMul_pow_fixed T p hp k) j
    simp only [Matrix.vecMul, dotProduct] at this
    exact this.symm
  rw [e]
  exact Finset.sum_pos' (fun i _ => mul_nonneg (hp0 i) (pow_entries_nonneg T hnn k i j))
    ⟨i0, Finset.mem_univ _, mul_pos hi0 hk⟩

theorem abs_fixed {n : Nat} (T : Matrix (Fin n) (Fin n) ℝ) (hnn : ∀ i j, 0 ≤ T i j)
    (hrow : ∀ i, ∑ j, T i j = 1) (u : Fin n → ℝ) (hu : Matrix.vecMul u T = u) :
    Matrix.vecMul (fun i => |u i|) T = fun i => |u i| := by
  have hle : ∀ j ∈ (Finset.univ : Finset (Fin n)), |u j| ≤ ∑ i, |u i| * T i j := fun j _ =>
    calc |u j| = |∑ i, u i * T i j| := congrArg (|·|) (congrFun hu j).symm
      _ ≤ ∑ i, |u i * T i j| := Finset.abs_sum_le_sum_abs _ _
      _ = ∑ i, |u i| * T i j :=
        Finset.sum_congr rfl fun i _ => by rw [abs_mul, abs_of_nonneg (hnn i j)]
  have hsum : ∑ j, |u j| = ∑ j, ∑ i, |u i| * T i j := by
    rw [Finset.sum_comm]
    exact Finset.sum_congr rfl fun i _ => by rw [← Finset.mul_sum, hrow, mul_one]
  funext j
  exact ((Finset.sum_eq_sum_iff_of_le hle).mp hsum j (Finset.mem_univ j)).symm

/-- `|u| + u` is a non-negative fixed vector, positive where `u` is and zero where `u ≤ 0`. -/
theorem fixed_pos_of_pos {n : Nat} (T : Matrix (Fin n) (Fin n) ℝ)
    (hnn : ∀ i j, 0 ≤ T i j) (hrow : ∀ i, ∑ j, T i j = 1)
    (hirr : ∀ i j, ∃ k : Nat, 0 < (T ^ k) i j)
    (u : Fin n → ℝ) (hu : Matrix.vecMul u T = u) (i0 : Fin n) (hi0 : 0 < u i0) : ∀ j, 0 < u j := by
  have hfix : Matrix.vecMul ((fun i => |u i|) + u) T = (fun i => |u i|) + u := by
    rw [Matrix.add_vecMul, abs_fixed T hnn hrow u hu, hu]
  intro j
  have hj : 0 < |u j| + u j := fixed_nonneg_pos T hnn hirr _
    (fun i => neg_le_iff_add_nonneg'.mp (neg_abs_le (u i))) hfix i0
    (add_pos_of_nonneg_of_pos (abs_nonneg _) hi0) j
  exact (lt_or_ge 0 (u j)).resolve_right fun h =>
    hj.ne' (by rw [abs_of_nonpos h, neg_add_cancel])

theorem fixed_sum_zero_eq_zero_irred {n : Nat} (T : Matrix (Fin n) (Fin n) ℝ)
    (hnn : ∀ i j, 0 ≤ T i j) (hrow : ∀ i, ∑ j, T i j = 1)
    (hirr : ∀ i j, ∃ k : Nat, 0 < (T ^ k) i j)
    (u : Fin n → ℝ) (hu : Matrix.vecMul u T = u) (hs : ∑ i, u i = 0) : u = 0 := by
  funext i
  by_contra hne
  rcases lt_or_gt_of_ne hne with h | h
  · have hpos := fixed_pos_of_pos T hnn hrow hirr (-u) (by rw [Matrix.neg_vecMul, hu]) i
      (neg_pos.mpr h)
    have : 0 < ∑ j, (-u) j := Finset.sum_pos (fun j _ => hpos j) ⟨i, Finset.mem_univ _⟩
    simp only [Pi.neg_apply, Finset.sum_neg_distrib, hs, neg_zero, lt_irrefl] at this
  · have hpos := fixed_pos_of_pos T hnn hrow hirr u hu i h
    have : 0 < ∑ j, u j := Finset.sum_pos (fun j _ => hpos j) ⟨i, Finset.mem_univ _⟩
    rw [hs] at this
    exact lt_irrefl _ this

theorem fixed_eq_of_sum_eq {n : Nat} (T : Matrix (Fin n) (Fin n) ℝ)
    (hnn : ∀ i j, 0 ≤ T i j) (hrow : ∀ i, ∑ j, T i j = 1)
    (hirr : ∀ i j, ∃ k : Nat, 0 < (T ^ k) i j)
    (v w : Fin n → ℝ) (hv : Matrix.vecMul v T = v) (hw : Matrix.vecMul w T = w)
    (hsum : ∑ i, v i = ∑ i, w i) : v = w := by
  have h := fixed_sum_zero_eq_zero_irred T hnn hrow hirr (v - w)
    (by rw [Matrix.sub_vecMul, hv, hw])
    (by simp only [Pi.sub_apply, Finset.sum_sub_distrib, hsum, sub_self])
  exact sub_eq_zero.mp h

theorem stationary_unique_irred {n : Nat} (T : Matrix (Fin n) (Fin n) ℝ)
    (hnn : ∀ i j, 0 ≤ T i j) (hrow : ∀ i, ∑ j, T i j = 1)
    (hirr : ∀ i j, ∃ k : Nat, 0 < (T ^ k) i j)
    (v w : Fin n → ℝ) (hv : Matrix.vecMul v T = v) (hw : Matrix.vecMul w T = w)
    (sv : ∑ i, v i = 1) (sw : ∑ i, w i = 1) : v = w :=
  fixed_eq_of_sum_eq T hnn hrow hirr v w hv hw (sv.trans sw.symm)

theorem pow_succ_entry_pos_iff {n : Nat} (T : Matrix (Fin n) (Fin n) ℝ) (hnn : ∀ i j, 0 ≤ T i j)
    (k : Nat) (i j : Fin n) : 0 < (T ^ (k + 1)) i j ↔ ∃ l, 0 < (T ^ k) i l ∧ 0 < T l j := by
  have hk := pow_entries_nonneg T hnn k i
  rw [pow_succ, Matrix.mul_apply,
    Finset.sum_pos_iff_of_nonneg fun l _ => mul_nonneg (hk l) (hnn l j)]
  constructor
  · rintro ⟨l, _, hl⟩
    exact ⟨l, pos_of_mul_pos_left hl (hnn l j), pos_of_mul_pos_right hl (hk l)⟩
  · rintro ⟨l, h1, h2⟩
    exact ⟨l, Finset.mem_univ _, mul_pos h1 h2⟩

theorem pow_pos_of_path {n : Nat} (T : Matrix (Fin n) (Fin n) ℝ) (hnn : ∀ i j, 0 ≤ T i j)
    (i j : Fin n) (h : Relation.ReflTransGen (fun a b => 0 < T a b) i j) :
    ∃ k : Nat, 0 < (T ^ k) i j := by
  induction h with
  | refl => exact ⟨0, by rw [pow_zero, Matrix.one_apply_eq]; exact one_pos⟩
  | @tail b c _ hbc ih =>
    obtain ⟨k, hk⟩ := ih
    exact ⟨k + 1, (pow_succ_entry_pos_iff T hnn k i c).mpr ⟨b, hk, hbc⟩⟩

theorem path_of_pow_pos {n : Nat} (T : Matrix (Fin n) (Fin n) ℝ) (hnn : ∀ i j, 0 ≤ T i j)
    (k : Nat) : ∀ i j : Fin n, 0 < (T ^ k) i j →
      Relation.ReflTransGen (fun a b => 0 < T a b) i j := by
  induction k with
  | zero =>
    intro i j h
    rw [pow_zero, Matrix.one_apply] at h
    split at h
    · rename_i e; rw [e]
    · exact absurd h (lt_irrefl _)
  | succ k ih =>
    intro i j h
    obtain ⟨l, h1, h2⟩ := (pow_succ_entry_pos_iff T hnn k i j).mp h
    exact (ih i l h1).tail h2

end Ens.Msm
