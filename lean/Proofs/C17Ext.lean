/-
C17 helper: `Ext` (−∞ / finite / +∞) is a linear order whose `min` is `Ext.min`; `relax` is `min`.
-/
import Model.Paths
import Mathlib.Order.Defs.LinearOrder
import Mathlib.Order.Lattice
import Mathlib.Order.MinMax
import Mathlib.Tactic.Order

namespace Ens.Paths
namespace Ext

theorem lt_def (a b : Ext) : a < b ↔ lt a b = true := Iff.rfl
theorem le_def (a b : Ext) : a ≤ b ↔ lt b a = false := Iff.rfl

def tag : Ext → Nat
  | ninf => 0
  | fin _ => 1
  | pinf => 2

def val : Ext → Nat
  | fin v => v
  | _ => 0

/-- `Ext` is ordered like the pairs `(tag, val)`, lexicographically -/
theorem lt_iff (a b : Ext) : a < b ↔ tag a < tag b ∨ (tag a = tag b ∧ val a < val b) := by
  cases a <;> cases b <;> simp [lt_def, lt, tag, val]

def ofKey : Nat → Nat → Ext
  | 0, _ => ninf
  | 1, v => fin v
  | _, _ => pinf

theorem ofKey_key (a : Ext) : ofKey (tag a) (val a) = a := by cases a <;> rfl

theorem eq_of_key {a b : Ext} (ht : tag a = tag b) (hv : val a = val b) : a = b := by
  rw [← ofKey_key a, ht, hv, ofKey_key]

theorem le_iff_not_lt (a b : Ext) : a ≤ b ↔ ¬ b < a := by rw [le_def, lt_def, Bool.not_eq_true]

protected theorem lt_asymm {a b : Ext} (h : a < b) : ¬ b < a := by
  rw [lt_iff] at h ⊢
  omega

protected theorem lt_cotrans {a c : Ext} (h : a < c) (b : Ext) : a < b ∨ b < c := by
  rw [lt_iff] at h
  rw [lt_iff, lt_iff]
  omega

protected theorem eq_of_not_lt {a b : Ext} (h1 : ¬ a < b) (h2 : ¬ b < a) : a = b := by
  rw [lt_iff] at h1 h2
  have : tag a = tag b ∧ val a = val b := by omega
  exact eq_of_key this.1 this.2

/- `≤` is `¬ >`, so the order axioms are asymmetry, co-transitivity and trichotomy of `<`. -/
instance : LinearOrder Ext where
  le := (· ≤ ·)
  lt := (· < ·)
  le_refl a := (le_iff_not_lt a a).2 fun h => Ext.lt_asymm h h
  le_trans a b c hab hbc := (le_iff_not_lt a c).2 fun h =>
    (Ext.lt_cotrans h b).elim ((le_iff_not_lt b c).1 hbc) ((le_iff_not_lt a b).1 hab)
  lt_iff_le_not_ge a b :=
    ⟨fun h => ⟨(le_iff_not_lt a b).2 (Ext.lt_asymm h), fun h' => (le_iff_not_lt b a).1 h' h⟩,
     fun h => Decidable.not_not.1 fun h' => h.2 ((le_iff_not_lt b a).2 h')⟩
  le_antisymm a b hab hba :=
    Ext.eq_of_not_lt ((le_iff_not_lt b a).1 hba) ((le_iff_not_lt a b).1 hab)
  le_total a b := (Decidable.em (b < a)).elim
    (fun h => Or.inr ((le_iff_not_lt b a).2 (Ext.lt_asymm h)))
    (fun h => Or.inl ((le_iff_not_lt a b).2 h))
  toDecidableLE := fun a b => inferInstanceAs (Decidable (lt b a = false))
  toDecidableLT := fun a b => inferInstanceAs (Decidable (lt a b = true))
  min := Ext.min
  min_def a b := by
    show (if a < b then a else b) = if a ≤ b then a else b
    by_cases h : a < b
    · rw [if_pos h, if_pos ((le_iff_not_lt a b).2 (Ext.lt_asymm h))]
    · rw [if_neg h]
      split
      · next hle => exact Ext.eq_of_not_lt ((le_iff_not_lt a b).1 hle) h
      · rfl

theorem min_eq (a b : Ext) : Ext.min a b = min a b := rfl

@[simp] theorem ninf_le (a : Ext) : ninf ≤ a := by cases a <;> rfl
@[simp] theorem le_pinf (a : Ext) : a ≤ pinf := by cases a <;> rfl
@[simp] theorem fin_le_fin (a b : Nat) : fin a ≤ fin b ↔ a ≤ b :=
  decide_eq_false_iff_not.trans Nat.not_lt
@[simp] theorem fin_lt_fin (a b : Nat) : fin a < fin b ↔ a < b := decide_eq_true_iff
@[simp] theorem ninf_lt_fin (a : Nat) : ninf < fin a := rfl
@[simp] theorem fin_lt_pinf (a : Nat) : fin a < pinf := rfl
@[simp] theorem ninf_lt_pinf : ninf < pinf := rfl
@[simp] theorem not_pinf_lt (a : Ext) : ¬ pinf < a := by cases a <;> exact Bool.false_ne_true
@[simp] theorem not_lt_ninf (a : Ext) : ¬ a < ninf := by cases a <;> exact Bool.false_ne_true
theorem le_ninf_iff (a : Ext) : a ≤ ninf ↔ a = ninf :=
  ⟨fun h => le_antisymm h (ninf_le a), fun h => h ▸ le_refl _⟩
theorem pinf_le_iff (a : Ext) : pinf ≤ a ↔ a = pinf :=
  ⟨fun h => le_antisymm (le_pinf a) h, fun h => h ▸ le_refl _⟩
theorem ne_ninf_iff (a : Ext) : a ≠ ninf ↔ ninf < a :=
  ⟨fun h => lt_of_le_of_ne (ninf_le a) h.symm, fun h => (ne_of_lt h).symm⟩

@[simp] theorem min_pinf (a : Ext) : min a pinf = a := min_eq_left (le_pinf a)
@[simp] theorem pinf_min (a : Ext) : min pinf a = a := min_eq_right (le_pinf a)
theorem min_ne_ninf {a b : Ext} (ha : a ≠ ninf) (hb : b ≠ ninf) : min a b ≠ ninf := by
  rcases min_choice a b with h | h
  · rwa [h]
  · rwa [h]

theorem min_fin_fin (a b : Nat) : min (fin a) (fin b) = fin (min a b) := by
  rcases Nat.le_total a b with h | h
  · rw [min_eq_left ((fin_le_fin a b).2 h), Nat.min_eq_left h]
  · rw [min_eq_right ((fin_le_fin b a).2 h), Nat.min_eq_right h]

end Ext

theorem relax_eq (w : Nat) (l : Ext) : relax w l = min l (Ext.fin w) := Ext.min_eq l (Ext.fin w)

theorem relax_le_left (w : Nat) (l : Ext) : relax w l ≤ l := by
  rw [relax_eq]; exact min_le_left _ _

theorem relax_le_right (w : Nat) (l : Ext) : relax w l ≤ Ext.fin w := by
  rw [relax_eq]; exact min_le_right _ _

theorem relax_ne_ninf (w : Nat) (l : Ext) (h : l ≠ Ext.ninf) : relax w l ≠ Ext.ninf :=
  Ext.min_ne_ninf h nofun

end Ens.Paths
