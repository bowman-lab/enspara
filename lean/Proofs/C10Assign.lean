import Model.Assign
import Proofs.Basic
/-! Lemmas for C10: the order on `ERat` (`none` = +inf), the per-frame argmin, the running-minimum sweep. -/
namespace Ens.Assign

theorem ERat.lt_irrefl (a : ERat) : ERat.lt a a = false := by
  cases a <;> simp [ERat.lt]

theorem ERat.le_refl (a : ERat) : ERat.le a a = true := by
  simp [ERat.le, ERat.lt_irrefl]

theorem ERat.lt_of_lt_of_le : ∀ {a b c : ERat}, ERat.lt a b = true → ERat.le b c = true → ERat.lt a c = true
  | some _, _, none, _, _ => rfl
  | some x, some y, some z, h1, h2 => by
    have h1 : x < y := of_decide_eq_true h1
    have h2 : y ≤ z := Rat.not_lt.mp (of_decide_eq_false ((Bool.not_eq_true' _).mp h2))
    exact decide_eq_true (Std.lt_of_lt_of_le h1 h2)
  | some _, none, some _, _, h2 => nomatch h2
  | none, _, _, h1, _ => nomatch h1

theorem ERat.le_of_lt : ∀ {a b : ERat}, ERat.lt a b = true → ERat.le a b = true
  | some _, none, _ => rfl
  | some _, some _, h =>
    (Bool.not_eq_true' _).mpr (decide_eq_false (Rat.not_lt.mpr (Rat.le_of_lt (of_decide_eq_true h))))
  | none, _, h => nomatch h

theorem ERat.lt_trans {a b c : ERat} (h1 : ERat.lt a b = true) (h2 : ERat.lt b c = true) :
    ERat.lt a c = true :=
  ERat.lt_of_lt_of_le h1 (ERat.le_of_lt h2)

theorem ERat.le_trans {a b c : ERat} (h1 : ERat.le a b = true) (h2 : ERat.le b c = true) :
    ERat.le a c = true := by
  cases h : ERat.lt c a with
  | false => rw [ERat.le, h]; rfl
  | true => rw [ERat.le, ERat.lt_of_lt_of_le h h1] at h2; exact nomatch h2

theorem ERat.le_some_some {a b : Rat} : ERat.le (some a) (some b) = true ↔ a ≤ b := by
  simp [ERat.le, ERat.lt, Rat.not_lt]

theorem ERat.lt_some_some {a b : Rat} : ERat.lt (some a) (some b) = true ↔ a < b := by
  simp [ERat.lt]

/-- `c` is the first index among `0 … k-1` at which `g` is minimal. -/
def IsFirstMin (g : Nat → Rat) (k c : Nat) : Prop :=
  c < k ∧ (∀ c', c' < k → g c ≤ g c') ∧ (∀ c', c' < c → g c < g c')

theorem IsFirstMin.unique {g : Nat → Rat} {k c c' : Nat}
    (h : IsFirstMin g k c) (h' : IsFirstMin g k c') : c = c' := by
  obtain ⟨hc, hmin, hfirst⟩ := h
  obtain ⟨hc', hmin', hfirst'⟩ := h'
  rcases Nat.lt_trichotomy c c' with hlt | heq | hgt
  · exact absurd (hfirst' c hlt) (Rat.not_lt.mpr (hmin c' hc'))
  · exact heq
  · exact absurd (hfirst c' hgt) (Rat.not_lt.mpr (hmin' c hc))

theorem argminTo_isFirstMin (g : Nat → Rat) (j : Nat) : IsFirstMin g (j+1) (argminTo (j+1) g) := by
  obtain ⟨h1, h2, h3⟩ :=
    argminTo_spec (fun _ => Std.lt_irrefl) Std.lt_trans Std.lt_trichotomy g (Nat.succ_pos j)
  exact ⟨h1, fun c' hc' => Rat.not_lt.mp (h2 c' hc'), h3⟩

theorem minUpTo_eq (g : Nat → Rat) (j : Nat) : minUpTo g j = g (argminTo (j+1) g) := by
  induction j with
  | zero => rfl
  | succ j ih =>
    rw [argminTo_succ_succ, minUpTo, ih]
    split <;> rfl

theorem sweep_zero (D : Nat → Nat → Rat) (f : Nat) :
    (sweep D 0).dist f = none ∧ (sweep D 0).lab f = 0 := ⟨rfl, rfl⟩

/-- the sweep and `argminTo` make the same comparison at every step -/
theorem sweep_eq_argmin (D : Nat → Nat → Rat) (j f : Nat) :
    (sweep D (j+1)).lab f = argminTo (j+1) (D f) ∧
    (sweep D (j+1)).dist f = some (D f (argminTo (j+1) (D f))) := by
  induction j with
  | zero => exact ⟨rfl, rfl⟩
  | succ j ih =>
    obtain ⟨hl, hd⟩ := ih
    have hlt : ERat.lt (some (D f (j+1))) ((sweep D (j+1)).dist f)
        = decide (D f (j+1) < D f (argminTo (j+1) (D f))) := by rw [hd]; rfl
    rw [argminTo_succ_succ]
    constructor
    · show (if ERat.lt (some (D f (j+1))) ((sweep D (j+1)).dist f) = true then j+1
        else (sweep D (j+1)).lab f) = _
      rw [hlt, hl]
      simp only [decide_eq_true_eq]
    · show (if ERat.lt (some (D f (j+1))) ((sweep D (j+1)).dist f) = true then some (D f (j+1))
        else (sweep D (j+1)).dist f) = _
      rw [hlt, hd]
      simp only [decide_eq_true_eq]
      split <;> rfl

theorem sweep_spec (D : Nat → Nat → Rat) (j f : Nat) :
    IsFirstMin (D f) (j+1) ((sweep D (j+1)).lab f) ∧
    (sweep D (j+1)).dist f = some (D f ((sweep D (j+1)).lab f)) := by
  rw [(sweep_eq_argmin D j f).1]
  exact ⟨argminTo_isFirstMin (D f) j, (sweep_eq_argmin D j f).2⟩

theorem perFrame_spec (D : Nat → Nat → Rat) (j f : Nat) :
    IsFirstMin (D f) (j+1) ((perFrame D j).lab f) ∧
    (perFrame D j).dist f = some (D f ((perFrame D j).lab f)) :=
  ⟨argminTo_isFirstMin (D f) j, congrArg some (minUpTo_eq (D f) j)⟩

/-- both code branches compute the same arrays -/
theorem perFrame_eq_sweep (D : Nat → Nat → Rat) (j f : Nat) :
    (perFrame D j).lab f = (sweep D (j+1)).lab f ∧
    (perFrame D j).dist f = (sweep D (j+1)).dist f :=
  ⟨(sweep_eq_argmin D j f).1.symm, (congrArg some (minUpTo_eq (D f) j)).trans (sweep_eq_argmin D j f).2.symm⟩

theorem assignNearest_eq_sweep (D : Nat → Nat → Rat) (n k : Nat) (x : Bool) (f : Nat) :
    (assignNearest D n k x).lab f = (sweep D k).lab f ∧
    (assignNearest D n k x).dist f = (sweep D k).dist f := by
  cases k with
  | zero => exact ⟨rfl, rfl⟩
  | succ j =>
    rw [assignNearest]
    split
    · exact perFrame_eq_sweep D j f
    · exact ⟨rfl, rfl⟩

/-- the sweep looks at row `f` of the table only (used for batching) -/
theorem sweep_pointwise (D D' : Nat → Nat → Rat) (f f' : Nat) (h : ∀ c, D f c = D' f' c) (k : Nat) :
    (sweep D k).lab f = (sweep D' k).lab f' ∧ (sweep D k).dist f = (sweep D' k).dist f' := by
  induction k with
  | zero => exact ⟨rfl, rfl⟩
  | succ k ih =>
    simp only [sweep, sweepStep, h, ih.1, ih.2, and_self]

end Ens.Assign
