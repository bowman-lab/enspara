import Proofs.C11Scc
/-!
C11, part 3: what `trimDisconnected` returns — entries, strong connectivity of the trimmed
matrix (paths between kept states never leave the component), the mapping.
-/
namespace Ens.Trim

section
variable {C : Nat → Nat → Nat} {n : Nat} {thr : Int} {labels : Nat → Nat} {nsub : Nat}

theorem trim_zero (renumber : Bool) (h0 : nsub = 0) :
    trimDisconnected C n labels nsub renumber = .error .valueError := if_pos h0

theorem trim_error_iff (renumber : Bool) :
    (∃ err, trimDisconnected C n labels nsub renumber = .error err) ↔ nsub = 0 := by
  refine ⟨fun ⟨e, he⟩ => Decidable.byContradiction fun h0 => ?_, fun h0 => ⟨_, trim_zero renumber h0⟩⟩
  rw [trimDisconnected, if_neg h0] at he
  cases renumber <;> cases he

theorem trim_inv_renumber {r : Result} (h : trimDisconnected C n labels nsub true = .ok r) :
    nsub ≠ 0 ∧ r.keep = keepStates C n labels nsub ∧ r.shape = r.keep.length ∧
    (∀ a b, r.entry a b = match r.keep[a]?, r.keep[b]? with
        | some i, some j => C i j
        | _, _ => 0) ∧
    r.mapping = TrimMapping.ofTransformations (r.keep.zip (List.range r.keep.length)) := by
  by_cases h0 : nsub = 0
  · rw [trim_zero true h0] at h; cases h
  · rw [trimDisconnected, if_neg h0] at h
    cases h
    exact ⟨h0, rfl, rfl, fun _ _ => rfl, rfl⟩

theorem trim_inv_inplace {r : Result} (h : trimDisconnected C n labels nsub false = .ok r) :
    nsub ≠ 0 ∧ r.keep = keepStates C n labels nsub ∧ r.shape = n ∧
    (∀ i j, r.entry i j =
        if labels i != argmaxTo nsub (subgraphPop C n labels) ||
           labels j != argmaxTo nsub (subgraphPop C n labels) then 0 else C i j) ∧
    r.mapping = TrimMapping.ofTransformations (r.keep.zip r.keep) := by
  by_cases h0 : nsub = 0
  · rw [trim_zero false h0] at h; cases h
  · rw [trimDisconnected, if_neg h0] at h
    cases h
    exact ⟨h0, rfl, rfl, fun _ _ => rfl, rfl⟩

theorem trim_keep {C : Nat → Nat → Nat} {n : Nat} {labels : Nat → Nat} {nsub : Nat} {renumber : Bool}
    {r : Result} (h : trimDisconnected C n labels nsub renumber = .ok r) :
    nsub ≠ 0 ∧ r.keep = keepStates C n labels nsub := by
  cases renumber
  · exact ⟨(trim_inv_inplace h).1, (trim_inv_inplace h).2.1⟩
  · exact ⟨(trim_inv_renumber h).1, (trim_inv_renumber h).2.1⟩

theorem renumber_entry {r : Result} (h : trimDisconnected C n labels nsub true = .ok r)
    {a b : Nat} (ha : a < r.keep.length) (hb : b < r.keep.length) :
    r.entry a b = C r.keep[a] r.keep[b] := by
  obtain ⟨_, _, _, he, _⟩ := trim_inv_renumber h
  rw [he, List.getElem?_eq_getElem ha, List.getElem?_eq_getElem hb]

theorem inplace_entry_in {r : Result} (h : trimDisconnected C n labels nsub false = .ok r)
    {i j : Nat} (hi : i ∈ r.keep) (hj : j ∈ r.keep) : r.entry i j = C i j := by
  obtain ⟨_, hk, _, he, _⟩ := trim_inv_inplace h
  rw [hk] at hi hj
  have h1 := (mem_members.1 hi).2
  have h2 := (mem_members.1 hj).2
  rw [he]; simp [h1, h2]

theorem inplace_entry_out {r : Result} (h : trimDisconnected C n labels nsub false = .ok r)
    {i j : Nat} (hi : i < n) (hj : j < n) (hout : i ∉ r.keep ∨ j ∉ r.keep) : r.entry i j = 0 := by
  obtain ⟨_, hk, _, he, _⟩ := trim_inv_inplace h
  rw [hk] at hout
  rw [he]
  have : labels i ≠ argmaxTo nsub (subgraphPop C n labels) ∨
      labels j ≠ argmaxTo nsub (subgraphPop C n labels) := by
    rcases hout with h' | h'
    · left; intro hh; exact h' (mem_members.2 ⟨hi, hh⟩)
    · right; intro hh; exact h' (mem_members.2 ⟨hj, hh⟩)
  rcases this with h' | h' <;> simp [h']

/-! ### paths between states of one SCC stay inside it -/

theorem edge_congr {C C' : Nat → Nat → Nat} {thr : Int} {a b a' b' : Nat} (h : C a b = C' a' b') :
    edge C thr a b = edge C' thr a' b' := by
  simp only [edge, h]

theorem rtg_lift {α β : Type} {r : α → α → Prop} {p : β → β → Prop} (f : α → β)
    (h : ∀ a b, r a b → p (f a) (f b)) {a b : α} (hab : Relation.ReflTransGen r a b) :
    Relation.ReflTransGen p (f a) (f b) := by
  induction hab with
  | refl => exact Relation.ReflTransGen.refl
  | tail _ hbc ih => exact Relation.ReflTransGen.tail ih (h _ _ hbc)

/-- a walk from `i` to `j`, with `j` reaching back to `i`, only visits states mutually reachable
    with `i`, and only uses edges between such states -/
theorem reach_restrict {e : Nat → Nat → Bool} {i j : Nat} (h1 : Reach n e i j) (h2 : Reach n e j i) :
    Relation.ReflTransGen (fun a b => Edge n e a b ∧ MutReach n e i a ∧ MutReach n e i b) i j := by
  induction h1 with
  | refl => exact Relation.ReflTransGen.refl
  | @tail b c hib hbc ih =>
    have hbi : Reach n e b i := Relation.ReflTransGen.head hbc h2
    have hic : Reach n e i c := Relation.ReflTransGen.tail hib hbc
    exact Relation.ReflTransGen.tail (ih hbi) ⟨hbc, ⟨hib, hbi⟩, ⟨hic, h2⟩⟩

/-- kept states are pairwise mutually reachable through kept states only -/
theorem keep_restricted_reach (v : Valid n (edge C thr) labels nsub) {i j : Nat}
    (hi : i ∈ keepStates C n labels nsub) (hj : j ∈ keepStates C n labels nsub) :
    Relation.ReflTransGen (fun a b => Edge n (edge C thr) a b ∧
      a ∈ keepStates C n labels nsub ∧ b ∈ keepStates C n labels nsub) i j := by
  have hin := (mem_members.1 hi).1
  have hS := keepStates_eq_sccOf v hi
  have hmr : MutReach n (edge C thr) i j := by
    rw [hS] at hj; exact ((mem_sccOf hin).1 hj).2
  refine rtg_lift id ?_ (reach_restrict hmr.1 hmr.2)
  rintro a b ⟨hab, ha, hb⟩
  refine ⟨hab, ?_, ?_⟩
  · rw [hS]; exact (mem_sccOf hin).2 ⟨hab.1, ha⟩
  · rw [hS]; exact (mem_sccOf hin).2 ⟨hab.2.1, hb⟩

theorem inplace_strongly_connected (v : Valid n (edge C thr) labels nsub) {r : Result}
    (h : trimDisconnected C n labels nsub false = .ok r) {i j : Nat}
    (hi : i ∈ r.keep) (hj : j ∈ r.keep) : Reach n (edge r.entry thr) i j := by
  have hk := (trim_inv_inplace h).2.1
  rw [hk] at hi hj
  refine rtg_lift id ?_ (keep_restricted_reach v hi hj)
  rintro a b ⟨⟨ha, hb, hab⟩, hak, hbk⟩
  refine ⟨ha, hb, ?_⟩
  rw [← hk] at hak hbk
  simp only [id]
  rw [edge_congr (inplace_entry_in h hak hbk)]; exact hab

theorem renumber_strongly_connected (v : Valid n (edge C thr) labels nsub) {r : Result}
    (h : trimDisconnected C n labels nsub true = .ok r) {a b : Nat}
    (ha : a < r.keep.length) (hb : b < r.keep.length) :
    Reach r.keep.length (edge r.entry thr) a b := by
  have hk := (trim_inv_renumber h).2.1
  have hnd : r.keep.Nodup := by
    rw [hk]; exact (members_pairwise _ _ _).imp (fun h => Nat.ne_of_lt h)
  have hma : r.keep[a] ∈ keepStates C n labels nsub := hk ▸ List.getElem_mem ha
  have hmb : r.keep[b] ∈ keepStates C n labels nsub := hk ▸ List.getElem_mem hb
  have key := rtg_lift (p := Edge r.keep.length (edge r.entry thr))
    (fun x => r.keep.idxOf x) ?_ (keep_restricted_reach v hma hmb)
  · unfold Reach; simpa [hnd.idxOf_getElem] using key
  · rintro x y ⟨⟨_, _, hxy⟩, hxk, hyk⟩
    rw [← hk] at hxk hyk
    have hx := List.idxOf_lt_length_of_mem hxk
    have hy := List.idxOf_lt_length_of_mem hyk
    refine ⟨hx, hy, ?_⟩
    rw [edge_congr (C' := C) (a' := x) (b' := y)
      (by rw [renumber_entry h hx hy, List.getElem_idxOf, List.getElem_idxOf])]
    exact hxy

/-- removed states carry no edge at all in the in-place result -/
theorem inplace_no_edge_out {r : Result} (h : trimDisconnected C n labels nsub false = .ok r)
    {i j : Nat} (hi : i < n) (hj : j < n) (hout : i ∉ r.keep ∨ j ∉ r.keep) :
    edge r.entry thr i j = false := by
  simp [edge, inplace_entry_out h hi hj hout]

end

/-! ### dictionaries and the mapping -/

theorem dictInsert_fresh {d : List (Nat × Nat)} {k v : Nat} (h : k ∉ d.map Prod.fst) :
    dictInsert d k v = d ++ [(k, v)] := by
  unfold dictInsert
  have : d.any (fun p => p.1 == k) = false := by
    rw [Bool.eq_false_iff]; intro hh
    simp only [List.any_eq_true, beq_iff_eq] at hh
    obtain ⟨p, hp, rfl⟩ := hh
    exact h (List.mem_map.2 ⟨p, hp, rfl⟩)
  simp [this]

theorem foldl_dictInsert_nodup (l : List (Nat × Nat)) :
    ∀ acc : List (Nat × Nat), ((acc ++ l).map Prod.fst).Nodup →
      l.foldl (fun d p => dictInsert d p.1 p.2) acc = acc ++ l := by
  induction l with
  | nil => intro acc _; simp
  | cons p l ih =>
    intro acc h
    have hfresh : p.1 ∉ acc.map Prod.fst := by
      simp only [List.map_append, List.map_cons, List.nodup_append, List.nodup_cons] at h
      intro hh
      exact h.2.2 _ hh _ (List.mem_cons_self) rfl
    rw [List.foldl_cons, dictInsert_fresh hfresh, ih]
    · simp
    · simpa using h

/-- a list of pairs with distinct keys is its own dict -/
theorem dictOf_nodup {l : List (Nat × Nat)} (h : (l.map Prod.fst).Nodup) : dictOf l = l := by
  unfold dictOf
  rw [foldl_dictInsert_nodup l [] (by simpa using h)]; simp

theorem dictGet_iff {l : List (Nat × Nat)} (h : (l.map Prod.fst).Nodup) (k v : Nat) :
    dictGet l k = some v ↔ (k, v) ∈ l :=
  lookup_eq_some_iff h k v

theorem swap_swap (p : Nat × Nat) : swap (swap p) = p := rfl

theorem map_swap_swap (l : List (Nat × Nat)) : (l.map swap).map swap = l := by
  simp [List.map_map, Function.comp_def, swap_swap]

theorem mem_map_swap {l : List (Nat × Nat)} {a b : Nat} : (a, b) ∈ l.map swap ↔ (b, a) ∈ l := by
  simp only [List.mem_map]
  constructor
  · rintro ⟨p, hp, h⟩
    have : p = (b, a) := by
      cases p; simp only [swap, Prod.mk.injEq] at h; simp [h.1, h.2]
    exact this ▸ hp
  · intro h; exact ⟨(b, a), h, rfl⟩

theorem map_fst_map_swap (l : List (Nat × Nat)) : (l.map swap).map Prod.fst = l.map Prod.snd := by
  simp [List.map_map, Function.comp_def, swap]

theorem map_snd_map_swap (l : List (Nat × Nat)) : (l.map swap).map Prod.snd = l.map Prod.fst := by
  simp [List.map_map, Function.comp_def, swap]

/-- a mapping built from pairs that are injective in both directions -/
theorem ofTransformations_lookup {ts : List (Nat × Nat)} (h1 : (ts.map Prod.fst).Nodup)
    (h2 : (ts.map Prod.snd).Nodup) :
    (TrimMapping.ofTransformations ts).toOriginal = ts.map swap ∧
    (TrimMapping.ofTransformations ts).toMapped = ts ∧
    (∀ t o, (TrimMapping.ofTransformations ts).originalOf t = some o ↔ (o, t) ∈ ts) ∧
    (∀ o t, (TrimMapping.ofTransformations ts).mappedOf o = some t ↔ (o, t) ∈ ts) := by
  have hk : ((ts.map swap).map Prod.fst).Nodup := by rw [map_fst_map_swap]; exact h2
  have e1 : (TrimMapping.ofTransformations ts).toOriginal = ts.map swap := by
    simp only [TrimMapping.ofTransformations]; exact dictOf_nodup hk
  have e2 : (TrimMapping.ofTransformations ts).toMapped = ts := by
    simp only [TrimMapping.toMapped, e1, map_swap_swap]; exact dictOf_nodup h1
  refine ⟨e1, e2, ?_, ?_⟩
  · intro t o
    simp only [TrimMapping.originalOf, e1]
    rw [dictGet_iff hk, mem_map_swap]
  · intro o t
    simp only [TrimMapping.mappedOf, e2]
    rw [dictGet_iff h1]

theorem mem_zip_range {l : List Nat} {o t : Nat} :
    (o, t) ∈ l.zip (List.range l.length) ↔ l[t]? = some o := by
  rw [List.range_eq_range', ← List.zipIdx_eq_zip_range', List.mem_zipIdx_iff_getElem?]

section keep
variable {l m : List Nat} (hp : l.Pairwise (· < ·)) (hm : m.Nodup) (hlen : m.length = l.length)
include hp hm hlen

/-- `keep` zipped with the new ids (`range |keep|` when renumbering, `keep` itself in place) -/
theorem zip_keys : ((l.zip m).map Prod.fst).Pairwise (· < ·) ∧ ((l.zip m).map Prod.snd).Nodup := by
  rw [List.map_fst_zip (Nat.le_of_eq hlen.symm), List.map_snd_zip (Nat.le_of_eq hlen)]
  exact ⟨hp, hm⟩

theorem zip_lookup :
    (∀ t o, (TrimMapping.ofTransformations (l.zip m)).originalOf t = some o ↔ (o, t) ∈ l.zip m) ∧
    (∀ o t, (TrimMapping.ofTransformations (l.zip m)).mappedOf o = some t ↔ (o, t) ∈ l.zip m) := by
  obtain ⟨h1, h2⟩ := zip_keys hp hm hlen
  exact (ofTransformations_lookup (h1.imp Nat.ne_of_lt) h2).2.2

end keep

end Ens.Trim
