import Proofs.C12Step

/-! Any predicate kept by both kinds of step is kept by a sweep, by `sweepsN` and by the loop
(`sweep_gen`, `sweepsN_gen`, `loop_gen`); `Inv` is such a predicate (`sweep_inv`), and `init`
establishes it (`init_spec`, `init_inv`). -/

set_option linter.unusedSectionVars false

namespace Ens.C12P
open Ens Ens.Mle

variable {K : Type} [Field K] [LinearOrder K] [IsStrictOrderedRing K] {n : Nat}

variable {sqrt log : K → K} {C : Mat K n} {Crs : Vec K n} {st : St K n}

theorem mem_pairs {n : Nat} {p : Fin n × Fin n} : p ∈ pairs n ↔ p.1 < p.2 := by
  unfold pairs
  simp only [List.mem_flatMap, List.mem_map, List.mem_filter, List.mem_finRange, true_and,
    decide_eq_true_eq]
  exact ⟨fun ⟨i, j, hij, e⟩ => e ▸ hij, fun h => ⟨p.1, p.2, h, rfl⟩⟩

/-- `diagPhase` over an arbitrary list of states (the model's list is `List.finRange n`) -/
def diagPhaseOn (log : K → K) (C : Mat K n) (Crs : Vec K n) (l : List (Fin n))
    (p : St K n × K) : St K n × K :=
  l.foldl (fun p i =>
    let st' := diagStep C Crs p.1 i
    (st', diagLogl log C st' i p.2)) p

theorem diagPhaseOn_cons (log : K → K) (C : Mat K n) (Crs : Vec K n) (i : Fin n)
    (l : List (Fin n)) (p : St K n × K) :
    diagPhaseOn log C Crs (i :: l) p
      = diagPhaseOn log C Crs l
          (diagStep C Crs p.1 i, diagLogl log C (diagStep C Crs p.1 i) i p.2) := rfl

section generic
variable (I : St K n → Prop)

theorem diagPhaseOn_gen (hdiag : ∀ st i, I st → I (diagStep C Crs st i))
    (l : List (Fin n)) (p : St K n × K) (h : I p.1) : I (diagPhaseOn log C Crs l p).1 := by
  induction l generalizing p with
  | nil => exact h
  | cons i rest ih => exact ih _ (hdiag _ i h)

theorem pairPhaseOn_gen
    (hpair : ∀ st i j, I st → i < j → ∃ st', pairStep sqrt C Crs st i j = .ok st' ∧ I st')
    (l : List (Fin n × Fin n)) (hl : ∀ p ∈ l, p.1 < p.2)
    (p : St K n × K) (h : I p.1) :
    ∃ q, pairPhaseOn sqrt log C Crs l p = .ok q ∧ I q.1 := by
  induction l generalizing p with
  | nil => exact ⟨p, rfl, h⟩
  | cons ij rest ih =>
    obtain ⟨i, j⟩ := ij
    obtain ⟨st', hok, hinv⟩ := hpair p.1 i j h (hl (i, j) List.mem_cons_self)
    simp only [pairPhaseOn, hok]
    exact ih (fun p hp => hl p (List.mem_cons_of_mem _ hp)) _ hinv

theorem sweep_gen (hdiag : ∀ st i, I st → I (diagStep C Crs st i))
    (hpair : ∀ st i j, I st → i < j → ∃ st', pairStep sqrt C Crs st i j = .ok st' ∧ I st')
    (h : I st) :
    ∃ q, sweep sqrt log C Crs st = .ok q ∧ I q.1 :=
  pairPhaseOn_gen I hpair _ (fun _ hp => mem_pairs.1 hp) _ (diagPhaseOn_gen I hdiag _ (st, 0) h)

theorem sweep_of_steps_fixed (hdiag : ∀ i, diagStep C Crs st i = st)
    (hpair : ∀ i j, i < j → pairStep sqrt C Crs st i j = .ok st) :
    ∃ l, sweep sqrt log C Crs st = .ok (st, l) := by
  obtain ⟨⟨s', l⟩, h1, h2⟩ := sweep_gen (sqrt := sqrt) (log := log) (C := C) (Crs := Crs)
    (· = st) (fun _ i h => h ▸ hdiag i) (fun _ i j h hij => ⟨st, h ▸ hpair i j hij, rfl⟩)
    (st := st) rfl
  exact ⟨l, by rw [h1, show s' = st from h2]⟩

variable (hsweep : ∀ st, I st → ∃ q, sweep sqrt log C Crs st = .ok q ∧ I q.1)
include hsweep

theorem sweepsN_gen (k : Nat) (h : I st) :
    ∃ st', sweepsN sqrt log C Crs k st = .ok st' ∧ I st' := by
  induction k generalizing st with
  | zero => exact ⟨st, rfl, h⟩
  | succ k ih =>
    obtain ⟨⟨st', logl⟩, hq, hinv⟩ := hsweep st h
    simp only [sweepsN, hq]
    exact ih hinv

/-- the counter returned is that of the last sweep, at most `k + fuel - 1` -/
theorem loop_gen (tol : K) (fuel k : Nat) (st : St K n) (old : K) (h : I st) :
    ∃ st' k', loop sqrt log tol C Crs fuel k st old = .ok (st', k') ∧ I st' ∧
      k' + 1 ≤ k + max fuel 1 := by
  induction fuel generalizing k st old with
  | zero => exact ⟨st, k, rfl, h, Nat.le_refl _⟩
  | succ fuel ih =>
    obtain ⟨⟨st', logl⟩, hq, hinv⟩ := hsweep st h
    simp only [loop, hq]
    by_cases hc : tol < absV (logl - old)
    · simp only [hc, if_true]
      by_cases hf : fuel = 0
      · subst hf
        exact ⟨st', k, if_pos rfl, hinv, Nat.le_refl _⟩
      · simp only [hf, if_false]
        obtain ⟨st'', k', h1, h2, h3⟩ := ih (k + 1) st' logl hinv
        exact ⟨st'', k', h1, h2, by omega⟩
    · simp only [hc, if_false]
      exact ⟨st', k, rfl, hinv, Nat.add_le_add_left (le_max_right _ _) k⟩

end generic

/-- `sweep_invariants`, one sweep: no assertion fires and the invariant is kept -/
theorem sweep_inv {sqrt log : K → K} (hs : SqrtSpec sqrt) {C : Mat K n} {Crs : Vec K n}
    (hD : Data C Crs) {st : St K n} (h : Inv st) :
    ∃ q, sweep sqrt log C Crs st = .ok q ∧ Inv q.1 :=
  sweep_gen Inv (fun _ i h => diagStep_inv hD h i)
    (fun _ i j h hij => ⟨_, pairStep_ok hD h i j, setPair_inv h hij.ne (newV_nonneg hs hD h i j)⟩) h

theorem init_spec {st0 : St K n} (h : init C = .ok (Crs, st0)) :
    (∀ i j, mget st0.X i j = mget C i j + mget C j i) ∧
    (∀ i, vget st0.rs i = ∑ j, mget st0.X i j) ∧ (∀ i, vget Crs i = ∑ j, mget C i j) ∧
    (∀ i, 0 < vget st0.rs i) ∧ (∀ i, 0 < vget Crs i) := by
  unfold init at h
  dsimp only at h
  split at h
  · rename_i hcond
    injection h with h
    injection h with h1 h2
    subst h1; subst h2
    simp only [Bool.and_eq_true, List.all_eq_true, List.mem_finRange, decide_eq_true_eq,
      true_imp_iff] at hcond
    exact ⟨fun i j => mget_ofFn _ i j, fun i => by rw [vget_ofFn, rowSumF_eq],
      fun i => by rw [vget_ofFn, rowSumF_eq], hcond.1, hcond.2⟩
  · cases h

theorem init_inv (hC : ∀ i j, 0 ≤ mget C i j) {st0 : St K n} (h : init C = .ok (Crs, st0)) :
    Data C Crs ∧ Inv st0 ∧ (∀ i, 0 < vget st0.rs i) := by
  obtain ⟨hX, hrs, hcrs, h1, _⟩ := init_spec h
  refine ⟨⟨hC, hcrs⟩, ⟨fun i j => ?_, fun i j => ?_, hrs⟩, h1⟩
  · rw [hX, hX, add_comm]
  · rw [hX]; exact add_nonneg (hC i j) (hC j i)

theorem init_ok (h1 : ∀ i, 0 < ∑ j, (mget C i j + mget C j i)) (h2 : ∀ i, 0 < ∑ j, mget C i j) :
    ∃ Crs st0, init C = .ok (Crs, st0) := by
  unfold init
  dsimp only
  rw [if_pos]
  · exact ⟨_, _, rfl⟩
  · simp only [Bool.and_eq_true, List.all_eq_true, List.mem_finRange, decide_eq_true_eq,
      true_imp_iff, vget_ofFn, rowSumF_eq, mget_ofFn]
    exact ⟨h1, h2⟩

end Ens.C12P
