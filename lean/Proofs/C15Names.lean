import Model.Store
/-!
C15, part 1: zero-padded node names sort in row order.

`str(i).zfill(w)` for `i < nrows`, `w = len(str(nrows)) + 1`, is a list of exactly `w` decimal
digit characters whose value is `i`; on equal-length digit strings the lexicographic order on
code points is the numeric order.  Core Lean only.
-/
namespace Ens.Store

open Nat (ofDigitChars toDigits)

/-- value of a digit string -/
def dval (l : List Char) : Nat := ofDigitChars 10 l 0

def AllDigits (l : List Char) : Prop := ∀ c ∈ l, c.isDigit = true

theorem isDigit_iff (c : Char) : c.isDigit = true ↔ 48 ≤ c.toNat ∧ c.toNat ≤ 57 := by
  simp only [Char.isDigit, Bool.and_eq_true, decide_eq_true_eq, Char.toNat, UInt32.le_iff_toNat_le]
  constructor <;> intro h <;> exact ⟨by simpa using h.1, by simpa using h.2⟩

theorem char_lt_iff (a b : Char) : a < b ↔ a.toNat < b.toNat := by
  simp only [Char.lt_def, Char.toNat, UInt32.lt_iff_toNat_lt]

theorem digit_eq_of_val_eq {x y : Char} (hx : 48 ≤ x.toNat) (hy : 48 ≤ y.toNat)
    (h : x.toNat - 48 = y.toNat - 48) : x = y :=
  Char.ext (UInt32.toNat_inj.mp (show x.toNat = y.toNat by omega))

theorem allDigits_pyStr (n : Nat) : AllDigits (pyStr n) := fun _ hc =>
  Nat.isDigit_of_mem_toDigits (by decide) (by decide) hc

theorem dval_pyStr (n : Nat) : dval (pyStr n) = n := Nat.ofDigitChars_ten_toDigits

theorem dval_cons (c : Char) (l : List Char) :
    dval (c :: l) = 10 ^ l.length * (c.toNat - 48) + dval l := by
  unfold dval
  rw [Nat.ofDigitChars_cons, Nat.ofDigitChars_eq_ofDigitChars_zero]
  simp

theorem dval_lt_pow : ∀ (l : List Char), AllDigits l → dval l < 10 ^ l.length
  | [], _ => by simp [dval]
  | c :: l, h => by
    have hc := ((isDigit_iff c).mp (h c List.mem_cons_self)).2
    have ih := dval_lt_pow l fun d hd => h d (List.mem_cons_of_mem c hd)
    rw [dval_cons, List.length_cons, Nat.pow_succ, Nat.mul_succ]
    exact Nat.add_lt_add_of_le_of_lt (Nat.mul_le_mul_left _ (Nat.sub_le_of_le_add hc)) ih

/-- the leading digits decide, then the remainders -/
theorem place_lt {p x y a b : Nat} (hb : b < p) (h : p * x + a < p * y + b) : x < y ∨ (x = y ∧ a < b) := by
  rcases Nat.lt_trichotomy x y with hlt | heq | hgt
  · exact .inl hlt
  · subst heq; exact .inr ⟨rfl, by omega⟩
  · have := Nat.mul_le_mul_left p (Nat.succ_le_of_lt hgt)
    rw [Nat.mul_succ] at this
    omega

/-- equal-length digit strings: smaller value ⇒ lexicographically smaller -/
theorem lex_of_dval_lt : ∀ (a b : List Char), AllDigits a → AllDigits b → a.length = b.length →
    dval a < dval b → a < b
  | [], [], _, _, _, h => absurd h (Nat.lt_irrefl _)
  | [], _ :: _, _, _, h, _ => nomatch h
  | _ :: _, [], _, _, h, _ => nomatch h
  | x :: as, y :: bs, ha, hb, hlen, h => by
    have hx := ((isDigit_iff x).mp (ha x List.mem_cons_self)).1
    have hy := ((isDigit_iff y).mp (hb y List.mem_cons_self)).1
    have ha' : AllDigits as := fun d hd => ha d (List.mem_cons_of_mem x hd)
    have hb' : AllDigits bs := fun d hd => hb d (List.mem_cons_of_mem y hd)
    have hl : as.length = bs.length := Nat.succ.inj hlen
    rw [dval_cons, dval_cons, hl] at h
    rw [List.cons_lt_cons_iff]
    rcases place_lt (dval_lt_pow bs hb') h with hlt | ⟨heq, hlt⟩
    · exact .inl ((char_lt_iff x y).mpr ((Nat.sub_lt_sub_iff_right hx).mp hlt))
    · exact .inr ⟨digit_eq_of_val_eq hx hy heq, lex_of_dval_lt as bs ha' hb' hl hlt⟩

theorem length_pyStr_mono {i n : Nat} (h : i ≤ n) : (pyStr i).length ≤ (pyStr n).length := by
  unfold pyStr
  have hpos : 0 < (toDigits 10 n).length := Nat.length_toDigits_pos
  have hn : n < 10 ^ (toDigits 10 n).length :=
    (Nat.length_toDigits_le_iff (by decide) hpos).mp (Nat.le_refl _)
  exact (Nat.length_toDigits_le_iff (by decide) hpos).mpr (by omega)

theorem length_zfill (w : Nat) (s : List Char) (h : s.length ≤ w) : (zfill w s).length = w := by
  rw [zfill, List.length_append, List.length_replicate, Nat.sub_add_cancel h]

theorem allDigits_zfill (w : Nat) (s : List Char) (h : AllDigits s) : AllDigits (zfill w s) := by
  intro c hc
  simp only [zfill, List.mem_append, List.mem_replicate] at hc
  rcases hc with ⟨_, rfl⟩ | hc
  · decide
  · exact h c hc

theorem dval_zfill (w : Nat) (s : List Char) : dval (zfill w s) = dval s := by
  simp [dval, zfill, Nat.ofDigitChars_append]

/-- the padded index of a row is `w` digits long, `w = nZeros nrows` -/
theorem length_padded {i nrows : Nat} (h : i < nrows) :
    (zfill (nZeros nrows) (pyStr i)).length = nZeros nrows := by
  apply length_zfill
  have := length_pyStr_mono (Nat.le_of_lt h)
  unfold nZeros; omega

theorem keyName_lt_of_lt (tag : Name) {i j nrows : Nat} (hj : j < nrows) (hij : i < j) :
    keyName tag i nrows < keyName tag j nrows := by
  unfold keyName keyNameW
  apply List.append_left_lt
  rw [List.cons_lt_cons_iff]
  right
  refine ⟨rfl, ?_⟩
  apply lex_of_dval_lt
  · exact allDigits_zfill _ _ (allDigits_pyStr i)
  · exact allDigits_zfill _ _ (allDigits_pyStr j)
  · rw [length_padded (Nat.lt_trans hij hj), length_padded hj]
  · rw [dval_zfill, dval_zfill, dval_pyStr, dval_pyStr]; exact hij

/-- **zfill order**: among the rows of one array, names compare as the row numbers do. -/
theorem keyName_lt_iff (tag : Name) {i j nrows : Nat} (hi : i < nrows) (hj : j < nrows) :
    keyName tag i nrows < keyName tag j nrows ↔ i < j := by
  constructor
  · intro h
    rcases Nat.lt_trichotomy i j with hlt | heq | hgt
    · exact hlt
    · subst heq; exact absurd h (List.lt_irrefl _)
    · exact absurd h (List.lt_asymm (keyName_lt_of_lt tag hi hgt))
  · exact keyName_lt_of_lt tag hj

theorem keyName_injective (tag : Name) {i j nrows : Nat} (hi : i < nrows) (hj : j < nrows)
    (h : keyName tag i nrows = keyName tag j nrows) : i = j := by
  rcases Nat.lt_trichotomy i j with hlt | heq | hgt
  · have := keyName_lt_of_lt tag hj hlt
    rw [h] at this; exact absurd this (List.lt_irrefl _)
  · exact heq
  · have := keyName_lt_of_lt tag hi hgt
    rw [h] at this; exact absurd this (List.lt_irrefl _)

/-- the names `save` creates, in creation order -/
def rowNames (tag : Name) (nrows : Nat) : List Name := (List.range nrows).map fun i => keyName tag i nrows

theorem rowNames_pairwise_lt (tag : Name) (nrows : Nat) : (rowNames tag nrows).Pairwise (· < ·) := by
  unfold rowNames
  rw [List.pairwise_map]
  have h : (List.range nrows).Pairwise (· < ·) := List.pairwise_lt_range
  refine List.Pairwise.imp_of_mem ?_ h
  intro a b _ hb hab
  exact keyName_lt_of_lt tag (List.mem_range.mp hb) hab

theorem rowNames_nodup (tag : Name) (nrows : Nat) : (rowNames tag nrows).Nodup := by
  refine (rowNames_pairwise_lt tag nrows).imp ?_
  intro a b hab heq
  subst heq
  exact List.lt_irrefl _ hab

theorem name_le_trans (a b c : Name) : decide (a ≤ b) = true → decide (b ≤ c) = true → decide (a ≤ c) = true := by
  simp only [decide_eq_true_eq]
  exact List.le_trans

theorem name_le_total (a b : Name) : (decide (a ≤ b) || decide (b ≤ a)) = true := by
  simp only [Bool.or_eq_true, decide_eq_true_eq]
  exact List.le_total a b

/-- a strictly increasing list of names is the unique sorted arrangement of its elements -/
theorem listNodes_of_perm_sorted {l t : List Name} (ht : t.Pairwise (· < ·)) (hp : l.Perm t) :
    listNodes l = t := by
  unfold listNodes
  have hs := List.pairwise_mergeSort (le := fun a b => decide (a ≤ b)) name_le_trans name_le_total l
  have ht' : t.Pairwise (fun a b => decide (a ≤ b) = true) := by
    refine ht.imp ?_
    intro a b hab
    simp only [decide_eq_true_eq]
    exact List.le_of_lt hab
  refine List.Perm.eq_of_pairwise (le := fun a b => decide (a ≤ b) = true) ?_ hs ht' ((List.mergeSort_perm l _).trans hp)
  intro a b _ _ hab hba
  simp only [decide_eq_true_eq] at hab hba
  exact List.le_antisymm hab hba

/-- **listed order is row order**: whatever order the nodes are stored in, listing them
returns `key 0, key 1, …, key (nrows-1)`. -/
theorem listNodes_rowNames (tag : Name) (nrows : Nat) (l : List Name) (hp : l.Perm (rowNames tag nrows)) :
    listNodes l = rowNames tag nrows :=
  listNodes_of_perm_sorted (rowNames_pairwise_lt tag nrows) hp

end Ens.Store
