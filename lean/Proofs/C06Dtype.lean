import Proofs.C06AsIs
/-!
The `objDtype` flag (and `data`, `lengths`) that each constructor path of the model stores, as `AllOk` facts;
from them `dtype_stable`: with the row-view repair no operation raises the flag (C06).
-/
namespace Ens.RaggedW
variable {α : Type}

theorem initRows_obj (rows : Rows α) (obj : Bool) : AllOk (·.objDtype = obj) (initRows rows obj) := by
  unfold initRows
  cases rows with
  | nil => trivial
  | cons r rs =>
    simp only []
    cases partitionList (r :: rs).flatten ((r :: rs).map List.length) <;> trivial

theorem rebuild_obj (d : List α) (ls : List Nat) (obj : Bool) :
    AllOk (·.objDtype = obj) (rebuild d ls obj) := by
  unfold rebuild
  cases partitionList d ls <;> trivial

theorem initFlat_fields (cfg : Cfg) (d : List α) (ls : List Nat) (np obj : Bool) :
    AllOk (fun s' => s'.data = d ∧ s'.lengths = ls ∧ s'.objDtype = obj) (initFlat cfg d ls np obj) := by
  unfold initFlat
  have hp : AllOk (fun (s' : State α) => s'.data = d ∧ s'.lengths = ls ∧ s'.objDtype = obj)
      (match partitionList d ls with
        | .ok arr => .ok ⟨d, ls, arr, np, obj⟩
        | .error e => .error e) := by
    cases partitionList d ls with
    | error e => trivial
    | ok arr => exact ⟨rfl, rfl, rfl⟩
  refine allOk_ite trivial ?_
  cases ls with
  | nil => exact allOk_ite hp trivial
  | cons l0 ls =>
    exact allOk_ite
      (allOk_ite (allOk_ite ⟨rfl, rfl, rfl⟩ trivial) (allOk_ite trivial (allOk_ite ⟨rfl, rfl, rfl⟩ trivial)))
      hp

theorem mapOp_fields {β : Type} (cfg : Cfg) (f : α → β) (s : State α) :
    AllOk (fun b => b.data = s.data.map f ∧ b.lengths = s.lengths ∧ b.objDtype = s.objDtype)
      (mapOp cfg f s) :=
  initFlat_fields ..

theorem zipOp_obj {β γ : Type} (cfg : Cfg) (g : α → β → γ) (s : State α) (o : List β) :
    AllOk (·.objDtype = s.objDtype) (zipOp cfg g s o) := by
  have hi : ∀ d : List γ, AllOk (·.objDtype = s.objDtype) (initFlat cfg d s.lengths true s.objDtype) :=
    fun d => (initFlat_fields cfg d s.lengths true s.objDtype).imp fun _ h => h.2.2
  unfold zipOp
  refine allOk_ite (hi _) ?_
  split <;> first | exact hi _ | trivial

theorem scatterWrite_obj (cfg : Cfg) (s : State α) (iis : List (Int × Int)) (v : Val α) :
    AllOk (·.objDtype = s.objDtype) (scatterWrite cfg s iis v) := by
  unfold scatterWrite
  cases convertFrom2d s.lengths iis with
  | error e => trivial
  | ok flat =>
    simp only []
    cases v.resolve cfg flat.length with
    | error e => trivial
    | ok vals => exact rebuild_obj ..

/-- with the row-view repair the public dtype never degrades to `object`: the flag of every state an
operation builds is that of the old state, `leak`, `leakVal` or `false` -/
theorem dtype_stable (cfg : Cfg) (hfix : cfg.rowViewsFix = true) (s s' : State α) (o : Option (State α))
    (op : Op α) (h0 : s.objDtype = false) (hstep : step cfg s op = .ok (s', o)) : s'.objDtype = false := by
  have hleak : leak cfg s = false := by
    simp only [leak, h0, hfix, Bool.not_true, Bool.false_and, Bool.or_self]
  have hlv : ∀ form (vs : List (List α)), leakVal cfg form vs = false := fun form vs => by
    simp only [leakVal, hfix, Bool.not_true, Bool.false_and]
  refine AllOk.of_eq (Q := fun p => p.1.objDtype = false) ?_ hstep
  clear hstep
  cases op <;> dsimp only [step]
  case setElem | set2d | setPaired | setMask =>
    all_goals (repeat' split) <;> first | trivial | exact ((scatterWrite_obj ..).of_eq ‹_›).trans h0
  case viewWrite => (repeat' split) <;> first | trivial | exact h0
  case setRow | setIntSlice =>
    all_goals (repeat' split) <;> first | trivial | exact ((initRows_obj ..).of_eq ‹_›).trans hleak
  case setRows =>
    split
    · trivial
    · unfold setRowsWith
      (repeat' split) <;> first
        | trivial
        | exact ((initRows_obj ..).of_eq ‹_›).trans (by rw [hleak, hlv]; rfl)
  case append =>
    (repeat' split) <;> first
      | trivial
      | exact ((initRows_obj ..).of_eq ‹_›).trans (hlv ..)
      | exact ((rebuild_obj ..).of_eq ‹_›).trans (by rw [h0, hlv]; rfl)
  case appendFlat | iopAt =>
    all_goals (repeat' split) <;> first
      | trivial
      | rfl
      | exact ((rebuild_obj ..).of_eq ‹_›).trans h0
  case npLeft => unfold npLeftStep; (repeat' split) <;> first
      | trivial
      | exact h0
      | exact ((mapOp_fields ..).of_eq ‹_›).2.2.trans h0
  case iop | binop =>
    all_goals (repeat' split) <;> first
      | trivial
      | exact h0
      | exact ((mapOp_fields ..).of_eq ‹_›).2.2.trans h0
  case iop2 | binop2 =>
    all_goals (repeat' split) <;> first
      | trivial
      | exact h0
      | exact ((zipOp_obj ..).of_eq ‹_›).trans h0
  case copyCtor =>
    (repeat' split) <;> first
      | trivial
      | exact ((initFlat_fields ..).of_eq ‹_›).2.2
      | exact (initRows_obj ..).of_eq ‹_›

end Ens.RaggedW
