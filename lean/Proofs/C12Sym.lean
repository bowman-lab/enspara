import Proofs.C12Final
import Mathlib.Analysis.Real.Sqrt
import Mathlib.Tactic.NormNum

/-! States that a sweep leaves unchanged from the very start: the loop returns them, whatever the
convergence test does.  Two uses: (i) a one-state chain `C = [[c]]` (outside `Conn`), (ii) a
symmetric count matrix, for which `init` is already a fixed point (non-vacuity of
`optimal_output`). -/

set_option linter.unusedSectionVars false

namespace Ens.C12P
open Ens Ens.Mle

variable {K : Type} [Field K] [LinearOrder K] [IsStrictOrderedRing K] {n : Nat}

theorem run_of_fixed_init {P : Params K} (hmax : 0 < P.maxIter) {C : Mat K n} {Crs : Vec K n}
    {st0 : St K n} (hinit : init C = .ok (Crs, st0))
    (hfix : ∃ l, sweep P.sqrt P.log C Crs st0 = .ok (st0, l)) :
    ∃ k, k + 1 ≤ P.maxIter ∧ run P C = finish P st0 k := by
  obtain ⟨l, hl⟩ := hfix
  obtain ⟨st, k, rfl, hk, hrun⟩ :=
    run_gen (· = st0) hmax hinit (fun st h => ⟨(st0, l), h ▸ hl, rfl⟩) rfl
  exact ⟨k, hk, hrun⟩

theorem sweep_one_state {sqrt log : K → K} {C : Mat K 1} {Crs : Vec K 1} (hD : Data C Crs)
    (st : St K 1) : ∃ l, sweep sqrt log C Crs st = .ok (st, l) := by
  refine sweep_of_steps_fixed (fun i => ?_)
    (fun i j hij => absurd hij (by rw [Subsingleton.elim i j]; exact lt_irrefl j))
  -- the only count is the self-count, so the diagonal step takes its `else` branch
  rw [diagStep_eq_self_iff, diagV, if_neg]
  rw [hD.crs i, Fin.sum_univ_one, Subsingleton.elim i 0, sub_self]
  exact lt_irrefl 0

/-- **One state** (`C = [[c]]`, `c > 0`; outside `Conn`): the estimator returns `T = [[1]]`,
`π = [1]`, when the `warnings.warn` call is not the swapped one. -/
theorem run_one_state {P : Params K} (hP : ParamsOK P) (hmax : 0 < P.maxIter)
    (hw : P.warnSwapped = false) {C : Mat K 1} (hc : 0 < mget C 0 0) :
    ∃ r, run P C = .ok r ∧ mget r.T 0 0 = 1 ∧ vget r.pi 0 = 1 := by
  have hC : ∀ i j : Fin 1, 0 ≤ mget C i j := fun i j => by
    rw [Subsingleton.elim i 0, Subsingleton.elim j 0]; exact hc.le
  obtain ⟨Crs, st0, hinit⟩ := init_ok (C := C)
    (fun i => by rw [Fin.sum_univ_one, Subsingleton.elim i 0]; exact add_pos hc hc)
    (fun i => by rw [Fin.sum_univ_one, Subsingleton.elim i 0]; exact hc)
  obtain ⟨hD, hinv, hrs⟩ := init_inv hC hinit
  obtain ⟨k, _, hrun⟩ := run_of_fixed_init hmax hinit (sweep_one_state hD st0)
  rcases finish_spec hP (by decide : 0 < 1) hinv hrs k with ⟨_, hw', _⟩ | ⟨_, r, hr, hv⟩
  · rw [hw] at hw'; cases hw'
  · -- with one state, "rows sum to one" and "`π` sums to one" are the two claims
    obtain ⟨a, _, c, _⟩ := valid_props (by decide) hinv hrs hv
    exact ⟨r, hrun ▸ hr, by rw [← a 0, Fin.sum_univ_one], by rw [← c, Fin.sum_univ_one]⟩

/-- the all-ones 2×2 count matrix (symmetric) -/
def sym2 : Mat ℝ 2 := Vector.ofFn fun _ => Vector.ofFn fun _ => 1

theorem sym2_get (i j : Fin 2) : mget sym2 i j = 1 := mget_ofFn _ i j

theorem sqrt_64 : Real.sqrt 64 = 8 := by
  rw [show (64 : ℝ) = 8 ^ 2 by norm_num]
  exact Real.sqrt_sq (by norm_num)

theorem sym2_fixed (log : ℝ → ℝ) {Crs : Vec ℝ 2} {st0 : St ℝ 2}
    (hinit : init sym2 = .ok (Crs, st0)) :
    ∃ l, sweep Real.sqrt log sym2 Crs st0 = .ok (st0, l) := by
  obtain ⟨hD, hinv, _⟩ := init_inv (fun i j => by rw [sym2_get]; norm_num) hinit
  obtain ⟨hX, hrs, hcrs, _, _⟩ := init_spec hinit
  have eX : ∀ i j, mget st0.X i j = 2 := fun i j => by rw [hX, sym2_get, sym2_get]; norm_num
  have ers : ∀ i, vget st0.rs i = 4 := fun i => by
    rw [hrs, Fin.sum_univ_two, eX, eX]; norm_num
  have ecrs : ∀ i, vget Crs i = 2 := fun i => by
    rw [hcrs, Fin.sum_univ_two, sym2_get, sym2_get]; norm_num
  refine sweep_of_steps_fixed (fun i => ?_) (fun i j hij => pairStep_eq_self hD hinv hij.ne ?_)
  · rw [diagStep_eq_self_iff, diagV]
    simp only [ecrs, ers, eX, sym2_get]
    norm_num
  · -- `a = 2`, `b = 0`, `c = -8`, `v = √64 / 4 = 2`
    unfold newV coefA coefB coefC
    simp only [ecrs, ers, eX, sym2_get]
    norm_num
    rw [sqrt_64]; norm_num

end Ens.C12P
