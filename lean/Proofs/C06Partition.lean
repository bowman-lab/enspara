import Model.RaggedW
/-!
Representation lemmas for C06: `partition` / `flatten` / `startOf`, cell updates and scatter on the rows against
the flat data, `Coherent`, and the two constructors on consistent input (`initRows_eq`, `rebuild_eq`).
-/
namespace Ens.RaggedW
variable {α β γ : Type}

@[simp] theorem partition_nil (d : List α) : partition [] d = [] := rfl
@[simp] theorem partition_cons (l : Nat) (ls : List Nat) (d : List α) :
    partition (l :: ls) d = d.take l :: partition ls (d.drop l) := rfl

@[simp] theorem length_partition (ls : List Nat) (d : List α) : (partition ls d).length = ls.length := by
  induction ls generalizing d with
  | nil => rfl
  | cons l ls ih => simp [ih]

/-- `partition_list(np.concatenate(rows), [len(r) for r in rows]) == rows` -/
theorem partition_flatten (rows : List (List α)) :
    partition (rows.map List.length) rows.flatten = rows := by
  induction rows with
  | nil => rfl
  | cons r rows ih => simp [ih]

theorem flatten_partition (ls : List Nat) (d : List α) (h : ls.sum = d.length) :
    (partition ls d).flatten = d := by
  induction ls generalizing d with
  | nil => exact (List.eq_nil_of_length_eq_zero h.symm).symm
  | cons l ls ih =>
    rw [List.sum_cons] at h
    rw [partition_cons, List.flatten_cons, ih (d.drop l) (by rw [List.length_drop]; omega),
      List.take_append_drop]

theorem map_length_partition (ls : List Nat) (d : List α) (h : ls.sum = d.length) :
    (partition ls d).map List.length = ls := by
  induction ls generalizing d with
  | nil => rfl
  | cons l ls ih =>
    rw [List.sum_cons] at h
    rw [partition_cons, List.map_cons, List.length_take, ih (d.drop l) (by rw [List.length_drop]; omega),
      Nat.min_eq_left (Nat.le.intro h)]

theorem sum_map_length (rows : List (List α)) : (rows.map List.length).sum = rows.flatten.length := by
  simp [List.length_flatten]

theorem partition_append (l1 l2 : List Nat) (d1 d2 : List α) (h : l1.sum = d1.length) :
    partition (l1 ++ l2) (d1 ++ d2) = partition l1 d1 ++ partition l2 d2 := by
  induction l1 generalizing d1 with
  | nil => rw [List.eq_nil_of_length_eq_zero h.symm]; rfl
  | cons l ls ih =>
    rw [List.sum_cons] at h
    have hl : l ≤ d1.length := Nat.le.intro h
    rw [List.cons_append, partition_cons, partition_cons, List.take_append_of_le_length hl,
      List.drop_append_of_le_length hl, ih (d1.drop l) (by rw [List.length_drop]; omega), List.cons_append]

theorem partition_map (f : α → β) (ls : List Nat) (d : List α) :
    partition ls (d.map f) = (partition ls d).map (List.map f) := by
  induction ls generalizing d with
  | nil => rfl
  | cons l ls ih =>
    simp only [partition_cons, List.map_cons]
    rw [← List.map_drop, ← List.map_take, ih]

theorem partition_zipWith (g : α → β → γ) (ls : List Nat) (d : List α) (e : List β) :
    partition ls (List.zipWith g d e) =
      List.zipWith (List.zipWith g) (partition ls d) (partition ls e) := by
  induction ls generalizing d e with
  | nil => rfl
  | cons l ls ih => simp [List.take_zipWith, List.drop_zipWith, ih]

@[simp] theorem startOf_zero (ls : List Nat) : startOf ls 0 = 0 := by simp [startOf]
@[simp] theorem startOf_cons_succ (l : Nat) (ls : List Nat) (r : Nat) :
    startOf (l :: ls) (r + 1) = l + startOf ls r := by simp [startOf]

theorem startsFrom_getElem? (ls : List Nat) (acc r : Nat) (h : r < ls.length) :
    (startsFrom acc ls)[r]? = some (acc + startOf ls r) := by
  induction ls generalizing acc r with
  | nil => simp at h
  | cons l ls ih =>
    cases r with
    | zero => simp [startsFrom]
    | succ r =>
      simp only [startsFrom, List.getElem?_cons_succ, startOf_cons_succ]
      rw [ih (acc + l) r (Nat.lt_of_succ_lt_succ h)]
      congr 1
      omega

@[simp] theorem length_startsFrom (ls : List Nat) (acc : Nat) : (startsFrom acc ls).length = ls.length := by
  induction ls generalizing acc with
  | nil => rfl
  | cons l ls ih => simp [startsFrom, ih]

/-- `starts` are the prefix sums of the lengths -/
theorem starts_getElem? (ls : List Nat) (r : Nat) (h : r < ls.length) :
    (starts ls)[r]? = some (startOf ls r) := by
  cases ls with
  | nil => simp at h
  | cons l ls =>
    simp only [starts]
    rw [startsFrom_getElem? _ _ _ h]
    simp

theorem setCell_map_length (rows : List (List α)) (r c : Nat) (x : α) :
    (setCell rows r c x).map List.length = rows.map List.length := by
  unfold setCell
  induction rows generalizing r with
  | nil => simp
  | cons row rows ih =>
    cases r with
    | zero => simp
    | succ r => simp [ih]

@[simp] theorem setCell_length (rows : List (List α)) (r c : Nat) (x : α) :
    (setCell rows r c x).length = rows.length := by
  simp [setCell]

/-- writing cell `(r, c)` of the rows = writing offset `start r + c` of the flat data -/
theorem flatten_setCell (rows : List (List α)) (r c : Nat) (x : α)
    (hr : r < rows.length) (hc : c < (rows[r]).length) :
    (setCell rows r c x).flatten = rows.flatten.set (startOf (rows.map List.length) r + c) x := by
  unfold setCell
  induction rows generalizing r with
  | nil => simp at hr
  | cons row rows ih =>
    cases r with
    | zero =>
      simp only [List.getElem_cons_zero] at hc
      simp only [List.modify_zero_cons, List.flatten_cons, List.map_cons, startOf_zero, Nat.zero_add]
      rw [List.set_append_left _ _ (by simpa using hc)]
    | succ r =>
      simp only [List.getElem_cons_succ] at hc
      simp only [List.modify_succ_cons, List.flatten_cons, List.map_cons, startOf_cons_succ]
      rw [ih r (Nat.lt_of_succ_lt_succ hr) hc]
      rw [List.set_append_right _ _ (by omega)]
      congr 2
      omega

theorem getElem?_setCell_length (rows : List (List α)) (r c : Nat) (x : α) (i : Nat) :
    ((setCell rows r c x)[i]?).map List.length = (rows[i]?).map List.length := by
  rw [← List.getElem?_map, ← List.getElem?_map, setCell_map_length]

/-- every target addresses an existing cell -/
def ValidTargets (rows : List (List α)) (tg : List (Nat × Nat)) : Prop :=
  ∀ p ∈ tg, ∃ row, rows[p.1]? = some row ∧ p.2 < row.length

theorem validTargets_setCell (rows : List (List α)) (tg : List (Nat × Nat)) (r c : Nat) (x : α)
    (h : ValidTargets rows tg) : ValidTargets (setCell rows r c x) tg := by
  intro p hp
  obtain ⟨row, h1, h2⟩ := h p hp
  have := getElem?_setCell_length rows r c x p.1
  rw [h1] at this
  cases hq : (setCell rows r c x)[p.1]? with
  | none => rw [hq] at this; cases this
  | some row' =>
    rw [hq] at this
    exact ⟨row', rfl, Nat.lt_of_lt_of_eq h2 (Option.some.inj this).symm⟩

def flatOf (ls : List Nat) (p : Nat × Nat) : Nat := startOf ls p.1 + p.2

theorem getElem?_flatten_flatOf (rows : List (List α)) (p : Nat × Nat) (row : List α)
    (h1 : rows[p.1]? = some row) (h2 : p.2 < row.length) :
    rows.flatten[flatOf (rows.map List.length) p]? = row[p.2]? := by
  obtain ⟨r, c⟩ := p
  simp only [flatOf] at *
  induction rows generalizing r with
  | nil => simp at h1
  | cons x xs ih =>
    cases r with
    | zero =>
      simp only [List.getElem?_cons_zero, Option.some.injEq] at h1
      subst h1
      simp only [List.map_cons, startOf_zero, Nat.zero_add, List.flatten_cons]
      rw [List.getElem?_append_left h2]
    | succ r =>
      simp only [List.getElem?_cons_succ] at h1
      simp only [List.map_cons, startOf_cons_succ, List.flatten_cons]
      rw [List.getElem?_append_right (by omega)]
      have := ih r h1
      rw [← this]
      congr 1
      omega

theorem scatterRows_map_length (rows : List (List α)) (tg : List (Nat × Nat)) (vals : List α) :
    (scatterRows rows tg vals).map List.length = rows.map List.length := by
  induction tg generalizing rows vals with
  | nil => cases vals <;> rfl
  | cons p ps ih =>
    cases vals with
    | nil => rfl
    | cons x xs =>
      simp only [scatterRows]
      rw [ih, setCell_map_length]

/-- fancy assignment on the flat data = the same assignments cell by cell on the rows -/
theorem flatten_scatterRows (rows : List (List α)) (tg : List (Nat × Nat)) (vals : List α)
    (h : ValidTargets rows tg) :
    (scatterRows rows tg vals).flatten =
      scatter rows.flatten (tg.map (flatOf (rows.map List.length))) vals := by
  induction tg generalizing rows vals with
  | nil => cases vals <;> rfl
  | cons p ps ih =>
    cases vals with
    | nil => rfl
    | cons x xs =>
      obtain ⟨row, h1, h2⟩ := h p List.mem_cons_self
      obtain ⟨hr, hrow⟩ := List.getElem?_eq_some_iff.mp h1
      simp only [scatterRows, List.map_cons, scatter]
      have hv : ValidTargets (setCell rows p.1 p.2 x) ps :=
        validTargets_setCell rows ps p.1 p.2 x (fun q hq => h q (List.mem_cons_of_mem _ hq))
      rw [ih (setCell rows p.1 p.2 x) xs hv, setCell_map_length]
      rw [flatten_setCell rows p.1 p.2 x hr (by rw [hrow]; exact h2)]
      rfl

theorem length_scatter (d : List α) (is : List Nat) (xs : List α) : (scatter d is xs).length = d.length := by
  induction is generalizing d xs with
  | nil => cases xs <;> rfl
  | cons i is ih =>
    cases xs with
    | nil => rfl
    | cons x xs => exact (ih _ _).trans (List.length_set ..)

/-- the two stored representations describe the same content -/
def Coherent (s : State α) : Prop :=
  s.lengths.sum = s.data.length ∧ s.array = partition s.lengths s.data

theorem Coherent.data_eq {s : State α} (h : Coherent s) : s.data = s.array.flatten := by
  rw [h.2, flatten_partition _ _ h.1]

theorem Coherent.lengths_eq {s : State α} (h : Coherent s) : s.lengths = s.array.map List.length := by
  rw [h.2, map_length_partition _ _ h.1]

theorem coherent_of_rows (rows : List (List α)) (np obj : Bool) :
    Coherent (⟨rows.flatten, rows.map List.length, rows, np, obj⟩ : State α) :=
  ⟨sum_map_length rows, (partition_flatten rows).symm⟩

theorem coherent_iff (s : State α) :
    Coherent s ↔ (s.data = s.array.flatten ∧ s.lengths = s.array.map List.length) := by
  constructor
  · intro h
    exact ⟨h.data_eq, h.lengths_eq⟩
  · intro ⟨h1, h2⟩
    refine ⟨?_, ?_⟩
    · rw [h1, h2]; exact sum_map_length _
    · rw [h1, h2]; exact (partition_flatten _).symm

/-- writing one cell in both representations (the row is a view of `_data`) -/
theorem coherent_setCell {s : State α} (h : Coherent s) {r c : Nat} (x : α) (hr : r < s.array.length)
    (hc : c < (s.array[r]).length) :
    Coherent { s with array := setCell s.array r c x, data := s.data.set (startOf s.lengths r + c) x } := by
  rw [coherent_iff]
  exact ⟨by rw [flatten_setCell s.array r c x hr hc, ← h.data_eq, ← h.lengths_eq],
    by rw [setCell_map_length]; exact h.lengths_eq⟩

theorem partitionList_of_sum (d : List α) (ls : List Nat) (h : ls.sum = d.length) :
    partitionList d ls = .ok (partition ls d) := by
  simp [partitionList, h]

theorem initRows_eq (rows : List (List α)) (obj : Bool) (h : rows ≠ []) :
    initRows rows obj = .ok ⟨rows.flatten, rows.map List.length, rows, false, obj⟩ := by
  cases rows with
  | nil => exact absurd rfl h
  | cons r rs =>
    simp only [initRows]
    rw [partitionList_of_sum _ _ (sum_map_length (r :: rs)), partition_flatten]

theorem rebuild_eq (d : List α) (ls : List Nat) (obj : Bool) (h : ls.sum = d.length) :
    rebuild d ls obj = .ok ⟨d, ls, partition ls d, false, obj⟩ := by
  simp only [rebuild]
  rw [partitionList_of_sum _ _ h]

end Ens.RaggedW
