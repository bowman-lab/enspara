import Proofs.C06Index
/-!
`step` refines `specStep` operation by operation (C06), and keeps the two representations coherent.
-/
namespace Ens.RaggedW
variable {α β γ : Type}

/-- the flat positions computed by the code's index arithmetic -/
def flatIdx (cfg : Cfg) (ls : List Nat) (r : Sel) (c : CSel) : Except Err (List Nat) :=
  bindE (iis2d cfg ls r c) (convertFrom2d ls)

/-- the flat positions of the cells the list-of-rows model addresses -/
def specFlat (rows : Rows α) (r : Sel) (c : CSel) : Except Err (List Nat) :=
  mapOk (List.map (flatOf (rows.map List.length))) (specTargets rows r c)

/-- the code's 2-d index arithmetic addresses exactly the cells `rows[r][c]` (same error otherwise) -/
def IdxAgree (cfg : Cfg) (s : State α) (r : Sel) (c : CSel) : Prop :=
  flatIdx cfg s.lengths r c = specFlat s.array r c

/-- `where(mask)` + conversion addresses exactly the `True` cells, row-major -/
def MaskAgree (cfg : Cfg) (s : State α) (mask : List (List Bool)) : Prop :=
  mask.map List.length = s.lengths ∧
  convertFrom2d s.lengths (whereMask mask) = .ok ((specMaskTargets mask).map (flatOf s.lengths)) ∧
  ValidTargets s.array (specMaskTargets mask) ∧
  (cfg.readsFix = true ∨ (whereMask mask).isEmpty = false)

def ValOK (cfg : Cfg) (v : Val α) : Prop := cfg.rowViewsFix = true ∨ v.isEmptyContainer = false

/-- numpy accepts `block[sel] = value` and does what a row-by-row assignment would do -/
def BlockOK (cfg : Cfg) (s : State α) (sel : Sel) (vs : List (List α)) (form : Form) : Prop :=
  match selCount s.array.length sel with
  | .ok m => blockAssign (s.kind cfg == .typedBlock) form m (s.lengths.headD 0) vs = .ok
  | .error _ => True

/-- The region in which the code (variant `cfg`) is claimed to behave like the list of rows.
For `Cfg.current` every clause holds on a coherent state under the property's own preconditions `C06.Valid`
(`C06.inScope_repaired` in `Props/C06.lean`). -/
def InScope (cfg : Cfg) (s : State α) : Op α → Prop
  | .setElem _ _ _ => True
  | .viewWrite _ _ _ => True
  | .setRow _ v => cfg.rowViewsFix = true ∨ s.kind cfg = .ragged ∨ v.length = s.lengths.headD 0
  | .setRows sel vs form =>
      cfg.rowViewsFix = true ∨ s.kind cfg = .ragged ∨ BlockOK cfg s sel vs form
  | .setIntSlice _ _ _ => True
  | .set2d r c v => IdxAgree cfg s r c ∧ ValOK cfg v
  | .setPaired _ _ v => ValOK cfg v
  | .setMask mask v => MaskAgree cfg s mask ∧ ValOK cfg v
  | .append vs _ => (cfg.appendEmptyFix = true ∨ s.data ≠ []) ∧ (cfg.appendFix = true ∨ vs ≠ [])
  | .appendFlat _ => cfg.appendFix = true ∧ (cfg.appendEmptyFix = true ∨ s.data ≠ [])
  | .iop _ => s.data ≠ [] ∨ cfg.readsFix = true
  | .binop _ => s.data ≠ [] ∨ cfg.readsFix = true
  | .iop2 _ o => o.map List.length = s.lengths ∧ (s.data ≠ [] ∨ cfg.readsFix = true)
  | .binop2 _ o => o.map List.length = s.lengths ∧ (s.data ≠ [] ∨ cfg.readsFix = true)
  | .iopAt r c _ => IdxAgree cfg s r c ∧ (cfg.rowViewsFix = true ∨ noRows cfg s.lengths.length r = false)
  | .copyCtor viaFlat _ => viaFlat = false ∨ s.data ≠ [] ∨ cfg.readsFix = true
  | .npLeft _ _ => cfg.priorityFix = true ∧ (s.data ≠ [] ∨ cfg.readsFix = true)

/-- the one writer that leaves the two representations out of step -/
def StaleWrite (cfg : Cfg) (s : State α) : Op α → Prop
  | .viewWrite _ _ _ => s.kind cfg = .objBlock
  | _ => False

/-- invariant of a usable object -/
def Inv (s : State α) : Prop := Coherent s ∧ s.array ≠ []

theorem length_setMany (rows : List (List α)) (idx : List Nat) (vs : List (List α)) :
    (setMany rows idx vs).length = rows.length := by
  induction idx generalizing rows vs with
  | nil => cases vs <;> rfl
  | cons i is ih =>
    cases vs with
    | nil => rfl
    | cons v vs => exact (ih _ _).trans (List.length_set ..)

theorem ne_nil_of_length_eq {l : List β} {l' : List γ} (h : l.length = l'.length) (hne : l' ≠ []) : l ≠ [] := by
  intro hl
  subst hl
  cases l' with
  | nil => exact hne rfl
  | cons x xs => cases h

theorem Inv.lengths_ne {s : State α} (h : Inv s) : s.lengths ≠ [] :=
  ne_nil_of_length_eq (l' := s.array) (by rw [h.1.lengths_eq, List.length_map]) h.2

theorem Inv.of_lengths {s s' : State α} (h : Inv s) (hc : Coherent s') (hl : s'.lengths = s.lengths) :
    Inv s' :=
  ⟨hc, ne_nil_of_length_eq (l' := s.lengths) (by rw [hc.2, length_partition, hl]) h.lengths_ne⟩

/-- `self.__init__(rows)` rebuilds exactly `rows` -/
theorem initRows_spec (rows : List (List α)) (obj : Bool) (h : rows ≠ []) :
    ∃ s', initRows rows obj = .ok s' ∧ s'.array = rows ∧ Inv s' :=
  ⟨_, initRows_eq rows obj h, rfl, coherent_of_rows rows false obj, h⟩

theorem Inv.initRows {s : State α} (h : Inv s) (rows' : Rows α) (obj : Bool)
    (hl : rows'.length = s.array.length) :
    ∃ s', initRows rows' obj = .ok s' ∧ s'.array = rows' ∧ Inv s' :=
  initRows_spec rows' obj (ne_nil_of_length_eq hl h.2)

theorem initFlat_spec (cfg : Cfg) (d : List α) (ls : List Nat) (np obj : Bool) (hne : ls ≠ [])
    (hsum : ls.sum = d.length) (hd : d ≠ [] ∨ cfg.readsFix = true) :
    ∃ s', initFlat cfg d ls np obj = .ok s' ∧ s'.array = partition ls d ∧ s'.data = d ∧
      s'.lengths = ls ∧ Inv s' :=
  ⟨_, initFlat_eq cfg d ls np obj hne hsum hd, rfl, rfl, rfl, ⟨hsum, rfl⟩,
    ne_nil_of_length_eq (l' := ls) (length_partition ls d) hne⟩

theorem mapOp_spec (cfg : Cfg) {s : State α} (h : Inv s) (f : α → β)
    (hd : s.data ≠ [] ∨ cfg.readsFix = true) :
    ∃ b, mapOp cfg f s = .ok b ∧ b.array = s.array.map (List.map f) ∧ Inv b ∧
      b.lengths = s.lengths ∧ b.data = s.data.map f := by
  obtain ⟨b, h1, h2, h3, h4, h5⟩ := initFlat_spec cfg (s.data.map f) s.lengths true s.objDtype
    h.lengths_ne (by rw [List.length_map]; exact h.1.1) (hd.imp_left (mt List.map_eq_nil_iff.mp))
  exact ⟨b, h1, by rw [h2, partition_map, ← h.1.2], h5, h4, h3⟩

theorem zipOp_spec (cfg : Cfg) {s : State α} (h : Inv s) (g : α → β → γ) (o : List (List β))
    (ho : o.map List.length = s.lengths) (hd : s.data ≠ [] ∨ cfg.readsFix = true) :
    ∃ b, zipOp cfg g s o.flatten = .ok b ∧ b.array = List.zipWith (List.zipWith g) s.array o ∧ Inv b ∧
      b.lengths = s.lengths ∧ b.data = List.zipWith g s.data o.flatten := by
  have hlen : o.flatten.length = s.data.length := by
    rw [← sum_map_length, ho]; exact h.1.1
  have hl2 : (List.zipWith g s.data o.flatten).length = s.data.length := by
    rw [List.length_zipWith, hlen, Nat.min_self]
  obtain ⟨b, h1, h2, h3, h4, h5⟩ := initFlat_spec cfg (List.zipWith g s.data o.flatten) s.lengths true
    s.objDtype h.lengths_ne (hl2 ▸ h.1.1)
    (hd.imp_left fun hne hz => hne (List.eq_nil_of_length_eq_zero (hl2.symm.trans (congrArg List.length hz))))
  refine ⟨b, ?_, ?_, h5, h4, h3⟩
  · unfold zipOp
    rw [if_pos hlen]
    exact h1
  · rw [h2, partition_zipWith, ← h.1.2, ← ho, partition_flatten]

/-- `res` (a result of `step` on `s`) stands for `spec` (the result of `specStep`); `stale` marks the one
write after which the new state need not be usable -/
inductive Sim (s : State α) (stale : Prop) :
    Except Err (State α × Option (State α)) → Except Err (Rows α × Option (Rows α)) → Prop
  | error (e : Err) : Sim s stale (.error e) (.error e)
  | write {s' : State α} {rows' : Rows α} (harr : s'.array = rows') (hinv : ¬ stale → Inv s') :
      Sim s stale (.ok (s', none)) (.ok (rows', none))
  | value {b : State α} {rows' : Rows α} (harr : b.array = rows') (hinv : Inv b) :
      Sim s stale (.ok (s, some b)) (.ok (s.array, some rows'))

theorem Sim.absR_eq {s : State α} {stale : Prop} {res : Except Err (State α × Option (State α))}
    {spec : Except Err (Rows α × Option (Rows α))} (h : Sim s stale res spec) : absR res = spec := by
  cases h with
  | error e => rfl
  | write harr _ => subst harr; rfl
  | value harr _ => subst harr; rfl

theorem Sim.inv {s s' : State α} {stale : Prop} {res : Except Err (State α × Option (State α))}
    {spec : Except Err (Rows α × Option (Rows α))} {o : Option (State α)} (h : Sim s stale res spec)
    (hs : Inv s) (hres : res = .ok (s', o)) : (¬ stale → Inv s') ∧ ∀ b, o = some b → Inv b := by
  cases h with
  | error e => cases hres
  | write _ hinv => cases hres; exact ⟨hinv, nofun⟩
  | value _ hinv => cases hres; exact ⟨fun _ => hs, fun b hb => by cases hb; exact hinv⟩

def StepOK (cfg : Cfg) (s : State α) (op : Op α) : Prop :=
  Sim s (StaleWrite cfg s op) (step cfg s op) (specStep s.array op)

theorem specScatter_single (rows : Rows α) (p : Nat × Nat) (x : α) :
    specScatter rows [p] (.scalar x) = .ok (setCell rows p.1 p.2 x) := rfl

theorem stepOK_of_scatter (cfg : Cfg) {s : State α} (h : Inv s) (op : Op α) (iis : List (Int × Int))
    (v : Val α) (specRes : Except Err (Rows α))
    (hstep : step cfg s op = (match scatterWrite cfg s iis v with
      | .error e => .error e
      | .ok s' => .ok (s', none)))
    (hspec : specStep s.array op = (match specRes with
      | .error e => .error e
      | .ok rows' => .ok (rows', none)))
    (href : arrR (scatterWrite cfg s iis v) = specRes)
    (hcoh : ∀ s', scatterWrite cfg s iis v = .ok s' → Coherent s' ∧ s'.lengths = s.lengths) :
    StepOK cfg s op := by
  unfold StepOK
  rw [hstep, hspec, ← href]
  cases hw : scatterWrite cfg s iis v with
  | error e => exact .error e
  | ok s1 =>
    obtain ⟨hc, hl⟩ := hcoh s1 hw
    exact .write rfl fun _ => h.of_lengths hc hl

theorem stepOK_setPaired (cfg : Cfg) {s : State α} (h : Inv s) (r c : List Int) (v : Val α)
    (hv : ValOK cfg v) : StepOK cfg s (.setPaired r c v) := by
  cases hp : pairedIis r c with
  | error e =>
    unfold StepOK
    simp only [step, specStep, hp]
    exact .error e
  | ok iis =>
    have hflat := convertFrom2d_eq s.array iis
    rw [← h.1.lengths_eq] at hflat
    obtain ⟨href, hcoh⟩ := scatterWrite_spec cfg h.1 iis _ hflat (fun _ => mapE_specCell_valid) v hv
    apply stepOK_of_scatter cfg h _ iis v _ ?_ ?_ href hcoh
    · simp only [step, hp]
      rfl
    · simp only [specStep, hp]
      cases mapE (specCell s.array) iis with
      | error e => rfl
      | ok tg => cases hsc : specScatter s.array tg v <;> simp only [bindE_ok, hsc]

/-- `a[i, j] = x` is the paired write `a[([i], [j])] = x` -/
theorem stepOK_setElem (cfg : Cfg) {s : State α} (h : Inv s) (i j : Int) (x : α) :
    StepOK cfg s (.setElem i j x) := by
  have h2 : StepOK cfg s (.setPaired [i] [j] (.scalar x)) := stepOK_setPaired cfg h _ _ _ (Or.inr rfl)
  have hspec : specStep s.array (.setPaired [i] [j] (.scalar x)) = specStep s.array (.setElem i j x) := by
    simp only [specStep, pairedIis, List.length_cons, List.length_nil, if_true, List.zip_cons_cons,
      List.zip_nil_right, mapE]
    cases specCell s.array (i, j) <;> rfl
  unfold StepOK at h2 ⊢
  rw [← hspec]
  exact h2

theorem stepOK_set2d (cfg : Cfg) {s : State α} (h : Inv s) (r : Sel) (c : CSel) (v : Val α)
    (hi : IdxAgree cfg s r c) (hv : ValOK cfg v) : StepOK cfg s (.set2d r c v) := by
  unfold IdxAgree flatIdx specFlat at hi
  rw [← h.1.lengths_eq] at hi
  cases hi2 : iis2d cfg s.lengths r c with
  | error e =>
    unfold StepOK
    rw [hi2] at hi
    cases hs : specTargets s.array r c with
    | ok tg => rw [hs] at hi; cases hi
    | error e' =>
      rw [hs] at hi
      cases hi
      simp only [step, specStep, hi2, hs]
      exact .error e
  | ok iis =>
    rw [hi2] at hi
    obtain ⟨href, hcoh⟩ := scatterWrite_spec cfg h.1 iis _ hi (fun _ => specTargets_valid) v hv
    apply stepOK_of_scatter cfg h _ iis v _ ?_ ?_ href hcoh
    · simp only [step, hi2]
      rfl
    · simp only [specStep]
      cases specTargets s.array r c with
      | error e => rfl
      | ok tg => cases hsc : specScatter s.array tg v <;> simp only [bindE_ok, hsc]

theorem stepOK_setMask (cfg : Cfg) {s : State α} (h : Inv s) (mask : List (List Bool)) (v : Val α)
    (hm : MaskAgree cfg s mask) (hv : ValOK cfg v) : StepOK cfg s (.setMask mask v) := by
  obtain ⟨hlen, hflat, hvalid, hne⟩ := hm
  obtain ⟨href, hcoh⟩ := scatterWrite_spec cfg h.1 (whereMask mask) (.ok (specMaskTargets mask)) hflat
    (fun tg htg => by cases htg; exact hvalid) v hv
  have hcond : ((whereMask mask).isEmpty && !cfg.readsFix) = false := by
    rcases hne with hne | hne <;> simp only [hne, Bool.not_true, Bool.and_false, Bool.false_and]
  apply stepOK_of_scatter cfg h _ (whereMask mask) v _ ?_ ?_ href hcoh
  · simp only [step, hcond, Bool.false_eq_true, if_false]
    rfl
  · have : mask.map List.length = s.array.map List.length := by rw [hlen, h.1.lengths_eq]
    simp only [specStep, this, if_true, bindE_ok]
    rfl

theorem gather_eq {s : State α} (hc : Coherent s) (tg : List (Nat × Nat)) (hv : ValidTargets s.array tg)
    (f : α → α) :
    mapE (gatherMap f s.data) (tg.map (flatOf s.lengths)) = mapE (specGatherMap f s.array) tg := by
  rw [mapE_map_arg]
  apply mapE_congr
  intro p hp
  obtain ⟨row, h1, h2⟩ := hv p hp
  have := getElem?_flatten_flatOf s.array p row h1 h2
  rw [← hc.data_eq, ← hc.lengths_eq] at this
  simp only [gatherMap, specGatherMap, this, specCellAt, h1, List.getElem?_eq_getElem h2]

theorem stepOK_iopAt (cfg : Cfg) {s : State α} (h : Inv s) (r : Sel) (c : CSel) (f : α → α)
    (hi : IdxAgree cfg s r c)
    (hn : cfg.rowViewsFix = true ∨ noRows cfg s.lengths.length r = false) :
    StepOK cfg s (.iopAt r c f) := by
  unfold IdxAgree flatIdx specFlat at hi
  rw [← h.1.lengths_eq] at hi
  unfold StepOK
  cases hs : specTargets s.array r c with
  | error e =>
    rw [hs] at hi
    cases hi2 : iis2d cfg s.lengths r c with
    | error e' =>
      rw [hi2] at hi
      cases hi
      simp only [step, specStep, hi2, hs]
      exact .error e
    | ok iis =>
      rw [hi2] at hi
      simp only [bindE_ok, mapOk_error] at hi
      simp only [step, specStep, hi2, hi, hs]
      exact .error e
  | ok tg =>
    rw [hs] at hi
    cases hi2 : iis2d cfg s.lengths r c with
    | error e' => rw [hi2] at hi; cases hi
    | ok iis =>
      rw [hi2] at hi
      simp only [bindE_ok, mapOk_ok] at hi
      have hval := specTargets_valid hs
      simp only [step, hi2, hi, specStep, hs, gather_eq h.1 tg hval f]
      cases hg : mapE (specGatherMap f s.array) tg with
      | error e => exact .error e
      | ok vals =>
        have hcond : (noRows cfg s.lengths.length r && !cfg.rowViewsFix) = false := by
          rcases hn with hn | hn <;> simp only [hn, Bool.not_true, Bool.and_false, Bool.false_and]
        obtain ⟨s', h1, h2, h3, h4⟩ := rebuild_scatter h.1 tg hval vals s.objDtype
        simp only [hcond, Bool.false_eq_true, if_false, h1]
        exact .write h2 fun _ => h.of_lengths h3 h4

theorem stepOK_viewWrite (cfg : Cfg) {s : State α} (h : Inv s) (i j : Int) (x : α) :
    StepOK cfg s (.viewWrite i j x) := by
  unfold StepOK
  dsimp only [step, specStep, specCell]
  cases h1 : normIdx s.array.length i with
  | error e => exact .error e
  | ok r =>
    dsimp only
    cases h2 : s.array[r]? with
    | none => exact .error _
    | some row =>
      dsimp only
      cases h3 : normIdx row.length j with
      | error e => exact .error e
      | ok c =>
        dsimp only
        obtain ⟨hr, hrow⟩ := List.getElem?_eq_some_iff.mp h2
        by_cases hk : (s.kind cfg == Kind.objBlock) = true
        · rw [if_pos hk]
          exact .write rfl fun hst => absurd (eq_of_beq hk) hst
        · rw [if_neg hk]
          exact .write rfl fun _ =>
            ⟨coherent_setCell h.1 x hr (hrow ▸ normIdx_lt h3),
              ne_nil_of_length_eq (l' := s.array) (List.length_modify ..) h.2⟩

theorem stepOK_setRow (cfg : Cfg) {s : State α} (h : Inv s) (i : Int) (v : List α)
    (hs : cfg.rowViewsFix = true ∨ s.kind cfg = .ragged ∨ v.length = s.lengths.headD 0) :
    StepOK cfg s (.setRow i v) := by
  unfold StepOK
  cases h1 : normIdx s.array.length i with
  | error e =>
    simp only [step, specStep, h1]
    exact .error e
  | ok r =>
    have hcond : (cfg.rowViewsFix || s.kind cfg == Kind.ragged || v.length == s.lengths.headD 0) = true := by
      rcases hs with hs | hs | hs <;> simp only [hs, beq_self_eq_true, Bool.or_true, Bool.true_or]
    obtain ⟨s', e1, e2, e3⟩ := h.initRows (s.array.set r v) (leak cfg s) (List.length_set ..)
    simp only [step, specStep, h1, hcond, if_true, e1]
    exact .write e2 fun _ => e3

theorem bcastRows_length {vs w : List (List α)} {m : Nat} (h : bcastRows vs m = .ok w) : w.length = m := by
  unfold bcastRows at h
  split at h
  · injection h with h; subst h; assumption
  · split at h
    · injection h with h; subst h; exact List.length_replicate
    · cases h

theorem bcastRows_error {vs : List (List α)} {m : Nat} {e : Err} (he : bcastRows vs m = .error e) :
    e = .valueError := by
  unfold bcastRows at he
  split at he
  · cases he
  · split at he
    · cases he
    · injection he with he; exact he.symm

theorem bcastRows_of_count (vs : List (List α)) (m : Nat) (h : vs.length = m ∨ vs.length = 1) :
    ∃ w, bcastRows vs m = .ok w := by
  unfold bcastRows
  by_cases h1 : vs.length = m
  · exact ⟨vs, if_pos h1⟩
  · rw [if_neg h1]
    match vs, h.resolve_left h1 with
    | [v], _ => exact ⟨_, rfl⟩

theorem ite_ne {p : Prop} [Decidable p] {a b x : β} (ha : a ≠ x) (hb : b ≠ x) :
    (if p then a else b) ≠ x := by
  split <;> assumption

/-- numpy accepts a block assignment only when it sees the value as a block with as many rows as are
selected, or one -/
theorem blockAssign_ok_count (typed : Bool) (form : Form) (m L : Nat) (vs : List (List α))
    (h : blockAssign typed form m L vs = .ok) : vs.length = m ∨ vs.length = 1 := by
  by_cases hk : vs.length = m ∨ vs.length = 1
  · exact hk
  · exfalso
    revert h
    unfold blockAssign
    simp only [if_neg hk]
    have hrow : (if typed = true then RowAssign.valueError
        else if vs.length = L ∨ vs.length = 1 then RowAssign.garbled else .valueError) ≠ .ok :=
      ite_ne nofun (ite_ne nofun nofun)
    refine ite_ne nofun ?_
    cases form
    · exact ite_ne nofun hrow
    · exact ite_ne nofun hrow
    · exact ite_ne nofun hrow
    · nofun

/-- in scope, the class computed by the code is `.ok` exactly when numpy accepts the row count -/
theorem rowClass_cases (cfg : Cfg) (s : State α) (form : Form) (m : Nat) (vs : List (List α))
    (hs : cfg.rowViewsFix = true ∨ s.kind cfg = .ragged ∨
      blockAssign (s.kind cfg == .typedBlock) form m (s.lengths.headD 0) vs = .ok) :
    (∃ w, bcastRows vs m = .ok w ∧ rowClass cfg s form m vs = .ok) ∨
      (bcastRows vs m = .error .valueError ∧ rowClass cfg s form m vs = .valueError) := by
  unfold rowClass
  by_cases hb : (cfg.rowViewsFix || s.kind cfg == Kind.ragged) = true
  · rw [if_pos hb]
    cases hbc : bcastRows vs m with
    | ok w => exact .inl ⟨w, rfl, rfl⟩
    | error e => cases bcastRows_error hbc; exact .inr ⟨rfl, rfl⟩
  · rw [if_neg hb]
    have hblock : blockAssign (s.kind cfg == Kind.typedBlock) form m (s.lengths.headD 0) vs = .ok := by
      rcases hs with hs | hs | hs
      · rw [hs] at hb; exact absurd rfl hb
      · rw [hs, Bool.or_comm] at hb; exact absurd rfl hb
      · exact hs
    obtain ⟨w, hw⟩ := bcastRows_of_count vs m (blockAssign_ok_count _ _ _ _ _ hblock)
    exact .inl ⟨w, hw, hblock⟩

theorem stepOK_setRows (cfg : Cfg) {s : State α} (h : Inv s) (sel : Sel) (vs : List (List α)) (form : Form)
    (hs : cfg.rowViewsFix = true ∨ s.kind cfg = .ragged ∨ BlockOK cfg s sel vs form) :
    StepOK cfg s (.setRows sel vs form) := by
  unfold StepOK
  dsimp only [step, specStep]
  cases hm : selCount s.array.length sel with
  | error e => exact .error e
  | ok m =>
    unfold BlockOK at hs
    rw [hm] at hs
    dsimp only
    rcases rowClass_cases cfg s form m vs hs with ⟨w, hw, hc⟩ | ⟨he, hc⟩
    · rw [hw, hc]
      cases hsel : rowSel s.array.length sel with
      | error e => exact .error e
      | ok idx =>
        obtain ⟨s', e1, e2, e3⟩ := h.initRows (setMany s.array idx w)
          (leak cfg s || (leakVal cfg form vs && s.kind cfg != .typedBlock)) (length_setMany ..)
        dsimp only [setRowsWith]
        rw [e1]
        exact .write e2 fun _ => e3
    · rw [he, hc]
      exact .error _

theorem stepOK_setIntSlice (cfg : Cfg) {s : State α} (h : Inv s) (i : Int) (sl : PySlice) (v : Val α) :
    StepOK cfg s (.setIntSlice i sl v) := by
  unfold StepOK
  dsimp only [step, specStep]
  cases h1 : normIdx s.array.length i with
  | error e => exact .error e
  | ok r =>
    dsimp only
    cases h2 : s.array[r]? with
    | none => exact .error _
    | some row =>
      dsimp only
      cases h3 : pyIndices row.length sl with
      | error e => exact .error e
      | ok cols =>
        dsimp only
        have hinit := fun vals => h.initRows (s.array.set r (scatter row cols vals)) (leak cfg s)
          (List.length_set ..)
        cases v with
        | nested xss => exact .error _
        | scalar x =>
          obtain ⟨s', e1, e2, e3⟩ := hinit (List.replicate cols.length x)
          simp only [specVals, e1]
          exact .write e2 fun _ => e3
        | flat xs =>
          simp only [specVals]
          cases hb : bcast xs cols.length with
          | error e => exact .error e
          | ok vals =>
            obtain ⟨s', e1, e2, e3⟩ := hinit vals
            simp only [e1]
            exact .write e2 fun _ => e3

theorem rebuild_append {s : State α} (h : Inv s) (vs : Rows α) (obj : Bool) :
    ∃ s', rebuild (s.data ++ vs.flatten) (s.lengths ++ vs.map List.length) obj = .ok s' ∧
      s'.array = s.array ++ vs ∧ Inv s' := by
  have hsum : (s.lengths ++ vs.map List.length).sum = (s.data ++ vs.flatten).length := by
    rw [List.sum_append, List.length_append, h.1.1, sum_map_length]
  have harr : partition (s.lengths ++ vs.map List.length) (s.data ++ vs.flatten) = s.array ++ vs := by
    rw [partition_append _ _ _ _ h.1.1, ← h.1.2, partition_flatten]
  refine ⟨_, rebuild_eq _ _ obj hsum, harr, ⟨hsum, rfl⟩, ?_⟩
  show partition (s.lengths ++ vs.map List.length) (s.data ++ vs.flatten) ≠ []
  rw [harr]
  exact fun hc => h.2 (List.append_eq_nil_iff.mp hc).1

theorem blankTest_false (cfg : Cfg) {s : State α} (h : Inv s)
    (hd : cfg.appendEmptyFix = true ∨ s.data ≠ []) : blankTest cfg s = false := by
  unfold blankTest
  by_cases hf : cfg.appendEmptyFix = true
  · rw [if_pos hf]
    exact List.isEmpty_eq_false_iff.mpr h.lengths_ne
  · rw [if_neg hf]
    exact List.isEmpty_eq_false_iff.mpr (hd.resolve_left hf)

theorem stepOK_append (cfg : Cfg) {s : State α} (h : Inv s) (vs : Rows α) (form : Form)
    (hd : cfg.appendEmptyFix = true ∨ s.data ≠ []) (hv : cfg.appendFix = true ∨ vs ≠ []) :
    StepOK cfg s (.append vs form) := by
  unfold StepOK
  have hb := blankTest_false cfg h hd
  cases vs with
  | nil =>
    have hv := hv.resolve_right (fun hne => hne rfl)
    simp only [step, hb, Bool.false_eq_true, if_false, specStep, hv, if_true]
    exact .error _
  | cons v vs =>
    obtain ⟨s', h1, h2, h3⟩ := rebuild_append h (v :: vs) (s.objDtype || leakVal cfg form (v :: vs))
    simp only [step, hb, Bool.false_eq_true, if_false, h1, specStep]
    exact .write h2 fun _ => h3

theorem stepOK_appendFlat (cfg : Cfg) {s : State α} (h : Inv s) (v : List α)
    (hf : cfg.appendFix = true) (hd : cfg.appendEmptyFix = true ∨ s.data ≠ []) :
    StepOK cfg s (.appendFlat v) := by
  unfold StepOK
  have hb := blankTest_false cfg h hd
  cases v with
  | nil =>
    simp only [step, hb, Bool.false_eq_true, if_false, specStep, hf, if_true]
    exact .error _
  | cons x xs =>
    obtain ⟨s', h1, h2, h3⟩ := rebuild_append h [x :: xs] s.objDtype
    simp only [List.flatten_cons, List.flatten_nil, List.append_nil, List.map_cons, List.map_nil] at h1
    simp only [step, hb, Bool.false_eq_true, if_false, hf, if_true, h1, specStep]
    exact .write h2 fun _ => h3

theorem stepOK_mapOp (cfg : Cfg) {s : State α} (h : Inv s) (f : α → α)
    (hd : s.data ≠ [] ∨ cfg.readsFix = true) :
    StepOK cfg s (.iop f) ∧ StepOK cfg s (.binop f) ∧
      (cfg.priorityFix = true → ∀ rebind, StepOK cfg s (.npLeft f rebind)) := by
  obtain ⟨b, h1, h2, h3, _⟩ := mapOp_spec cfg h f hd
  unfold StepOK
  refine ⟨?_, ?_, fun hp rebind => ?_⟩
  · simp only [step, h1, specStep]
    exact .write h2 fun _ => h3
  · rw [step_binop, specStep_binop, h1]
    exact .value h2 h3
  · simp only [step, npLeftStep, hp, if_true, h1, specStep]
    cases rebind with
    | true => exact .write h2 fun _ => h3
    | false => exact .value h2 h3

theorem stepOK_zipOp (cfg : Cfg) {s : State α} (h : Inv s) (g : α → α → α) (o : Rows α)
    (ho : o.map List.length = s.lengths) (hd : s.data ≠ [] ∨ cfg.readsFix = true) :
    StepOK cfg s (.iop2 g o) ∧ StepOK cfg s (.binop2 g o) := by
  obtain ⟨b, h1, h2, h3, _⟩ := zipOp_spec cfg h g o ho hd
  unfold StepOK
  constructor
  · simp only [step, h1, specStep, ho.trans h.1.lengths_eq, if_true]
    exact .write h2 fun _ => h3
  · simp only [step, h1, specStep, ho.trans h.1.lengths_eq, if_true]
    exact .value h2 h3

theorem stepOK_copyCtor (cfg : Cfg) {s : State α} (h : Inv s) (viaFlat np : Bool)
    (hd : viaFlat = false ∨ s.data ≠ [] ∨ cfg.readsFix = true) : StepOK cfg s (.copyCtor viaFlat np) := by
  unfold StepOK
  cases viaFlat with
  | false =>
    obtain ⟨s', h1, h2, h3⟩ := initRows_spec s.array false h.2
    simp only [step, Bool.false_eq_true, if_false, h1, specStep]
    exact .write h2 fun _ => h3
  | true =>
    obtain ⟨s', h1, h2, _, _, h3⟩ := initFlat_spec cfg s.data s.lengths np false h.lengths_ne h.1.1
      (hd.resolve_left nofun)
    simp only [step, if_true, h1, specStep]
    exact .write (h2.trans h.1.2.symm) fun _ => h3

theorem stepOK_of_inScope (cfg : Cfg) {s : State α} (h : Inv s) (op : Op α) (hs : InScope cfg s op) :
    StepOK cfg s op := by
  cases op with
  | setElem i j x => exact stepOK_setElem cfg h i j x
  | viewWrite i j x => exact stepOK_viewWrite cfg h i j x
  | setRow i v => exact stepOK_setRow cfg h i v hs
  | setRows sel vs form => exact stepOK_setRows cfg h sel vs form hs
  | setIntSlice i sl v => exact stepOK_setIntSlice cfg h i sl v
  | set2d r c v => exact stepOK_set2d cfg h r c v hs.1 hs.2
  | setPaired r c v => exact stepOK_setPaired cfg h r c v hs
  | setMask mask v => exact stepOK_setMask cfg h mask v hs.1 hs.2
  | append vs form => exact stepOK_append cfg h vs form hs.1 hs.2
  | appendFlat v => exact stepOK_appendFlat cfg h v hs.1 hs.2
  | iop f => exact (stepOK_mapOp cfg h f hs).1
  | iop2 g o => exact (stepOK_zipOp cfg h g o hs.1 hs.2).1
  | iopAt r c f => exact stepOK_iopAt cfg h r c f hs.1 hs.2
  | binop f => exact (stepOK_mapOp cfg h f hs).2.1
  | binop2 g o => exact (stepOK_zipOp cfg h g o hs.1 hs.2).2
  | copyCtor viaFlat np => exact stepOK_copyCtor cfg h viaFlat np hs
  | npLeft f rebind => exact (stepOK_mapOp cfg h f hs.2).2.2 hs.1 rebind

/-! ### decidability (for the concrete witnesses in `Props/C06.lean`) -/

instance {ε β : Type} [DecidableEq ε] [DecidableEq β] : DecidableEq (Except ε β)
  | .ok a, .ok b => if h : a = b then isTrue (by rw [h]) else isFalse (by intro hh; injection hh; contradiction)
  | .error a, .error b => if h : a = b then isTrue (by rw [h]) else isFalse (by intro hh; injection hh; contradiction)
  | .ok _, .error _ => isFalse (by intro hh; cases hh)
  | .error _, .ok _ => isFalse (by intro hh; cases hh)

instance [DecidableEq α] (s : State α) : Decidable (Coherent s) := by
  unfold Coherent; infer_instance

instance [DecidableEq α] (s : State α) : Decidable (Inv s) := by
  unfold Inv; infer_instance

def validB (rows : List (List α)) (tg : List (Nat × Nat)) : Bool :=
  tg.all fun p => match rows[p.1]? with
    | some row => decide (p.2 < row.length)
    | none => false

theorem validTargets_iff (rows : List (List α)) (tg : List (Nat × Nat)) :
    ValidTargets rows tg ↔ validB rows tg = true := by
  unfold validB
  rw [List.all_eq_true]
  constructor
  · intro h p hp
    obtain ⟨row, h1, h2⟩ := h p hp
    simp only [h1]; exact decide_eq_true h2
  · intro h p hp
    have := h p hp
    cases hr : rows[p.1]? with
    | none => rw [hr] at this; cases this
    | some row =>
      simp only [hr] at this
      exact ⟨row, rfl, of_decide_eq_true this⟩

instance (rows : List (List α)) (tg : List (Nat × Nat)) : Decidable (ValidTargets rows tg) :=
  decidable_of_iff _ (validTargets_iff rows tg).symm

instance [DecidableEq α] (cfg : Cfg) (s : State α) (r : Sel) (c : CSel) : Decidable (IdxAgree cfg s r c) := by
  unfold IdxAgree; infer_instance

instance (cfg : Cfg) (s : State α) (mask : List (List Bool)) : Decidable (MaskAgree cfg s mask) := by
  unfold MaskAgree; infer_instance

instance (cfg : Cfg) (v : Val α) : Decidable (ValOK cfg v) := by
  unfold ValOK; infer_instance

instance (cfg : Cfg) (s : State α) (sel : Sel) (vs : List (List α)) (form : Form) :
    Decidable (BlockOK cfg s sel vs form) := by
  unfold BlockOK; split <;> infer_instance

instance [DecidableEq α] (cfg : Cfg) (s : State α) (op : Op α) : Decidable (InScope cfg s op) := by
  cases op <;> dsimp only [InScope] <;> infer_instance

instance (cfg : Cfg) (s : State α) (op : Op α) : Decidable (StaleWrite cfg s op) := by
  cases op <;> dsimp only [StaleWrite] <;> infer_instance

end Ens.RaggedW
