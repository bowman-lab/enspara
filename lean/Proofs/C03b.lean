import Proofs.C03
import Mathlib.Algebra.BigOperators.Group.Finset.Basic
import Mathlib.Algebra.BigOperators.Intervals
/-! Pair lists over all rows, counting lemmas. -/
namespace Ens.Counts
open Ens

/-- all lagged pairs of all rows, in row order (the spec) -/
def specPairs (rows : List (List Int)) (lag : Nat) (sliding : Bool) : List (Int × Int) :=
  (rows.map fun r => lagPairs (dropPad r) lag (stepOf lag sliding)).flatten

theorem mapM_transitionsHelper (rows : List (List Int)) (lag : Nat) (sliding : Bool) (hlag : 1 ≤ lag) :
    rows.mapM (fun r => transitionsHelper (dropPad r) lag sliding)
      = Except.ok (rows.map fun r => lagPairs (dropPad r) lag (stepOf lag sliding)) := by
  induction rows with
  | nil => rfl
  | cons r rs ih =>
    rw [List.mapM_cons, ih, transitionsHelper_eq _ _ _ hlag]
    rfl

theorem allPairs_eq (rows : List (List Int)) (lag : Nat) (sliding : Bool) (hlag : 1 ≤ lag) :
    allPairs rows lag sliding = .ok (specPairs rows lag sliding) := by
  unfold allPairs
  rw [mapM_transitionsHelper rows lag sliding hlag]
  rfl

theorem specPairs_append (A B : List (List Int)) (lag : Nat) (sliding : Bool) :
    specPairs (A ++ B) lag sliding = specPairs A lag sliding ++ specPairs B lag sliding := by
  simp [specPairs]

theorem countPair_append (p q : List (Int × Int)) (i j : Int) :
    countPair (p ++ q) i j = countPair p i j + countPair q i j := by
  simp [countPair]

theorem countPair_perm {p q : List (Int × Int)} (h : p.Perm q) (i j : Int) :
    countPair p i j = countPair q i j := by
  unfold countPair
  exact (h.filter _).length_eq

theorem specPairs_perm {A B : List (List Int)} (h : A.Perm B) (lag : Nat) (sliding : Bool) :
    (specPairs A lag sliding).Perm (specPairs B lag sliding) := by
  unfold specPairs
  exact (h.map _).flatten

theorem dropPad_append_pad (r : List Int) (k : Nat) :
    dropPad (r ++ List.replicate k (-1)) = dropPad r := by
  unfold dropPad
  rw [List.filter_append]
  have : List.filter (fun x => decide (x ≠ -1)) (List.replicate k (-1 : Int)) = [] := by
    apply List.filter_eq_nil_iff.mpr
    intro a ha
    have := List.eq_of_mem_replicate ha
    simp [this]
  rw [this, List.append_nil]

theorem lagPairs_length (a : List Int) (lag s : Nat) : (lagPairs a lag s).length = nPairs a.length lag s := by
  rw [lagPairs, List.length_map, List.length_range]

theorem nPairs_one (L lag : Nat) : nPairs L lag 1 = L - lag := by
  rw [nPairs, Nat.add_sub_cancel, Nat.div_one]

theorem specPairs_length (rows : List (List Int)) (lag : Nat) (sliding : Bool) :
    (specPairs rows lag sliding).length
      = (rows.map fun r => nPairs (dropPad r).length lag (stepOf lag sliding)).sum := by
  unfold specPairs
  rw [List.length_flatten, List.map_map]
  congr 1
  apply List.map_congr_left
  intro r _
  simp [lagPairs_length]

/-- the last steps of `assigns_to_counts` once the state count `x` is settled -/
theorem countsTail_ok {ps : List (Int × Int)} {x : Except Err Nat} {c : CountMat}
    (h : (do
      let n ← x
      let ps ← (Except.ok ps : Except Err (List (Int × Int)))
      if ps.any (fun p => p.1 < 0 ∨ p.2 < 0 ∨ p.1 ≥ n ∨ p.2 ≥ n) then throw Err.valueError
      pure ({ n := n, entry := fun i j => countPair ps i j } : CountMat)) = .ok c) :
    x = .ok c.n ∧ (∀ p ∈ ps, ¬ (p.1 < 0 ∨ p.2 < 0 ∨ p.1 ≥ c.n ∨ p.2 ≥ c.n)) ∧
      c.entry = (fun i j : Nat => countPair ps i j) := by
  cases x with
  | error e => cases h
  | ok n =>
    simp only [bind, Except.bind, pure, Except.pure] at h
    split at h
    · cases h
    · rename_i ha
      cases h
      refine ⟨rfl, fun p hp hc => ha ?_, rfl⟩
      exact List.any_eq_true.mpr ⟨p, hp, decide_eq_true hc⟩

theorem assignsToCounts_ok {rows : List (List Int)} {lag : Nat} (hlag : 1 ≤ lag) {maxN : Option Nat}
    {sliding : Bool} {c : CountMat} (h : assignsToCounts rows (lag : Int) maxN sliding = .ok c) :
    (match maxN with
      | some n => c.n = n
      | none => ∃ m, maxState rows = some m ∧ c.n = (m + 1).toNat) ∧
    (∀ p ∈ specPairs rows lag sliding, ¬ (p.1 < 0 ∨ p.2 < 0 ∨ p.1 ≥ c.n ∨ p.2 ≥ c.n)) ∧
    c.entry = (fun i j : Nat => countPair (specPairs rows lag sliding) i j) := by
  have hl : ¬ ((lag : Int) < 1) := Int.not_lt.mpr (Int.ofNat_le.mpr hlag)
  simp only [assignsToCounts, if_neg hl, Int.toNat_natCast, allPairs_eq rows lag sliding hlag] at h
  by_cases he : rows.isEmpty = true
  · rw [if_pos he] at h; cases h
  · rw [if_neg he] at h
    cases maxN with
    | some n =>
      obtain ⟨hn, hp, hc⟩ := countsTail_ok h
      exact ⟨(Except.ok.inj hn).symm, hp, hc⟩
    | none =>
      simp only at h
      cases hm : maxState rows with
      | none => rw [hm] at h; cases h
      | some m =>
        rw [hm] at h
        simp only at h
        by_cases hneg : m + 1 < 0
        · rw [if_pos hneg] at h; cases h
        · rw [if_neg hneg] at h
          obtain ⟨hn, hp, hc⟩ := countsTail_ok h
          exact ⟨⟨m, rfl, (Except.ok.inj hn).symm⟩, hp, hc⟩

theorem countPair_cons (p : Int × Int) (ps : List (Int × Int)) (i j : Int) :
    countPair (p :: ps) i j = (if p.1 = i ∧ p.2 = j then 1 else 0) + countPair ps i j := by
  rw [countPair, countPair, List.filter_cons]
  by_cases hh : p.1 = i ∧ p.2 = j
  · rw [if_pos (decide_eq_true hh), if_pos hh, List.length_cons, Nat.add_comm]
  · rw [if_neg fun h => hh (of_decide_eq_true h), if_neg hh, Nat.zero_add]

open Finset in
theorem sum_countPair (ps : List (Int × Int)) (n : Nat)
    (h : ∀ p ∈ ps, 0 ≤ p.1 ∧ 0 ≤ p.2 ∧ p.1 < n ∧ p.2 < n) :
    ∑ i ∈ range n, ∑ j ∈ range n, countPair ps (i : Int) (j : Int) = ps.length := by
  induction ps with
  | nil => simp [countPair]
  | cons p ps ih =>
    obtain ⟨h1, h2, h1n, h2n⟩ := h p List.mem_cons_self
    obtain ⟨a, ha⟩ := Int.eq_ofNat_of_zero_le h1
    obtain ⟨b, hb⟩ := Int.eq_ofNat_of_zero_le h2
    -- `p` is counted in the cell `(a, b)` it names and in no other
    have hone : ∑ i ∈ range n, ∑ j ∈ range n, (if p.1 = (i:Int) ∧ p.2 = (j:Int) then 1 else 0) = 1 := by
      rw [ha, hb, Finset.sum_eq_single_of_mem a (Finset.mem_range.mpr (by omega)),
        Finset.sum_eq_single_of_mem b (Finset.mem_range.mpr (by omega))]
      · rw [if_pos ⟨rfl, rfl⟩]
      · intro j _ hj
        rw [if_neg fun h => hj (Int.ofNat_inj.mp h.2).symm]
      · intro i _ hi
        exact Finset.sum_eq_zero fun j _ => if_neg fun h => hi (Int.ofNat_inj.mp h.1).symm
    simp only [countPair_cons, Finset.sum_add_distrib, hone, ih fun q hq => h q (List.mem_cons_of_mem _ hq),
      List.length_cons]
    omega

end Ens.Counts
